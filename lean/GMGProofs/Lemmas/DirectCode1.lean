import GMGModel.DirectCode
import GMGProofs.Lemmas.DirectLemmas
/-!
# Code-level direct solver — a CSR container laid out row by row

`csrRows n m rs` is the container `DirectCode.assemble` builds from the list of stored rows `rs`
(values / column indices concatenated, `rowPtr` = prefix sums of the row lengths).  Its stored row `r` is `rs[r]`; with
pairwise distinct columns in `rs[r]` its dense row is `den rs[r]`.
-/
namespace DirectCode
open SparseLU
variable {K : Type} [_root_.Field K]

/-- the row-pointer fold of `assemble` -/
def ptrStep (acc : List Nat × Nat) (r : List (Nat × K)) : List Nat × Nat :=
  (acc.1 ++ [acc.2 + r.length], acc.2 + r.length)

def csrRows (n m : Nat) (rs : List (List (Nat × K))) : CSR K :=
  ⟨n, m, rs.flatMap (·.map (·.2)), rs.flatMap (·.map (·.1)), (rs.foldl ptrStep ([0], 0)).1⟩

omit [_root_.Field K] in
theorem ptr_fold (rs : List (List (Nat × K))) :
    rs.foldl ptrStep ([0], 0)
      = ((List.range (rs.length + 1)).map (blockStart (rs.getD · [])), blockStart (rs.getD · []) rs.length) := by
  induction rs using List.reverseRecOn with
  | nil => simp [blockStart]
  | append_singleton rs row ih =>
    have hold : ∀ r, r ≤ rs.length → blockStart ((rs ++ [row]).getD · []) r = blockStart (rs.getD · []) r :=
      fun r hr => blockStart_congr fun a ha => by
        rw [List.getD_eq_getElem?_getD, List.getD_eq_getElem?_getD, List.getElem?_append_left (by omega)]
    have hlast : blockStart ((rs ++ [row]).getD · []) (rs.length + 1)
        = blockStart (rs.getD · []) rs.length + row.length := by
      rw [blockStart_succ, hold _ le_rfl, List.getD_eq_getElem?_getD, List.getElem?_append_right le_rfl]; simp
    rw [List.foldl_append, ih]
    simp only [List.foldl_cons, List.foldl_nil, ptrStep, List.length_append, List.length_singleton]
    rw [List.range_succ (n := rs.length + 1), List.map_append, List.map_singleton, hlast]
    congr 2
    exact List.map_congr_left fun r hr => (hold r (by have := List.mem_range.mp hr; omega)).symm

omit [_root_.Field K] in
theorem rowPtr_csrRows (n m : Nat) (rs : List (List (Nat × K))) (r : Nat) (h : r ≤ rs.length) :
    (csrRows n m rs).rowPtr.getD r 0 = blockStart (rs.getD · []) r := by
  show (rs.foldl ptrStep ([0], 0)).1.getD r 0 = _
  rw [ptr_fold, SparseLU.getD_map_range, if_pos (by omega)]

omit [_root_.Field K] in
theorem flatMap_eq_range {γ : Type} (rs : List (List (Nat × K))) (g : List (Nat × K) → List γ) :
    rs.flatMap g = (List.range rs.length).flatMap fun a => g (rs.getD a []) := by
  conv_lhs => rw [eq_map_range_getD rs [], List.flatMap_map]

theorem rowEntries_csrRows (n m : Nat) (rs : List (List (Nat × K))) (r : Nat) (h : r < rs.length) :
    rowEntries (csrRows n m rs) r = rs.getD r [] :=
  rowEntries_of_layout _ (rs.getD · []) rs.length (flatMap_eq_range rs _) (flatMap_eq_range rs _)
    (rowPtr_csrRows n m rs) r h

theorem toDense_csrRows (n m : Nat) (rs : List (List (Nat × K))) (r : Nat) (h : r < rs.length)
    (hu : Uniq (rs.getD r [])) (k : Nat) :
    toDense (csrRows n m rs) r k = den (rs.getD r []) k := by
  unfold toDense
  rw [loadRow_eq_rowEntries _ _ (by rw [rowEntries_csrRows n m rs r h]; exact hu), rowEntries_csrRows n m rs r h]

end DirectCode
