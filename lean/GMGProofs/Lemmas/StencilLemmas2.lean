import GMGProofs.Lemmas.StencilLemmas1
/-!
# What one node sends in each of the six directions, and the received total

`sC sL sA sR sB sT o x i j` are the values node `(i, j)` subtracts from itself, from `(i-1, j)`,
from the antipode `(0, ja j)` (only `i = 0`, across the origin), from `(i+1, j)`, `(i, jm j)`, `(i, jp j)`;
they are `0` when the position class of `(i, j)` has no update in that direction.
`sum_giveNode`: a sum over the updates of a node is the sum over its six slots — the one place where the five
position classes of `giveNode` are told apart.  `recv_giveNode` is its instance seen from a target, `give_formula` the
resulting closed form of `give`.
-/
namespace Stencil
open Finset
variable {K : Type} [_root_.Field K]

section contrib
variable (o : Op K) (x : Field K)

theorem fillR_h1 (i j : Nat) (h1 h1' : K) : fillR o x i j h1 = fillR o x i j h1' := rfl

/-- sent to itself -/
def sC (i j : Nat) : K :=
  if (i = 0 ∧ o.bc = true) ∨ i + 1 = o.nr then x i j
  else if i = 0 then (fillC o x 0 j (Scalar.n 2 * o.r0) 0 (ja o j)).v
  else (fillC o x i j (o.h (i - 1)) (i - 1) j).v
/-- sent to `(i-1, j)` -/
def sL (i j : Nat) : K :=
  if i = 0 ∨ (i = 1 ∧ o.bc = true) then 0 else (fillL o x i j (o.h (i - 1))).v
/-- sent by `(0, j)` to its antipode `(0, ja j)` -/
def sA (j : Nat) : K :=
  if o.bc = true then 0 else (fillLAcross o x j (Scalar.n 2 * o.r0)).v
/-- sent to `(i+1, j)` -/
def sR (i j : Nat) : K :=
  if i + 2 < o.nr then (fillR o x i j (Scalar.n 0)).v else 0
/-- sent to `(i, jm j)` -/
def sB (i j : Nat) : K :=
  if i = 0 then (if o.bc = true then 0 else (fillBAcross o x j (Scalar.n 2 * o.r0)).v)
  else if i + 1 = o.nr then 0 else (fillB o x i j (o.h (i - 1))).v
/-- sent to `(i, jp j)` -/
def sT (i j : Nat) : K :=
  if i = 0 then (if o.bc = true then 0 else (fillTAcross o x j (Scalar.n 2 * o.r0)).v)
  else if i + 1 = o.nr then 0 else (fillT o x i j (o.h (i - 1))).v

theorem giveNode_int {i : Nat} (j : Nat) (h : 1 < i ∧ i + 2 < o.nr) :
    giveNode o x i j =
      [⟨i, j, (fillC o x i j (o.h (i - 1)) (i - 1) j).v⟩, ⟨i - 1, j, (fillL o x i j (o.h (i - 1))).v⟩,
       ⟨i + 1, j, (fillR o x i j (o.h (i - 1))).v⟩, ⟨i, jm o j, (fillB o x i j (o.h (i - 1))).v⟩,
       ⟨i, jp o j, (fillT o x i j (o.h (i - 1))).v⟩] := by
  unfold giveNode; rw [if_pos h]; rfl

theorem giveNode_zero_bc (j : Nat) (hbc : o.bc = true) :
    giveNode o x 0 j = [⟨0, j, x 0 j⟩, ⟨0 + 1, j, (fillR o x 0 j (Scalar.n 0)).v⟩] := by
  unfold giveNode; rw [if_neg (by omega), if_pos rfl, if_pos hbc]; rfl

theorem giveNode_zero_across (j : Nat) (hbc : ¬ o.bc = true) :
    giveNode o x 0 j =
      [⟨0, j, (fillC o x 0 j (Scalar.n 2 * o.r0) 0 (ja o j)).v⟩,
       ⟨0, ja o j, (fillLAcross o x j (Scalar.n 2 * o.r0)).v⟩,
       ⟨0 + 1, j, (fillR o x 0 j (Scalar.n 2 * o.r0)).v⟩,
       ⟨0, jm o j, (fillBAcross o x j (Scalar.n 2 * o.r0)).v⟩,
       ⟨0, jp o j, (fillTAcross o x j (Scalar.n 2 * o.r0)).v⟩] := by
  unfold giveNode; rw [if_neg (by omega), if_pos rfl, if_neg hbc]; rfl

theorem giveNode_one_bc (j : Nat) (hbc : o.bc = true) :
    giveNode o x 1 j =
      [⟨1, j, (fillC o x 1 j (o.h (1 - 1)) (1 - 1) j).v⟩,
       ⟨1 + 1, j, (fillR o x 1 j (o.h (1 - 1))).v⟩, ⟨1, jm o j, (fillB o x 1 j (o.h (1 - 1))).v⟩,
       ⟨1, jp o j, (fillT o x 1 j (o.h (1 - 1))).v⟩] := by
  unfold giveNode; rw [if_neg (by omega), if_neg (by omega), if_pos rfl]; simp only [hbc]; rfl

theorem giveNode_one_across (j : Nat) (hbc : ¬ o.bc = true) :
    giveNode o x 1 j =
      [⟨1, j, (fillC o x 1 j (o.h (1 - 1)) (1 - 1) j).v⟩, ⟨1 - 1, j, (fillL o x 1 j (o.h (1 - 1))).v⟩,
       ⟨1 + 1, j, (fillR o x 1 j (o.h (1 - 1))).v⟩, ⟨1, jm o j, (fillB o x 1 j (o.h (1 - 1))).v⟩,
       ⟨1, jp o j, (fillT o x 1 j (o.h (1 - 1))).v⟩] := by
  unfold giveNode; rw [if_neg (by omega), if_neg (by omega), if_pos rfl]; simp only [hbc]; rfl

theorem giveNode_penult {i : Nat} (j : Nat) (h1 : 1 < i) (h : i + 2 = o.nr) :
    giveNode o x i j =
      [⟨i, j, (fillC o x i j (o.h (i - 1)) (i - 1) j).v⟩, ⟨i - 1, j, (fillL o x i j (o.h (i - 1))).v⟩,
       ⟨i, jm o j, (fillB o x i j (o.h (i - 1))).v⟩, ⟨i, jp o j, (fillT o x i j (o.h (i - 1))).v⟩] := by
  unfold giveNode
  rw [if_neg (by omega), if_neg (by omega), if_neg (by omega), if_pos h]; rfl

theorem giveNode_last {i : Nat} (j : Nat) (h1 : 1 < i) (h : i + 1 = o.nr) :
    giveNode o x i j = [⟨i, j, x i j⟩, ⟨i - 1, j, (fillL o x i j (o.h (i - 1))).v⟩] := by
  unfold giveNode
  rw [if_neg (by omega), if_neg (by omega), if_neg (by omega), if_neg (by omega), if_pos h]; rfl

theorem sum_giveNode (φ : Nat → Nat → K → K) (hφ : ∀ a b, φ a b 0 = 0) (hnr : 4 ≤ o.nr) {i : Nat}
    (hi : i < o.nr) (j : Nat) :
    ((giveNode o x i j).map fun u => φ u.ti u.tj u.v).sum =
      φ i j (sC o x i j) + φ (i - 1) j (sL o x i j) + (if 0 = i then φ 0 (ja o j) (sA o x j) else 0)
      + φ (i + 1) j (sR o x i j) + φ i (jm o j) (sB o x i j) + φ i (jp o j) (sT o x i j) := by
  by_cases hint : 1 < i ∧ i + 2 < o.nr
  · rw [giveNode_int o x j hint, fillR_h1 o x i j _ (Scalar.n 0)]
    simp (disch := omega) only [sC, sL, sR, sB, sT, if_pos, if_neg, List.map_cons, List.map_nil, List.sum_cons,
      List.sum_nil]
    ring
  · rcases (by omega : i = 0 ∨ i = 1 ∨ (1 < i ∧ i + 2 = o.nr) ∨ (1 < i ∧ i + 1 = o.nr)) with
      rfl | rfl | ⟨h1, h2⟩ | ⟨h1, h2⟩
    · by_cases hbc : o.bc = true
      · rw [giveNode_zero_bc o x j hbc]
        simp (disch := omega) only [sC, sL, sA, sR, sB, sT, hbc, if_pos, if_neg, List.map_cons, List.map_nil,
          List.sum_cons, List.sum_nil, hφ, true_or, and_self, if_true]
        ring
      · rw [giveNode_zero_across o x j hbc, fillR_h1 o x 0 j _ (Scalar.n 0)]
        simp (disch := omega) only [sC, sL, sA, sR, sB, sT, hbc, if_pos, if_neg, List.map_cons, List.map_nil,
          List.sum_cons, List.sum_nil, hφ, Bool.false_eq_true, and_false, false_or, true_or, if_true, if_false]
        ring
    · by_cases hbc : o.bc = true
      · rw [giveNode_one_bc o x j hbc, fillR_h1 o x 1 j _ (Scalar.n 0)]
        simp (disch := omega) only [sC, sL, sR, sB, sT, hbc, if_pos, if_neg, List.map_cons, List.map_nil,
          List.sum_cons, List.sum_nil, hφ, and_self, or_true, if_true]
        ring
      · rw [giveNode_one_across o x j hbc, fillR_h1 o x 1 j _ (Scalar.n 0)]
        simp (disch := omega) only [sC, sL, sR, sB, sT, hbc, if_pos, if_neg, List.map_cons, List.map_nil,
          List.sum_cons, List.sum_nil, Bool.false_eq_true, and_false, or_false, false_or]
        ring
    · rw [giveNode_penult o x j h1 h2]
      simp (disch := omega) only [sC, sL, sR, sB, sT, if_pos, if_neg, List.map_cons, List.map_nil, List.sum_cons,
        List.sum_nil, hφ]
      ring
    · rw [giveNode_last o x j h1 h2]
      simp (disch := omega) only [sC, sL, sR, sB, sT, if_pos, if_neg, List.map_cons, List.map_nil, List.sum_cons,
        List.sum_nil, hφ]
      ring

theorem recv_giveNode (hnr : 4 ≤ o.nr) {i : Nat} (hi : i < o.nr) (j a b : Nat) :
    recv (giveNode o x i j) a b =
      (if a = i ∧ b = j then sC o x i j else 0)
      + (if a = i - 1 ∧ b = j then sL o x i j else 0)
      + (if 0 = i ∧ (a = 0 ∧ b = ja o j) then sA o x j else 0)
      + (if a = i + 1 ∧ b = j then sR o x i j else 0)
      + (if a = i ∧ b = jm o j then sB o x i j else 0)
      + (if a = i ∧ b = jp o j then sT o x i j else 0) := by
  rw [ite_and (P := 0 = i)]
  exact sum_giveNode o x (fun ti tj v => if a = ti ∧ b = tj then v else 0) (fun _ _ => ite_self _) hnr hi j

/-- closed form of the scatter result at a target `(a, b)`: one giver per direction -/
theorem give_formula (hnr : 4 ≤ o.nr) (heven : o.nt % 2 = 0) (f : Field K) (a b : Nat)
    (ha : a < o.nr) (hb : b < o.nt) :
    give o f x a b = f a b -
      (sC o x a b + (if a + 1 < o.nr then sL o x (a + 1) b else 0)
        + (if a = 0 then sA o x (ja o b) else 0)
        + (if 0 < a then sR o x (a - 1) b else 0)
        + sB o x a (jp o b) + sT o x a (jm o b)) := by
  rw [give_eq_sum, Finset.sum_congr rfl fun i hi => Finset.sum_congr rfl fun j _ =>
    recv_giveNode o x hnr (mem_range.mp hi) j a b]
  simp only [Finset.sum_add_distrib]
  rw [sum_row o.nr o.nt a (fun j => b = j) (sC o x),
    sum_row_pred o.nr o.nt a (fun j => b = j) (sL o x) (fun _ => if_pos (Or.inl rfl)),
    sum_row o.nr o.nt 0 (fun j => a = 0 ∧ b = ja o j) (fun _ j => sA o x j),
    sum_row_succ o.nr o.nt a (by omega) (fun j => b = j) (sR o x),
    sum_row o.nr o.nt a (fun j => b = jm o j) (sB o x),
    sum_row o.nr o.nt a (fun j => b = jp o j) (sT o x),
    if_pos (by omega : 0 < o.nr), sum_ite_self hb, sum_ite_self hb, sum_ite_self hb,
    sum_ite_jm o hb, sum_ite_jp o hb]
  simp only [if_pos ha, ite_and (P := a = 0)]
  rw [Finset.sum_ite_irrel, Finset.sum_const_zero, sum_ite_ja o heven hb]

end contrib
end Stencil
