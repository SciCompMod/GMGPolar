import GMGProofs.Lemmas.SchedBasic
/-!
# Race freedom of the four "give" (scatter) regions (C11)

Three circle sections and three radial sections, each with stride 3: a call on circle `i` scatters into rows `i - 1 … i + 1`,
a call on line `j` into the lines `j - 1 … j + 1` (cyclically) from row `nc` outwards and into the node `(nc - 1, j)`.
Two calls are independent when their circles differ by at least 3, or their lines by at least 3 cyclically, or when the
circle is at most `nc - 3` (circle section 2 runs concurrently with radial section 0).  The first iteration of a radial
section takes the `nt % 3` lines left over by the stride; the other iterations are shifted by `nt % 3`.

Everything is proved on the *generated* loops of `ResidualGive`; the three assemblies are relabellings of it.
-/
namespace Sched.Lem
open Sched

abbrev giveCircleCall (i : Int) : Call := ⟨.ResidualGive, .applyCircleSection, i, .none⟩
abbrev giveRadialCall (j : Int) : Call := ⟨.ResidualGive, .applyRadialSection, j, .none⟩

theorem giveCircle_giveCircle {s : Shape} {i i' : Int} (h : i + 3 ≤ i' ∨ i' + 3 ≤ i) (a : Arr) (r θ : Int) :
    ¬ conflictAt s (giveCircleCall i) (giveCircleCall i') a r θ := by
  footprints a

theorem giveCircle_giveRadial {s : Shape} {i : Int} (h : i + 3 ≤ s.nc) (j : Int) (a : Arr) (r θ : Int) :
    ¬ conflictAt s (giveCircleCall i) (giveRadialCall j) a r θ := by
  footprints a

theorem giveRadial_giveRadial {s : Shape} {j j' : Int} (hj : 0 ≤ j ∧ j < s.nt) (hj' : 0 ≤ j' ∧ j' < s.nt)
    (h : j + 3 ≤ j' ∧ j' + 3 ≤ j + s.nt ∨ j' + 3 ≤ j ∧ j + 3 ≤ j' + s.nt) (a : Arr) (r θ : Int) :
    ¬ conflictAt s (giveRadialCall j) (giveRadialCall j') a r θ := by
  footprints a

/-- circle section `c`: circles `nc - 1 - c, nc - 4 - c, …` -/
theorem giveCircle_calls {c : Nat} (hc : c < 3) {s : Shape} {t : Int} {k : Call}
    (ht : (Gen.residualGive.loops.getD c default).has s t) (hk : k ∈ (Gen.residualGive.loops.getD c default).body s t) :
    k = giveCircleCall (s.nc - t - 1) ∧ (c : Int) ≤ t ∧ t < s.nc ∧ (t - c) % 3 = 0 := by
  obtain rfl | rfl | rfl : c = 0 ∨ c = 1 ∨ c = 2 := by omega
  all_goals exact ⟨List.mem_singleton.mp hk, ht⟩

theorem giveRadial_has {c : Nat} (hc : c < 3) {s : Shape} {t : Int}
    (ht : (Gen.residualGive.loops.getD (c + 3) default).has s t) : (c : Int) ≤ t ∧ t < s.nt - s.nt % 3 ∧ (t - c) % 3 = 0 := by
  obtain rfl | rfl | rfl : c = 0 ∨ c = 1 ∨ c = 2 := by omega
  all_goals exact ht

/-- radial section `c`: iteration `t > c` calls line `t + nt % 3`; iteration `c` calls the lines from `c` (section 0) or from
    `c + 1` (section 1, if there is a remainder) up to `c + nt % 3` -/
theorem giveRadial_calls {c : Nat} (hc : c < 3) {s : Shape} {t : Int} {k : Call}
    (ht : (Gen.residualGive.loops.getD (c + 3) default).has s t)
    (hk : k ∈ (Gen.residualGive.loops.getD (c + 3) default).body s t) :
    ∃ j, k = giveRadialCall j ∧ (c : Int) ≤ j ∧ j ≤ t + s.nt % 3 ∧ ((c : Int) < t → j = t + s.nt % 3) := by
  have ht := giveRadial_has hc ht
  obtain rfl | rfl | rfl : c = 0 ∨ c = 1 ∨ c = 2 := by omega
  · simp only [Gen.residualGive, List.getD_cons_zero, List.getD_cons_succ, mem_ite', List.mem_singleton, List.mem_append,
      List.not_mem_nil, and_false, or_false] at hk
    obtain ⟨h, rfl⟩ | ⟨h, ⟨h', rfl⟩ | ⟨h', h'', rfl | rfl⟩⟩ := hk
    all_goals exact ⟨_, rfl, by omega⟩
  · simp only [Gen.residualGive, List.getD_cons_zero, List.getD_cons_succ, mem_ite', List.mem_singleton, List.mem_append,
      List.not_mem_nil, and_false, or_false] at hk
    obtain ⟨h, rfl⟩ | ⟨h, ⟨h', rfl⟩ | ⟨h', ⟨h'', rfl⟩ | ⟨h'', h''', rfl | rfl⟩⟩⟩ := hk
    all_goals exact ⟨_, rfl, by omega⟩
  · exact ⟨_, List.mem_singleton.mp hk, by omega⟩

theorem residualGive_circle_self {c : Nat} (hc : c < 3) (s : Shape) :
    LoopsRaceFree s (Gen.residualGive.loops.getD c default) (Gen.residualGive.loops.getD c default) (c == c) := by
  intro t t' ht ht' hne k hk k' hk' a r θ _ _ _ _
  obtain ⟨rfl, h⟩ := giveCircle_calls hc ht hk
  obtain ⟨rfl, h'⟩ := giveCircle_calls hc ht' hk'
  have := hne (beq_self_eq_true c)
  exact giveCircle_giveCircle (by omega) a r θ

theorem residualGive_2_3 (s : Shape) :
    LoopsRaceFree s (Gen.residualGive.loops.getD 2 default) (Gen.residualGive.loops.getD 3 default) (2 == 3) := by
  intro t t' ht ht' _ k hk k' hk' a r θ _ _ _ _
  obtain ⟨rfl, h⟩ := giveCircle_calls (c := 2) (by decide) ht hk
  obtain ⟨j, rfl, _⟩ := giveRadial_calls (c := 0) (by decide) ht' hk'
  exact giveCircle_giveRadial (by omega) j a r θ

/-- two iterations of one radial section: the earlier one calls lines up to `t + nt % 3`, the later one the line
    `t' + nt % 3 ≥ t + 3 + nt % 3`; the last line of the section is at most `nt - 3 + c`, the first at least `c` -/
theorem residualGive_radial_self {c : Nat} (hc : c < 3) (s : Shape) :
    LoopsRaceFree s (Gen.residualGive.loops.getD (c + 3) default) (Gen.residualGive.loops.getD (c + 3) default)
      (c + 3 == c + 3) := by
  intro t t' ht ht' hne k hk k' hk' a r θ _ _ _ _
  obtain ⟨j, rfl, h⟩ := giveRadial_calls hc ht hk
  obtain ⟨j', rfl, h'⟩ := giveRadial_calls hc ht' hk'
  have ht := giveRadial_has hc ht
  have ht' := giveRadial_has hc ht'
  have := hne (beq_self_eq_true _)
  exact giveRadial_giveRadial (by omega) (by omega) (by omega) a r θ

theorem residualGive_intervals : intervals Gen.residualGive.loops = [[0], [1], [2, 3], [4], [5]] := by decide

theorem residualGive_raceFree (s : Shape) : RegionRaceFree s Gen.residualGive := by
  apply regionRaceFree_of_intervals _ residualGive_intervals
  simp only [List.forall_mem_cons, List.not_mem_nil, false_imp_iff, implies_true, and_true, true_and, and_assoc, Nat.le_refl,
    forall_const, Nat.reduceLeDiff]
  exact ⟨residualGive_circle_self (c := 0) (by decide) s, residualGive_circle_self (c := 1) (by decide) s,
    residualGive_circle_self (c := 2) (by decide) s, residualGive_2_3 s, residualGive_radial_self (c := 0) (by decide) s,
    residualGive_radial_self (c := 1) (by decide) s, residualGive_radial_self (c := 2) (by decide) s⟩

theorem directGive_loops : Gen.residualGive.loops = Gen.directGive.loops.map (Loop.relabel canon) := by
  simp only [Gen.directGive, Gen.residualGive, List.map_cons, List.map_nil, Loop.relabel, apply_ite (List.map canon),
    List.map_append]
  rfl

theorem directGive_raceFree (s : Shape) : RegionRaceFree s Gen.directGive :=
  (residualGive_raceFree s).of_relabel (canon_covers s) directGive_loops

theorem smootherGiveAsc_loops : Gen.residualGive.loops = Gen.smootherGiveAsc.loops.map (Loop.relabel canon) := by
  simp only [Gen.smootherGiveAsc, Gen.residualGive, List.map_cons, List.map_nil, Loop.relabel, apply_ite (List.map canon),
    List.map_append]
  rfl

theorem smootherGiveAsc_raceFree (s : Shape) : RegionRaceFree s Gen.smootherGiveAsc :=
  (residualGive_raceFree s).of_relabel (canon_covers s) smootherGiveAsc_loops

theorem exSmootherGiveAsc_loops : Gen.residualGive.loops = Gen.exSmootherGiveAsc.loops.map (Loop.relabel canon) := by
  simp only [Gen.exSmootherGiveAsc, Gen.residualGive, List.map_cons, List.map_nil, Loop.relabel, apply_ite (List.map canon),
    List.map_append]
  rfl

theorem exSmootherGiveAsc_raceFree (s : Shape) : RegionRaceFree s Gen.exSmootherGiveAsc :=
  (residualGive_raceFree s).of_relabel (canon_covers s) exSmootherGiveAsc_loops

end Sched.Lem
