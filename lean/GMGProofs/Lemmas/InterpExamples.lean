import GMGProofs.Lemmas.InterpFMG
import GMGProofs.Lemmas.InterpAdjointEx
import Mathlib.Algebra.Order.Field.Rat
import Mathlib.Tactic.NormNum
/-!
# Concrete pairs over ℚ for the non-vacuity examples of C08 / C09
-/
namespace Interp

/-- non-uniform `7 × 8` fine grid: `hF i = i + 1` (radii `r i = i(i+1)/2`), `kF j = 1, 2, 1, 2, …`;
    coarse spacings are the sums of the two fine spacings they cover -/
def exPair : Pair ℚ where
  nrF := 7
  ntF := 8
  hF := fun i => (i : ℚ) + 1
  kF := fun j => if j % 2 = 0 then 1 else 2
  hC := fun I => 4 * (I : ℚ) + 3
  kC := fun _ => 3

/-- radii and angles of `exPair` -/
def exR (i : ℕ) : ℚ := (i : ℚ) * ((i : ℚ) + 1) / 2
def exTheta (j : ℕ) : ℚ := 3 * ((j / 2 : ℕ) : ℚ) + (if j % 2 = 0 then 0 else 1)

/-- uniform `5 × 6` fine grid (every fine node is the midpoint of its coarse neighbours) -/
def exPairU : Pair ℚ where
  nrF := 5
  ntF := 6
  hF := fun _ => 1
  kF := fun _ => 1
  hC := fun _ => 2
  kC := fun _ => 2

/-- the witness of `C08.not_linear_general`: fine radii `0, 1, 4, 7, …` (`hF 0 = 1`, `hF i = 3` otherwise) -/
def exPairBad : Pair ℚ where
  nrF := 3
  ntF := 4
  hF := fun i => if i = 0 then 1 else 3
  kF := fun _ => 1
  hC := fun I => if I = 0 then 4 else 6
  kC := fun _ => 2

def exRBad (i : ℕ) : ℚ := if i = 0 then 0 else 3 * (i : ℚ) - 2

theorem exPair_adm : Admissible exPair := ⟨by decide, by decide, by decide, by decide⟩
theorem exPairU_adm : Admissible exPairU := ⟨by decide, by decide, by decide, by decide⟩
theorem exPairBad_adm : Admissible exPairBad := ⟨by decide, by decide, by decide, by decide⟩

theorem exPair_pos : PosSpacing exPair := by
  refine ⟨fun i => ?_, fun j => ?_, fun I => ?_, fun J => ?_⟩
  · show (0 : ℚ) < (i : ℚ) + 1; positivity
  · show (0 : ℚ) < if j % 2 = 0 then 1 else 2; split_ifs <;> norm_num
  · show (0 : ℚ) < 4 * (I : ℚ) + 3; positivity
  · show (0 : ℚ) < 3; norm_num

theorem exPairU_pos : PosSpacing exPairU := by
  refine ⟨fun i => ?_, fun j => ?_, fun I => ?_, fun J => ?_⟩ <;> simp [exPairU]

theorem exPairBad_pos : PosSpacing exPairBad := by
  refine ⟨fun i => ?_, fun j => ?_, fun I => ?_, fun J => ?_⟩
  · show (0 : ℚ) < if i = 0 then 1 else 3; split_ifs <;> norm_num
  · show (0 : ℚ) < 1; norm_num
  · show (0 : ℚ) < if I = 0 then 4 else 6; split_ifs <;> norm_num
  · show (0 : ℚ) < 2; norm_num

theorem exR_step (i : ℕ) : exR (i + 1) = exR i + exPair.hF i := by
  simp only [exR, exPair]; push_cast; ring

theorem exPair_hC (I : ℕ) : exPair.hC I = exPair.hF (2 * I) + exPair.hF (2 * I + 1) := by
  simp only [exPair]; push_cast; ring

theorem exPair_kC (J : ℕ) : exPair.kC J = exPair.kF (2 * J) + exPair.kF (2 * J + 1) := by
  simp [exPair]; norm_num

theorem exTheta_step (j : ℕ) : exTheta (j + 1) = exTheta j + exPair.kF j := by
  rcases Nat.even_or_odd' j with ⟨t, rfl | rfl⟩
  · simp [exTheta, exPair]
  · have a1 : (2 * t + 1 + 1) / 2 = t + 1 := by omega
    have a2 : (2 * t + 1 + 1) % 2 = 0 := by omega
    simp [exTheta, exPair, a1, a2]; ring

theorem exRBad_step (i : ℕ) : exRBad (i + 1) = exRBad i + exPairBad.hF i := by
  rcases i with _ | i
  · norm_num [exRBad, exPairBad]
  · simp only [exRBad, exPairBad, Nat.add_eq_zero_iff, one_ne_zero, and_false, if_false]; push_cast; ring

theorem exPairBad_hC (I : ℕ) : exPairBad.hC I = exPairBad.hF (2 * I) + exPairBad.hF (2 * I + 1) := by
  rcases I with _ | I
  · norm_num [exPairBad]
  · have h1 : ¬ 2 * (I + 1) = 0 := by omega
    have h2 : ¬ 2 * (I + 1) + 1 = 0 := by omega
    have h3 : ¬ I + 1 = 0 := by omega
    simp only [exPairBad, h1, h2, h3, if_false]; norm_num

end Interp
