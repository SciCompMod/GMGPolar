import GMGModel.ExSmootherCode
import GMGProofs.Lemmas.SmootherCode3
import GMGProofs.Lemmas.SmootherLemmas
/-!
# The four-phase sweep over a set of frozen nodes

`SmootherCode.sweep` and `ExSmootherCode.sweep` are the same skeleton `sweepWith` around different line solves.  A node
predicate `fr` marks the nodes a line update must not touch (none for the plain smoother, the coarse nodes for the
extrapolated one).  `sweepWith_spec`: if every circle update and every radial update is `StepOK` (size kept, nodes off the
line and frozen nodes kept, residual zero at the other nodes of the line), the result keeps the frozen nodes and satisfies
the sweep equation everywhere else.  Inside one colour the order of the lines does not matter because a row never reads
another line of its own phase (`Smoother.decoupled`).
-/
namespace SmootherCode
open Stencil Smoother
variable {K : Type} [_root_.Field K]

/-! ### folds of a step that may fail -/

theorem foldl_bind_none {κ A : Type} (step : A → κ → Option A) (l : List κ) :
    l.foldl (fun s k => s.bind (step · k)) none = none := by
  induction l with
  | nil => rfl
  | cons k l ih => simpa using ih

theorem foldl_bind_some {κ A : Type} (g : A → κ → A) (l : List κ) : ∀ a : A,
    l.foldl (fun s k => s.bind (fun a => some (g a k))) (some a) = some (l.foldl g a) := by
  induction l with
  | nil => intro a; rfl
  | cons k l ih => intro a; simpa using ih (g a k)

theorem foldl_bind_cons {κ A : Type} {step : A → κ → Option A} {k : κ} {l : List κ} {a a' : A}
    (h : (k :: l).foldl (fun s k => s.bind (step · k)) (some a) = some a') :
    ∃ a1, step a k = some a1 ∧ l.foldl (fun s k => s.bind (step · k)) (some a1) = some a' := by
  rw [List.foldl_cons, Option.bind_some] at h
  cases h1 : step a k with
  | none => rw [h1, foldl_bind_none] at h; cases h
  | some a1 => rw [h1] at h; exact ⟨a1, rfl, h⟩

theorem foldl_bind_inv {κ A : Type} (step : A → κ → Option A) (I : A → Prop)
    (hI : ∀ a k a', I a → step a k = some a' → I a') (l : List κ) :
    ∀ a a', I a → l.foldl (fun s k => s.bind (step · k)) (some a) = some a' → I a' := by
  induction l with
  | nil => intro a a' ha h; cases h; exact ha
  | cons k l ih =>
    intro a a' ha h
    obtain ⟨a1, h1, h2⟩ := foldl_bind_cons h
    exact ih a1 a' (hI a k a1 ha h1) h2

theorem foldl_bind_total {κ A : Type} (step : A → κ → Option A) (ht : ∀ a k, ∃ a', step a k = some a')
    (l : List κ) : ∀ a, ∃ a', l.foldl (fun s k => s.bind (step · k)) (some a) = some a' := by
  induction l with
  | nil => intro a; exact ⟨a, rfl⟩
  | cons k l ih =>
    intro a
    obtain ⟨a1, h1⟩ := ht a k
    rw [List.foldl_cons, Option.bind_some, h1]
    exact ih a1

/-! ### one line update, one colour, four colours -/

/-- what a line update `a ↦ a'` of the line `line` has to do -/
def StepOK (o : Op K) (f : Stencil.Field K) (fr : Nat → Nat → Bool) (line : Nat → Nat → Prop) (a a' : Array K) : Prop :=
  a'.size = a.size ∧
  (∀ p q, p < o.nr → q < o.nt → (¬ line p q ∨ fr p q = true) → fld o.nt a' p q = fld o.nt a p q) ∧
  (∀ p q, p < o.nr → q < o.nt → line p q → fr p q = false → take o f (fld o.nt a') p q = 0)

theorem StepOK.of_plain {o : Op K} {f : Stencil.Field K} {line : Nat → Nat → Prop} {a a' : Array K}
    (h : a'.size = a.size ∧
      (∀ p q, p < o.nr → q < o.nt → ¬ line p q → fld o.nt a' p q = fld o.nt a p q) ∧
      (∀ p q, p < o.nr → q < o.nt → line p q → take o f (fld o.nt a') p q = 0)) :
    StepOK o f (fun _ _ => false) line a a' :=
  ⟨h.1, fun p q hp hq hl => h.2.1 p q hp hq (hl.resolve_right Bool.false_ne_true),
    fun p q hp hq hl _ => h.2.2 p q hp hq hl⟩

theorem StepOK.congr {o : Op K} {f : Stencil.Field K} {fr : Nat → Nat → Bool} {line line' : Nat → Nat → Prop}
    {a a' : Array K} (hs : StepOK o f fr line a a') (h : ∀ p q, p < o.nr → q < o.nt → (line p q ↔ line' p q)) :
    StepOK o f fr line' a a' :=
  ⟨hs.1, fun p q hp hq hl => hs.2.1 p q hp hq (hl.imp_left (mt (h p q hp hq).mp)),
    fun p q hp hq hl => hs.2.2 p q hp hq ((h p q hp hq).mpr hl)⟩

section
variable (o : Op K) (nc : Nat) (f : Stencil.Field K) (fr : Nat → Nat → Bool)
  (hnc : 1 ≤ nc ∨ o.bc = true) (hnr : 2 ≤ o.nr) (hnt : 2 ≤ o.nt) (heven : o.nt % 2 = 0)
include hnc hnr hnt heven

/-- one colour: lines of the same phase (keys `κ`, the nodes of line `k` given by `onLine k`), updated one after the other,
    act like one update of their union: a later line does not disturb the residual on an earlier one, since its nodes are
    neither on that line nor of another phase -/
theorem phase_fold {κ : Type} (step : Array K → κ → Option (Array K)) (onLine : κ → Nat → Nat → Prop) (ph : Nat)
    (l : List κ)
    (hline : ∀ k ∈ l, ∀ p q, onLine k p q → phase nc p q = ph ∧ ∀ a b, onLine k a b ↔ sameLine nc p q a b)
    (hstep : ∀ k ∈ l, ∀ a a', a.size = o.nr * o.nt → step a k = some a' → StepOK o f fr (onLine k) a a') :
    ∀ a a', a.size = o.nr * o.nt → l.foldl (fun s k => s.bind (step · k)) (some a) = some a' →
      StepOK o f fr (fun p q => ∃ k ∈ l, onLine k p q) a a' := by
  induction l with
  | nil =>
    intro a a' _ h
    cases h
    exact ⟨rfl, fun _ _ _ _ _ => rfl, fun _ _ _ _ ⟨_, hk, _⟩ => absurd hk List.not_mem_nil⟩
  | cons k l ih =>
    intro a a' hs h
    obtain ⟨a1, h1, h2⟩ := foldl_bind_cons h
    obtain ⟨hs1, hu1, hz1⟩ := hstep k List.mem_cons_self a a1 hs h1
    obtain ⟨hs2, hu2, hz2⟩ := ih (fun k' hk' => hline k' (List.mem_cons_of_mem _ hk'))
      (fun k' hk' => hstep k' (List.mem_cons_of_mem _ hk')) a1 a' (hs1.trans hs) h2
    refine ⟨hs2.trans hs1, fun p q hp hq hno => ?_, fun p q hp hq ⟨k0, hk0, hon⟩ hfine => ?_⟩
    · rw [hu2 p q hp hq (hno.imp_left fun h ⟨k', hk', ho⟩ => h ⟨k', List.mem_cons_of_mem _ hk', ho⟩),
        hu1 p q hp hq (hno.imp_left fun h ho => h ⟨k, List.mem_cons_self, ho⟩)]
    · by_cases hex : ∃ k1 ∈ l, onLine k1 p q
      · exact hz2 p q hp hq hex hfine
      · obtain rfl : k0 = k := (List.mem_cons.mp hk0).resolve_right fun h' => hex ⟨k0, h', hon⟩
        rw [← hz1 p q hp hq hon hfine]
        refine decoupled o nc hnc hnr hnt heven f _ _ p q hp hq fun c d hc hd hcd => ?_
        refine hu2 c d hc hd (Or.inl fun ⟨k1, hk1, hon1⟩ => hex ⟨k1, hk1, ?_⟩)
        obtain ⟨hph1, hl1⟩ := hline k1 (List.mem_cons_of_mem _ hk1) c d hon1
        rcases hcd with hne | hsl
        · exact absurd (hph1.trans (hline k0 List.mem_cons_self p q hon).1.symm) hne
        · rw [hl1 p q, sameLine_congr hsl p q]
          exact sameLine_refl nc p q

/-- the circles of one colour (`c = 0` black, `c = 1` white) are the nodes of phase `c + 1` -/
theorem circle_phase (cs : Array K → Nat → Option (Array K))
    (hcs : ∀ i, i < nc → ∀ a a', a.size = o.nr * o.nt → cs a i = some a' → StepOK o f fr (fun p _ => p = i) a a')
    (c : Nat) (hc : c < 2) (a a' : Array K) (hs : a.size = o.nr * o.nt)
    (h : ((List.range nc).filter fun i => (nc - 1 - i) % 2 = c).foldl (fun s i => s.bind (cs · i)) (some a) = some a') :
    StepOK o f fr (fun p q => phase nc p q = c + 1) a a' := by
  have hmem : ∀ k, k ∈ ((List.range nc).filter fun i => (nc - 1 - i) % 2 = c) ↔ k < nc ∧ (nc - 1 - k) % 2 = c :=
    fun k => by simp only [List.mem_filter, List.mem_range, decide_eq_true_eq]
  refine (phase_fold o nc f fr hnc hnr hnt heven cs (fun k p _ => p = k) (c + 1) _ ?_
    (fun k hk => hcs k ((hmem k).mp hk).1) a a' hs h).congr fun p q _ _ => ?_
  · rintro k hk p q rfl
    exact ⟨(phase_circle_iff hc p q).mpr ((hmem p).mp hk), fun a b => (sameLine_of_lt ((hmem p).mp hk).1 q a b).symm⟩
  · rw [phase_circle_iff hc p q, ← hmem p]
    exact ⟨fun ⟨k, hk, hpk⟩ => hpk ▸ hk, fun hk => ⟨p, hk, rfl⟩⟩

theorem radial_phase (rs : Array K → Nat → Array K)
    (hrs : ∀ j, j < o.nt → ∀ a, a.size = o.nr * o.nt → StepOK o f fr (fun p q => nc ≤ p ∧ q = j) a (rs a j))
    (c : Nat) (hc : c < 2) (a : Array K) (hs : a.size = o.nr * o.nt) :
    StepOK o f fr (fun p q => phase nc p q = c + 3) a (((List.range o.nt).filter fun j => j % 2 = c).foldl rs a) := by
  have hmem : ∀ k, k ∈ ((List.range o.nt).filter fun j => j % 2 = c) ↔ k < o.nt ∧ k % 2 = c :=
    fun k => by simp only [List.mem_filter, List.mem_range, decide_eq_true_eq]
  refine (phase_fold o nc f fr hnc hnr hnt heven (fun a j => some (rs a j)) (fun k p q => nc ≤ p ∧ q = k) (c + 3) _
    ?_ ?_ a _ hs (foldl_bind_some rs _ a)).congr fun p q _ hq => ?_
  · rintro k hk p q ⟨hp, rfl⟩
    exact ⟨(phase_radial_iff hc p q).mpr ⟨hp, ((hmem q).mp hk).2⟩, fun a b => (sameLine_of_ge hp q a b).symm⟩
  · intro k hk a a' hs h
    obtain rfl := Option.some.inj h
    exact hrs k ((hmem k).mp hk).1 a hs
  · rw [phase_radial_iff hc p q]
    exact ⟨fun ⟨k, hk, hp, hqk⟩ => ⟨hp, hqk ▸ ((hmem k).mp hk).2⟩, fun ⟨hp, hpar⟩ => ⟨q, (hmem q).mpr ⟨hq, hpar⟩, hp, rfl⟩⟩

omit hnc heven in
/-- four colours in order: the states `A 0, …, A 4`, the step from `A (k-1)` to `A k` updating phase `k` -/
theorem phases_sweep (A : Nat → Array K)
    (hA : ∀ k, 1 ≤ k → k ≤ 4 → StepOK o f fr (fun p q => phase nc p q = k) (A (k - 1)) (A k)) :
    (∀ i j, i < o.nr → j < o.nt → fr i j = true → fld o.nt (A 4) i j = fld o.nt (A 0) i j) ∧
    (∀ i j, i < o.nr → j < o.nt → fr i j = false → defect o nc f (fld o.nt (A 0)) (fld o.nt (A 4)) i j = 0) := by
  have hconst : ∀ p q, p < o.nr → q < o.nt → ∀ m n, m ≤ n → n ≤ 4 →
      (∀ k, m < k → k ≤ n → (phase nc p q ≠ k ∨ fr p q = true)) → fld o.nt (A n) p q = fld o.nt (A m) p q := by
    intro p q hp hq m n hmn
    induction n, hmn using Nat.le_induction with
    | base => intro _ _; rfl
    | succ n hmn ih =>
      intro hn4 hk
      rw [(hA (n + 1) (by omega) hn4).2.1 p q hp hq (hk (n + 1) (by omega) (le_refl _))]
      exact ih (by omega) (fun k h1 h2 => hk k h1 (by omega))
  refine ⟨fun i j hi hj hfr => hconst i j hi hj 0 4 (by omega) (le_refl _) (fun _ _ _ => Or.inr hfr),
    fun i j hi hj hfine => ?_⟩
  have h1 := one_le_phase nc i j
  have h4 := phase_le_four nc i j
  -- the mixed iterate of node `(i, j)` is the state after its phase
  rw [defect, take_congr_grid o f (mix nc (phase nc i j) (fld o.nt (A 0)) (fld o.nt (A 4)))
    (fld o.nt (A (phase nc i j))) hnr (by omega) ?_ i j hi hj]
  · exact (hA _ h1 h4).2.2 i j hi hj rfl hfine
  · intro a b ha hb
    unfold mix
    split
    · exact hconst a b ha hb (phase nc i j) 4 h4 (le_refl _) (fun k h1 _ => Or.inl (by omega))
    · exact (hconst a b ha hb 0 (phase nc i j) (by omega) h4 (fun k _ h2 => Or.inl (by omega))).symm

end

/-! ### the sweep -/

/-- `SmootherTake::smoothing` / `ExtrapolatedSmootherTake::extrapolatedSmoothing` around a circle update `cs` that may
    fail and a radial update `rs` -/
def sweepWith (cs : Array K → Nat → Option (Array K)) (rs : Array K → Nat → Array K) (nc nt : Nat) (x : Array K) :
    Option (Array K) :=
  let s1 := (blackCircles nc).foldl (fun s i => s.bind (cs · i)) (some x)
  let s2 := (whiteCircles nc).foldl (fun s i => s.bind (cs · i)) s1
  s2.map fun a =>
    let a3 := (blackRadials nt).foldl rs a
    (whiteRadials nt).foldl rs a3

theorem sweep_eq_sweepWith (o : Op K) (tiny : K → Bool) (nc : Nat) (f : Stencil.Field K) (x : Array K) :
    sweep o tiny nc f x
      = sweepWith (fun a i => (solveCircle o tiny nc f (fld o.nt a) i).map (writeCircle o.nt a i)) (radialStep o nc f)
          nc o.nt x := rfl

section
omit [_root_.Field K]
variable {cs : Array K → Nat → Option (Array K)} {rs : Array K → Nat → Array K} {nc nt : Nat} {x y : Array K}

theorem sweepWith_eq_some (hs : sweepWith cs rs nc nt x = some y) :
    ∃ a1 a2, (blackCircles nc).foldl (fun s i => s.bind (cs · i)) (some x) = some a1 ∧
      (whiteCircles nc).foldl (fun s i => s.bind (cs · i)) (some a1) = some a2 ∧
      y = (whiteRadials nt).foldl rs ((blackRadials nt).foldl rs a2) := by
  unfold sweepWith at hs
  simp only at hs
  cases h1 : (blackCircles nc).foldl (fun s i => s.bind (cs · i)) (some x) with
  | none => rw [h1, foldl_bind_none] at hs; cases hs
  | some a1 =>
    rw [h1] at hs
    obtain ⟨a2, h2, h3⟩ := Option.map_eq_some_iff.mp hs
    exact ⟨a1, a2, rfl, h2, h3.symm⟩

theorem foldl_size (hrs : ∀ a j, (rs a j).size = a.size) (l : List Nat) : ∀ a, (l.foldl rs a).size = a.size := by
  induction l with
  | nil => intro a; rfl
  | cons k l ih => intro a; rw [List.foldl_cons, ih, hrs]

theorem sweepWith_size (hcs : ∀ a i a', cs a i = some a' → a'.size = a.size) (hrs : ∀ a j, (rs a j).size = a.size)
    (hs : sweepWith cs rs nc nt x = some y) : y.size = x.size := by
  obtain ⟨a1, a2, h1, h2, rfl⟩ := sweepWith_eq_some hs
  have hI : ∀ a k a', a.size = x.size → cs a k = some a' → a'.size = x.size :=
    fun a k a' ha h => (hcs a k a' h).trans ha
  rw [foldl_size hrs, foldl_size hrs]
  exact foldl_bind_inv cs (·.size = x.size) hI _ a1 a2 (foldl_bind_inv cs (·.size = x.size) hI _ x a1 rfl h1) h2

theorem sweepWith_total (ht : ∀ a i, ∃ a', cs a i = some a') : ∃ y, sweepWith cs rs nc nt x = some y := by
  obtain ⟨a1, h1⟩ := foldl_bind_total cs ht (blackCircles nc) x
  obtain ⟨a2, h2⟩ := foldl_bind_total cs ht (whiteCircles nc) a1
  unfold sweepWith
  simp only [h1, h2, Option.map_some]
  exact ⟨_, rfl⟩

end

/-- **the sweep theorem**: line updates that are `StepOK` make the sweep keep the frozen nodes and satisfy the sweep
    equation at every other node -/
theorem sweepWith_spec (o : Op K) (nc : Nat) (f : Stencil.Field K) (fr : Nat → Nat → Bool)
    (hnc : 1 ≤ nc ∨ o.bc = true) (hnr : 2 ≤ o.nr) (hnt : 2 ≤ o.nt) (heven : o.nt % 2 = 0)
    (cs : Array K → Nat → Option (Array K)) (rs : Array K → Nat → Array K)
    (hcs : ∀ i, i < nc → ∀ a a', a.size = o.nr * o.nt → cs a i = some a' → StepOK o f fr (fun p _ => p = i) a a')
    (hrs : ∀ j, j < o.nt → ∀ a, a.size = o.nr * o.nt → StepOK o f fr (fun p q => nc ≤ p ∧ q = j) a (rs a j))
    (x y : Array K) (hx : x.size = o.nr * o.nt) (hs : sweepWith cs rs nc o.nt x = some y) :
    (∀ i j, i < o.nr → j < o.nt → fr i j = true → fld o.nt y i j = fld o.nt x i j) ∧
    (∀ i j, i < o.nr → j < o.nt → fr i j = false → defect o nc f (fld o.nt x) (fld o.nt y) i j = 0) := by
  obtain ⟨a1, a2, h1, h2, rfl⟩ := sweepWith_eq_some hs
  have p1 := circle_phase o nc f fr hnc hnr hnt heven cs hcs 0 (by omega) x a1 hx h1
  have s1 := p1.1.trans hx
  have p2 := circle_phase o nc f fr hnc hnr hnt heven cs hcs 1 (by omega) a1 a2 s1 h2
  have s2 := p2.1.trans s1
  have p3 := radial_phase o nc f fr hnc hnr hnt heven rs hrs 0 (by omega) a2 s2
  have p4 := radial_phase o nc f fr hnc hnr hnt heven rs hrs 1 (by omega) _ (p3.1.trans s2)
  refine phases_sweep o nc f fr hnr hnt
    (fun k => match k with
      | 0 => x
      | 1 => a1
      | 2 => a2
      | 3 => (blackRadials o.nt).foldl rs a2
      | _ => (whiteRadials o.nt).foldl rs ((blackRadials o.nt).foldl rs a2)) fun k hk1 hk4 => ?_
  rcases (by omega : k = 1 ∨ k = 2 ∨ k = 3 ∨ k = 4) with rfl | rfl | rfl | rfl
  · exact p1
  · exact p2
  · exact p3
  · exact p4

/-! ### facts about the two sweeps that need nothing about the line solves -/

theorem size_of_map_writeCircle {nt i : Nat} {a a' : Array K} {s : Option (List K)}
    (h : s.map (writeCircle nt a i) = some a') : a'.size = a.size := by
  obtain ⟨vs, _, rfl⟩ := Option.map_eq_some_iff.mp h
  exact size_writeCircle _ _ _ _

theorem circleStep_none (o : Op K) (tiny : K → Bool) (nc : Nat) (f : Stencil.Field K) (l : List Nat) :
    l.foldl (circleStep o tiny nc f) none = none :=
  foldl_bind_none (fun a i => (solveCircle o tiny nc f (fld o.nt a) i).map (writeCircle o.nt a i)) l

theorem radial_fold_size (o : Op K) (nc : Nat) (f : Stencil.Field K) (l : List Nat) :
    ∀ a : Array K, (l.foldl (radialStep o nc f) a).size = a.size :=
  foldl_size (fun _ _ => size_writeRadial _ _ _ _ _) l

end SmootherCode

namespace ExSmootherCode
open Stencil SmootherCode
variable {K : Type} [_root_.Field K]

theorem sweep_eq_sweepWith (o : Op K) (tiny : K → Bool) (nc : Nat) (f : Stencil.Field K)
    (x : Array K) :
    sweep o tiny nc f x
      = sweepWith (fun a i => (solveCircle o tiny nc f (fld o.nt a) i).map (writeCircle o.nt a i))
          (radialStep o nc f) nc o.nt x := rfl

theorem circleStep_none (o : Op K) (tiny : K → Bool) (nc : Nat) (f : Stencil.Field K)
    (l : List Nat) : l.foldl (circleStep o tiny nc f) none = none :=
  foldl_bind_none
    (fun a i => (solveCircle o tiny nc f (fld o.nt a) i).map (writeCircle o.nt a i)) l

theorem radial_fold_size (o : Op K) (nc : Nat) (f : Stencil.Field K) (l : List Nat) :
    ∀ a : Array K, (l.foldl (radialStep o nc f) a).size = a.size :=
  foldl_size (fun _ _ => size_writeRadial _ _ _ _ _) l

end ExSmootherCode
