import GMGModel.Rhs
import GMGProofs.Lemmas.StencilLemmas1
/-!
# Rhs lemmas — row classification and the discrete load of a constant

`constLoad o c` is what `discretize_rhs_f` makes of the data of the constant solution `u ≡ c` of
`-∇·(a∇u) + β u = β c`, `u = c` on the boundary.
-/
namespace Rhs
open Stencil
variable {K : Type} [_root_.Field K]

/-- undiscretised data of the constant solution `c`: source `β c` at PDE rows, boundary value `c` -/
def constData (o : Op K) (c : K) : Stencil.Field K := fun i _ => if pdeRow o i then o.beta i * c else c

/-- its discrete load -/
def constLoad (o : Op K) (c : K) : Stencil.Field K := discretize o (constData o c)

section rows
omit [_root_.Field K]

theorem pdeRow_interior (o : Op K) {i : Nat} (h0 : 0 < i) (h1 : i + 1 < o.nr) : pdeRow o i = true := by
  simp [pdeRow, h0, h1]

theorem pdeRow_origin (o : Op K) (hbc : o.bc = false) : pdeRow o 0 = true := by
  simp [pdeRow, hbc]

theorem pdeRow_inner_dirichlet (o : Op K) (hbc : o.bc = true) : pdeRow o 0 = false := by
  simp [pdeRow, hbc]

theorem pdeRow_outer (o : Op K) {i : Nat} (h0 : 0 < i) (h1 : o.nr ≤ i + 1) : pdeRow o i = false := by
  have : ¬ (i + 1 < o.nr) := by omega
  have : i ≠ 0 := by omega
  simp [pdeRow, *]

end rows

/-- `pdeRow` is exactly the row classification of `take` -/
theorem take_of_not_pdeRow (o : Op K) (f x : Stencil.Field K) (i j : Nat) (h : pdeRow o i = false) :
    take o f x i j = f i j - x i j := by
  rcases Nat.eq_zero_or_pos i with rfl | h0
  · cases hbc : o.bc
    · rw [pdeRow_origin o hbc] at h; cases h
    · exact take_zero_dirichlet o f x hbc j
  · by_cases h1 : i + 1 < o.nr
    · rw [pdeRow_interior o h0 h1] at h; cases h
    · exact take_outer o f x j h0 (by omega)

end Rhs
