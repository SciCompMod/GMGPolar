import GMGProofs.Lemmas.TridiagCyclic
import GMGProofs.Lemmas.TridiagSDD
/-!
# Positive definite cyclic tridiagonal matrices (C14)

`Qc` is the quadratic form of the cyclic matrix; `Q_B = Qc + a₀ (v·x)²`, hence `B` is SPD, its
pivots are positive, and the Sherman–Morrison denominator `1 + v·B⁻¹u` is positive.
-/
namespace Tridiag

section Field
variable {K : Type} [Field K]

def dot : List K → List K → K
  | x :: xs, y :: ys => x * y + dot xs ys
  | _, _ => 0

/-- quadratic form of the cyclic matrix -/
def Qc (a b : List K) (c : K) (x : List K) : K := Q a b x + 2 * c * x.headD 0 * x.getLastD 0

theorem dot_mulT (a b x : List K) (h1 : a.length = x.length) (h2 : b.length + 1 = a.length) :
    ∀ p : K, dot x (mulT a b x p) = p * x.headD 0 + Q a b x := by
  refine tri_induction (motive := fun a b x => ∀ p : K, dot x (mulT a b x p) = p * x.headD 0 + Q a b x)
    ?_ ?_ a b x h1 h2
  · intro a x p; simp only [dot, mulT, Q, List.headD_cons]; ring
  · intro a a' as b bs x x' xs _ _ ih p
    simp only [dot, mulT, Q, ih, List.headD_cons]; ring

theorem dot_setHead_add (d : K) : ∀ (x T : List K), x.length = T.length →
    dot x (setHead T (fun v => v + d)) = dot x T + x.headD 0 * d
  | [], [], _ => by simp [dot]
  | x :: xs, t :: ts, _ => by simp only [dot, setHead, List.headD_cons]; ring
  | [], _ :: _, h => by simp at h
  | _ :: _, [], h => by simp at h

theorem dot_setLast_add (d : K) : ∀ (x T : List K), x.length = T.length →
    dot x (setLast T (fun v => v + d)) = dot x T + x.getLastD 0 * d
  | [], [], _ => by simp [dot]
  | [x], [t], _ => by simp only [dot, setLast, List.getLastD_cons, List.getLastD_nil]; ring
  | x :: x' :: xs, t :: t' :: ts, h => by
      have ih := dot_setLast_add d (x' :: xs) (t' :: ts) (by simpa using h)
      show dot (x :: x' :: xs) (t :: setLast (t' :: ts) _) = _
      rw [getLastD_cons_cons]
      simp only [dot] at ih ⊢
      rw [ih]; ring
  | [], _ :: _, h => by simp at h
  | _ :: _, [], h => by simp at h
  | [_], _ :: _ :: _, h => by simp at h
  | _ :: _ :: _, [_], h => by simp at h

theorem dot_replicate_last (c : K) : ∀ (m : Nat) (x : List K), x.length = m + 1 →
    dot x (List.replicate m 0 ++ [c]) = c * x.getLastD 0
  | 0, x, h => by obtain ⟨t, rfl⟩ := List.length_eq_one_iff.mp h; simp [dot]; ring
  | m + 1, x, h => by
      obtain ⟨t, x, rfl⟩ := List.exists_cons_of_length_eq_add_one h
      have hx : x.length = m + 1 := by simpa using h
      obtain ⟨t', x, rfl⟩ := List.exists_cons_of_length_eq_add_one hx
      rw [getLastD_cons_cons, List.replicate_succ, List.cons_append, dot,
        dot_replicate_last c m _ hx, mul_zero, zero_add]

theorem dot_uRhs (g c : K) (x : List K) (n : Nat) (h : x.length = n) (hn : 2 ≤ n) :
    dot x (uRhs n g c) = g * x.headD 0 + c * x.getLastD 0 := by
  obtain ⟨m, rfl⟩ : ∃ m, n = m + 2 := ⟨n - 2, by omega⟩
  match x, h with
  | x0 :: x1 :: xs, h =>
    simp only [uRhs, Scalar.n_zero, dot, List.headD_cons]
    rw [dot_replicate_last c m (x1 :: xs) (by simpa using h), getLastD_cons_cons]; ring
  | [], h => simp at h
  | [_], h => simp at h

theorem dot_mulC (a b : List K) (c : K) (x : List K) (h1 : a.length = x.length)
    (h2 : b.length + 1 = a.length) : dot x (mulC a b c x) = Qc a b c x := by
  have hT : (mulT a b x 0).length = a.length := mulT_length a b x h1 h2 0
  unfold mulC Qc
  simp only [Scalar.n_zero]
  rw [dot_setLast_add _ _ _ (by simp [hT, h1]), dot_setHead_add _ _ _ (by simp [hT, h1]),
    dot_mulT a b x h1 h2]
  ring

theorem Q_setLast_sub (d : K) (a b x : List K) (h1 : a.length = x.length)
    (h2 : b.length + 1 = a.length) :
    Q (setLast a (fun v => v - d)) b x = Q a b x - d * (x.getLastD 0 * x.getLastD 0) := by
  refine tri_induction (motive := fun a b x =>
    Q (setLast a (fun v => v - d)) b x = Q a b x - d * (x.getLastD 0 * x.getLastD 0)) ?_ ?_ a b x h1 h2
  · intro a x; simp only [setLast, Q, List.getLastD_cons, List.getLastD_nil]; ring
  · intro a a' as b bs x x' xs _ _ ih
    show Q (a :: setLast (a' :: as) _) (b :: bs) (x :: x' :: xs) = _
    simp only [Q]
    rw [ih, getLastD_cons_cons]; ring

/-- `Q_B(x) = Qc(x) - γ (v·x)²` (`= Qc(x) + (1/a₀)(-a₀x₀ + c x_{n-1})²`): `B` differs from the
    tridiagonal part of `A` in the two corner diagonal entries only -/
theorem Q_diagB (a b : List K) (c : K) (x : List K) (h1 : a.length = x.length)
    (h2 : b.length + 1 = a.length) (ha : a.headD 0 ≠ 0) :
    Q (diagB a c) b x = Qc a b c x - gam a * (vdot a c x * vdot a c x) := by
  have hg : gam a ≠ 0 := neg_ne_zero.mpr ha
  unfold diagB
  rw [Q_setLast_sub _ _ b x (by simpa using h1) (by simpa using h2), Q_setHead_sub _ a b x h1 h2]
  unfold Qc vdot
  field_simp
  ring

theorem allZero_headD : ∀ (x : List K), allZero x → x.headD 0 = 0
  | [], _ => rfl
  | _ :: _, h => h.1

theorem allZero_getLastD : ∀ (x : List K), allZero x → x.getLastD 0 = 0
  | [], _ => rfl
  | x :: xs, h => by
      rw [List.getLastD_cons, h.1]; exact allZero_getLastD xs h.2

end Field

section Ordered
variable {K : Type} [Field K] [LinearOrder K] [IsStrictOrderedRing K]

/-- positive definiteness of the cyclic matrix -/
def SPDc (a b : List K) (c : K) : Prop :=
  ∀ x : List K, x.length = a.length → ¬ allZero x → 0 < Qc a b c x

/-- cyclic strict diagonal dominance: the tridiagonal rows are dominant with the corner `|c|`
    counted in the first and in the last row -/
def SDDc (a b : List K) (c : K) : Prop :=
  SDD (setLast (setHead a (fun v => v - |c|)) (fun v => v - |c|)) b

/-- the first diagonal entry (whose negative is the code's `γ`) is positive -/
theorem spdc_head_pos (a b : List K) (c : K) (h2 : b.length + 1 = a.length) (hn : 2 ≤ a.length)
    (spd : SPDc a b c) : 0 < a.headD 0 := by
  obtain ⟨a0, as, rfl⟩ : ∃ a0 as, a = a0 :: as :=
    List.exists_cons_of_ne_nil (by rintro rfl; simp at hn)
  -- test with the first unit vector
  obtain ⟨z, hz1, hz2⟩ := zeros_exist (K := K) as.length
  obtain ⟨z0, zs, rfl⟩ : ∃ z0 zs, z = z0 :: zs :=
    List.exists_cons_of_ne_nil (by rintro rfl; simp at hz1 hn; omega)
  have := spd (1 :: z0 :: zs) (by simp [hz1]) (by simp [allZero])
  unfold Qc at this
  rw [Q_zero_tail a0 as b _ (by simpa using h2) hz1 hz2 1, getLastD_cons_cons,
    allZero_getLastD _ hz2] at this
  simpa using this

/-- the Sherman–Morrison denominator is positive: `q = B⁻¹u`, `A` SPD ⇒ `1 + v·q > 0` -/
theorem denominator_pos (a b : List K) (c : K) (q : List K) (h1 : q.length = a.length)
    (h2 : b.length + 1 = a.length) (hn : 2 ≤ a.length) (spd : SPDc a b c)
    (hq : mulT (diagB a c) b q 0 = uRhs a.length (gam a) c) : 0 < 1 + vdot a c q := by
  have ha := spdc_head_pos a b c h2 hn spd
  have ha' : a.headD 0 ≠ 0 := ne_of_gt ha
  have hg : gam a ≠ 0 := by unfold gam; exact neg_ne_zero.mpr ha'
  by_cases hz : allZero q
  · have : vdot a c q = 0 := by unfold vdot; rw [allZero_headD q hz, allZero_getLastD q hz]; ring
    rw [this]; simp
  · have pos := spd q h1 hz
    -- `Qc(q) = Q_B(q) + γ t²` and `Q_B(q) = q·(B q) = q·u = γ t`, with `t = v·q`
    have hQ := Q_diagB a b c q h1.symm h2 ha'
    have hd := dot_mulT (diagB a c) b q (by simpa using h1.symm) (by simpa using h2) 0
    rw [hq, dot_uRhs _ _ _ _ h1 hn, zero_mul, zero_add] at hd
    have e : gam a * vdot a c q = gam a * q.headD 0 + c * q.getLastD 0 := by
      unfold vdot; field_simp
    rw [show Qc a b c q = gam a * vdot a c q + vdot a c q * (gam a * vdot a c q) by
      linear_combination -hQ - hd - e] at pos
    -- pos : 0 < γ t + t (γ t) with γ = -a₀ < 0
    set t := vdot a c q with ht
    have hgam : gam a = - a.headD 0 := rfl
    rw [hgam] at pos
    by_contra hneg
    rw [not_lt] at hneg
    have h3 : 0 < - a.headD 0 * t := by nlinarith
    nlinarith

end Ordered
end Tridiag
