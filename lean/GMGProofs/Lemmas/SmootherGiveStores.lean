import GMGModel.SmootherGiveCode
import GMGProofs.Lemmas.GiveCommon
import GMGProofs.Lemmas.Scatter
/-!
# The stores of the smoother assembly (give) and the cells they go to

Over a field the content of a cell after `buildAscMatrices()` is the total `cval` of the values addressed to it, whatever the
order of the `+=`.  The stores of a node are, up to their order, blocks each guarded by one condition on the node's radial index
and addressed to one line (`nodeGives`); the total a node gives to each kind of cell is read off them as a sum of terms
`if (row selector) ∧ (angle selector) then value else 0`.  Every `COO_CSR_UPDATE` stores the column its offset stands for in
its own row (`expCol`), and no store leaves the allocated storage.
-/
namespace SmootherGiveCode
open Stencil SmootherCode Finset GiveCommon
variable {K : Type} [_root_.Field K]

/-- total of the values addressed to cell `s` -/
def cval (s : Slot) (l : List (AUpd K)) : K := (l.map fun u => if u.1 = s then u.2.2 else 0).sum

theorem cval_eq_total (s : Slot) (l : List (AUpd K)) : cval s l = Scatter.total (·.1 = s) (·.2.2) l := rfl

theorem slotVal_eq_cval (us : List (AUpd K)) (s : Slot) : slotVal us s = cval s us := by
  rw [cval_eq_total, slotVal, Scatter.foldl_add, Scalar.n_zero, zero_add]

@[simp] theorem cval_nil (s : Slot) : cval s ([] : List (AUpd K)) = 0 := rfl

theorem cval_append (s : Slot) (l l' : List (AUpd K)) : cval s (l ++ l') = cval s l + cval s l' :=
  Scatter.total_append ..

theorem cval_ite (s : Slot) (p : Prop) [Decidable p] (l l' : List (AUpd K)) :
    cval s (if p then l else l') = if p then cval s l else cval s l' :=
  Scatter.total_ite ..

section
variable (o : Op K) (nc : Nat)

theorem cval_tri (s : Slot) (M : Mat) (row col : Nat) (v : K) :
    cval s (tri o nc M row col v) = if triSlot (matCols o nc M) M row col = some s then v else 0 := by
  unfold tri
  cases triSlot (matCols o nc M) M row col with
  | none => simp only [cval_nil, reduceCtorEq, if_false]
  | some s' => simp only [cval, List.map_cons, List.map_nil, List.sum_cons, List.sum_nil, add_zero, Option.some.injEq]

theorem cval_csr (s : Slot) (row off col : Nat) (v : K) :
    cval s (csr row off col v) = if s = .inner row off then v else 0 := by
  simp only [csr, cval, List.map_cons, List.map_nil, List.sum_cons, List.sum_nil, add_zero, eq_comm]

end

/-! ### the cell an `UPDATE_MATRIX_ELEMENT` addresses -/

theorem triSlot_cMain (cols : Nat) (M : Mat) (r c i j : Nat) :
    triSlot cols M r c = some (.cMain i j) ↔ .circle i = M ∧ j = r ∧ r = c := by
  unfold triSlot
  cases M <;> split_ifs <;> simp_all [eq_comm]

theorem triSlot_cSub (cols : Nat) (M : Mat) (r c i j : Nat) :
    triSlot cols M r c = some (.cSub i j) ↔ .circle i = M ∧ j = r ∧ r + 1 = c := by
  unfold triSlot
  cases M <;> split_ifs <;> simp_all [eq_comm]

theorem triSlot_cCorner (cols : Nat) (M : Mat) (r c i : Nat) :
    triSlot cols M r c = some (.cCorner i) ↔ .circle i = M ∧ r ≠ c ∧ r + 1 ≠ c ∧ r = 0 ∧ c + 1 = cols := by
  unfold triSlot
  cases M <;> split_ifs <;> simp_all [eq_comm]

theorem triSlot_rMain (cols : Nat) (M : Mat) (r c j t : Nat) :
    triSlot cols M r c = some (.rMain j t) ↔ t = r ∧ .radial j = M ∧ r = c := by
  unfold triSlot
  cases M <;> split_ifs <;> simp_all [eq_comm, and_comm]

theorem triSlot_rSub (cols : Nat) (M : Mat) (r c j t : Nat) :
    triSlot cols M r c = some (.rSub j t) ↔ t = r ∧ .radial j = M ∧ r + 1 = c := by
  unfold triSlot
  cases M <;> split_ifs <;> simp_all [eq_comm, and_comm]

theorem triSlot_inner (cols : Nat) (M : Mat) (r c a q : Nat) : triSlot cols M r c = some (.inner a q) ↔ False := by
  unfold triSlot
  cases M <;> split_ifs <;> simp

section
variable (o : Op K) (nc : Nat)

/-! ### the position classes -/

theorem nodeUpdates_circle {a : Nat} (b : Nat) (h : 0 < a ∧ a < nc) : nodeUpdates o nc a b = circleInterior o nc a b :=
  if_pos h

theorem nodeUpdates_radial {a : Nat} (b : Nat) (h : nc < a ∧ a + 2 < o.nr) :
    nodeUpdates o nc a b = radialInterior o nc a b := by
  unfold nodeUpdates
  rw [if_neg (by omega), if_pos h]

theorem nodeUpdates_zero (b : Nat) :
    nodeUpdates o nc 0 b = if o.bc then innerDirichlet o nc b else innerAcross o nc b := by
  unfold nodeUpdates
  rw [if_neg (by omega), if_neg (by omega), if_pos rfl]

theorem nodeUpdates_first (hnc : 0 < nc) (b : Nat) : nodeUpdates o nc nc b = radialFirst o nc nc b := by
  unfold nodeUpdates
  rw [if_neg (by omega), if_neg (by omega), if_neg (by omega), if_pos rfl]

theorem nodeUpdates_nextOuter (hnc : 0 < nc) (hnr : nc + 2 < o.nr) {a : Nat} (b : Nat) (h : a + 2 = o.nr) :
    nodeUpdates o nc a b = radialNextOuter o nc a b := by
  unfold nodeUpdates
  rw [if_neg (by omega), if_neg (by omega), if_neg (by omega), if_neg (by omega), if_pos h]

theorem nodeUpdates_outer (hnc : 0 < nc) (hnr : nc + 2 < o.nr) {a : Nat} (b : Nat) (h : a + 1 = o.nr) :
    nodeUpdates o nc a b = radialOuter o nc a b := by
  unfold nodeUpdates
  rw [if_neg (by omega), if_neg (by omega), if_neg (by omega), if_neg (by omega), if_neg (by omega), if_pos h]

theorem nodeUpdates_out (hnr : nc + 3 ≤ o.nr) {a : Nat} (b : Nat) (h : o.nr ≤ a) : nodeUpdates o nc a b = [] := by
  unfold nodeUpdates
  rw [if_neg (by omega), if_neg (by omega), if_neg (by omega), if_neg (by omega), if_neg (by omega), if_neg (by omega)]

/-! ### the assembly as a double sum over the giving nodes -/

/-- **the content of a cell after `buildAscMatrices()`**: the shares of all nodes, in any order -/
theorem slotVal_allUpdates (hnr : nc + 3 ≤ o.nr) (s : Slot) :
    slotVal (allUpdates o nc) s = ∑ a ∈ range o.nr, ∑ b ∈ range o.nt, cval s (nodeUpdates o nc a b) := by
  rw [slotVal_eq_cval, cval_eq_total, allUpdates, Scatter.total_flatMap]
  exact DirectGiveCode.nodeOrder_sum o nc (fun a b => cval s (nodeUpdates o nc a b)) fun a b ha => by
    rw [nodeUpdates_out o nc hnr b ha, cval_nil]

end

/-- a guard `G` that together with the first selector `Q` amounts to `Q'` is absorbed -/
theorem guard_and {G Q Q' X : Prop} (h : G ∧ Q ↔ Q') : G ∧ Q ∧ X ↔ Q' ∧ X := by rw [← and_assoc, h]

set_option linter.unusedVariables false in
set_option linter.unusedSectionVars false in
/-- the position classes of `NODE_BUILD_SMOOTHER_GIVE` -/
theorem classes (o : Op K) (nc : Nat) (hnc : 2 ≤ nc) (hnr : nc + 3 ≤ o.nr) (a : Nat) :
    (0 < a ∧ a < nc) ∨ (nc < a ∧ a + 2 < o.nr) ∨ a = 0 ∨ a = nc ∨ a + 2 = o.nr ∨ a + 1 = o.nr ∨ o.nr ≤ a := by omega

section
variable (o : Op K) (nc : Nat)

/-! ### the stores of a node, grouped by the line they go to -/

/-- what an interior circle node stores into its own circle: own row, and for each angular neighbour the two couplings and
    the neighbour's share of the diagonal -/
def circleOwn (a b : Nat) : List (AUpd K) :=
  let C := Mat.circle a
  tri o nc C b b (mass o a b) ++ tri o nc C b b (diag o a b) ++
  tri o nc C b (jm o b) (-(coeff3 o a b) * o.att a b) ++ tri o nc C (jm o b) b (-(coeff3 o a b) * o.att a b) ++
  tri o nc C (jm o b) (jm o b) (coeff3 o a b * o.att a b) ++
  tri o nc C b (jp o b) (-(coeff4 o a b) * o.att a b) ++ tri o nc C (jp o b) b (-(coeff4 o a b) * o.att a b) ++
  tri o nc C (jp o b) (jp o b) (coeff4 o a b * o.att a b)

/-- what a node of the innermost circle stores into the CSR matrix across the origin -/
def acrossOwn (b : Nat) : List (AUpd K) :=
  csr b 0 b (mass o 0 b) ++ csr b 0 b (diag o 0 b) ++
  csr b 1 (ja o b) (-(coeff1 o 0 b) * o.arr 0 b) ++ csr (ja o b) 1 b (-(coeff1 o 0 b) * o.arr 0 b) ++
  csr (ja o b) 0 (ja o b) (coeff1 o 0 b * o.arr 0 b) ++
  csr b 2 (jm o b) (-(coeff3 o 0 b) * o.att 0 b) ++ csr (jm o b) 3 b (-(coeff3 o 0 b) * o.att 0 b) ++
  csr (jm o b) 0 (jm o b) (coeff3 o 0 b * o.att 0 b) ++
  csr b 3 (jp o b) (-(coeff4 o 0 b) * o.att 0 b) ++ csr (jp o b) 2 b (-(coeff4 o 0 b) * o.att 0 b) ++
  csr (jp o b) 0 (jp o b) (coeff4 o 0 b * o.att 0 b)

/-- the stores of node `(a, b)` up to their order: every block goes to one line and is guarded by one condition on `a`
    (the line and the neighbour exist and are no Dirichlet rows).  Rows of a radial line are written so that the tests of
    `UPDATE_MATRIX_ELEMENT` are decided by the shape of the term: `tm + 1` for the own row next to the inward row `tm`. -/
def nodeGives (a b : Nat) : List (AUpd K) :=
  let R := Mat.radial b
  let t := a - nc
  let tm := a - 1 - nc
  (if 0 < a ∧ a < nc then circleOwn o nc a b else []) ++
  (if 1 < a ∧ a ≤ nc then tri o nc (.circle (a - 1)) b b (coeff1 o a b * o.arr a b) else []) ++
  (if a + 1 < nc then tri o nc (.circle (a + 1)) b b (coeff2 o a b * o.arr a b) else []) ++
  (if 0 = a then (if o.bc then csr b 0 b (Scalar.n 1) else acrossOwn o b) else []) ++
  (if !o.bc ∧ a = 1 then csr b 0 b (coeff1 o a b * o.arr a b) else []) ++
  (if nc ≤ a ∧ a + 1 < o.nr then
    tri o nc R t t (mass o a b) ++ tri o nc R t t (diag o a b) ++
    tri o nc (.radial (jm o b)) t t (coeff3 o a b * o.att a b) ++
    tri o nc (.radial (jp o b)) t t (coeff4 o a b * o.att a b) else []) ++
  (if a + 1 = o.nr then tri o nc R t t (Scalar.n 1) else []) ++
  (if nc < a ∧ a < o.nr then tri o nc R tm tm (coeff1 o a b * o.arr a b) else []) ++
  (if nc < a ∧ a + 1 < o.nr then
    tri o nc R (tm + 1) tm (-(coeff1 o a b) * o.arr a b) ++ tri o nc R tm (tm + 1) (-(coeff1 o a b) * o.arr a b) else []) ++
  (if nc ≤ a ∧ a + 2 < o.nr then
    tri o nc R t (t + 1) (-(coeff2 o a b) * o.arr a b) ++ tri o nc R (t + 1) t (-(coeff2 o a b) * o.arr a b) else []) ++
  (if nc ≤ a + 1 ∧ a + 2 < o.nr then tri o nc R (a + 1 - nc) (a + 1 - nc) (coeff2 o a b * o.arr a b) else [])

theorem nodeUpdates_perm (hnc : 2 ≤ nc) (hnr : nc + 3 ≤ o.nr) (a b : Nat) :
    (nodeUpdates o nc a b).Perm (nodeGives o nc a b) := by
  unfold nodeGives
  rw [← Multiset.coe_eq_coe]
  rcases classes o nc hnc hnr a with h | h | h | h | h | h | h
  · rw [nodeUpdates_circle o nc b h]
    unfold circleInterior circleOwn
    have ha : a ≤ nc := by omega
    by_cases hR : a + 1 = nc
    · simp (disch := omega) only [ha, hR, Nat.sub_self, and_true, if_true, if_pos, if_neg, List.append_nil,
        ← Multiset.coe_add]
      ac_rfl
    · simp (disch := omega) only [ha, and_true, if_pos, if_neg, List.append_nil, ← Multiset.coe_add]
      ac_rfl
  · rw [nodeUpdates_radial o nc b h]
    unfold radialInterior
    have e1 : a - 1 - nc = a - nc - 1 := by omega
    have e2 : a - nc - 1 + 1 = a - nc := by omega
    have e3 : a + 1 - nc = a - nc + 1 := by omega
    simp (disch := omega) only [e1, e2, e3, if_pos, if_neg, List.append_nil, List.nil_append, ← Multiset.coe_add]
    ac_rfl
  · subst h
    rw [nodeUpdates_zero o nc b]
    unfold innerDirichlet innerAcross acrossOwn
    cases o.bc
    · simp (disch := omega) only [Bool.false_eq_true, if_false, if_true, if_pos, if_neg, List.append_nil, List.nil_append,
        ← Multiset.coe_add]
      ac_rfl
    · simp (disch := omega) only [if_true, if_pos, if_neg, List.append_nil, List.nil_append, ← Multiset.coe_add]
      ac_rfl
  · subst h
    rw [nodeUpdates_first o a (by omega) b]
    unfold radialFirst
    simp (disch := omega) only [Nat.sub_self, Nat.zero_add, Nat.add_sub_cancel_left, if_pos, if_neg, List.append_nil,
      List.nil_append, ← Multiset.coe_add]
    ac_rfl
  · rw [nodeUpdates_nextOuter o nc (by omega) (by omega) b h]
    unfold radialNextOuter
    have e1 : a - 1 - nc = a - nc - 1 := by omega
    have e2 : a - nc - 1 + 1 = a - nc := by omega
    simp (disch := omega) only [e1, e2, if_pos, if_neg, List.append_nil, List.nil_append, ← Multiset.coe_add]
    ac_rfl
  · rw [nodeUpdates_outer o nc (by omega) (by omega) b h]
    unfold radialOuter
    have e1 : a - 1 - nc = a - nc - 1 := by omega
    simp (disch := omega) only [e1, if_pos, if_neg, List.append_nil, List.nil_append]
  · rw [nodeUpdates_out o nc hnr b h]
    simp (disch := omega) only [if_pos, if_neg, List.append_nil]

theorem cval_nodeUpdates (hnc : 2 ≤ nc) (hnr : nc + 3 ≤ o.nr) (s : Slot) (a b : Nat) :
    cval s (nodeUpdates o nc a b) = cval s (nodeGives o nc a b) :=
  ((nodeUpdates_perm o nc hnc hnr a b).map _).sum_eq

end

/-- total for one cell of the blocks of `nodeGives`: every store becomes a term `if (condition) then value else 0`, a block
    that cannot hit the cell vanishes, the guard of a block joins the conditions of its terms -/
macro "give_simp" "[" ts:Lean.Parser.Tactic.simpLemma,* "]" : tactic => `(tactic|
  simp only [nodeGives, circleOwn, acrossOwn, cval_append, cval_ite, cval_tri, cval_csr, cval_nil, reduceCtorEq, false_and,
    and_false, and_true, true_and, if_false, add_zero, zero_add, ite_self, ite_add_zero, ← ite_and, $ts,*])

section
variable (o : Op K) (nc : Nat)

/-- `main_diagonal(j)` of circle `i`: the node itself (mass and diagonal share), its two angular neighbours, the nodes inside
    and outside on the same ray -/
theorem cval_cMain (hnc : 2 ≤ nc) (hnr : nc + 3 ≤ o.nr) (hnt : 3 ≤ o.nt) (i j a b : Nat) (hi0 : 0 < i) (hi : i < nc) :
    cval (.cMain i j) (nodeUpdates o nc a b) =
      (if i = a ∧ j = b then mass o a b + diag o a b else 0)
      + (if i = a ∧ j = jm o b then coeff3 o a b * o.att a b else 0)
      + (if i = a ∧ j = jp o b then coeff4 o a b * o.att a b else 0)
      + (if i + 1 = a ∧ j = b then coeff1 o a b * o.arr a b else 0)
      + (if i = a + 1 ∧ j = b then coeff2 o a b * o.arr a b else 0) := by
  have hm := jm_ne_self o (by omega) b
  have hp := jp_ne_self o (by omega) b
  have e1 : (0 < a ∧ a < nc) ∧ i = a ↔ i = a := by omega
  have e2 : (1 < a ∧ a ≤ nc) ∧ i = a - 1 ↔ i + 1 = a := by omega
  have e3 : a + 1 < nc ∧ i = a + 1 ↔ i = a + 1 := by omega
  rw [cval_nodeUpdates o nc hnc hnr]

  give_simp [triSlot_cMain, Mat.circle.injEq, hm, hp, hm.symm, hp.symm, guard_and e1, guard_and e2, guard_and e3]

/-- `sub_diagonal(j)` of circle `i` (entry `(j, j+1)`): "Top" of node `j` and "Bottom" of node `j + 1`, both stored through
    the row of the smaller index; the twins `(j+1, j)` hit no branch of the macro -/
theorem cval_cSub (hnc : 2 ≤ nc) (hnr : nc + 3 ≤ o.nr) (hnt : 3 ≤ o.nt) (i j a b : Nat) (hi0 : 0 < i) (hi : i < nc)
    (hj : j + 1 < o.nt) (hb : b < o.nt) :
    cval (.cSub i j) (nodeUpdates o nc a b) =
      (if i = a ∧ j + 1 = b then -(coeff3 o a b) * o.att a b else 0)
      + (if i = a ∧ j = b then -(coeff4 o a b) * o.att a b else 0) := by
  have f1 : ¬ b + 1 = jm o b := by rw [jm_eq o hb]; split <;> omega
  have f2 : j = jm o b ∧ jm o b + 1 = b ↔ j + 1 = b := by rw [jm_eq o hb]; split <;> omega
  have f3 : j = b ∧ b + 1 = jp o b ↔ j = b := by rw [jp_eq o hb]; split <;> omega
  have f4 : ¬ jp o b + 1 = b := by rw [jp_eq o hb]; split <;> omega
  have e1 : (0 < a ∧ a < nc) ∧ i = a ↔ i = a := by omega
  rw [cval_nodeUpdates o nc hnc hnr]
  give_simp [triSlot_cSub, Mat.circle.injEq, Nat.succ_ne_self, f1, f2, f3, f4, guard_and e1]

/-- `cyclic_corner_element()` of circle `i` (entry `(0, nt-1)`): "Bottom" of node `0` and "Top" of node `nt - 1` -/
theorem cval_cCorner (hnc : 2 ≤ nc) (hnr : nc + 3 ≤ o.nr) (hnt : 3 ≤ o.nt) (i a b : Nat) (hi0 : 0 < i) (hi : i < nc)
    (hb : b < o.nt) :
    cval (.cCorner i) (nodeUpdates o nc a b) =
      (if i = a ∧ 0 = b then -(coeff3 o a b) * o.att a b else 0)
      + (if i = a ∧ b + 1 = o.nt then -(coeff4 o a b) * o.att a b else 0) := by
  have g1 : b ≠ jm o b ∧ b + 1 ≠ jm o b ∧ b = 0 ∧ jm o b + 1 = o.nt ↔ 0 = b := by rw [jm_eq o hb]; split <;> omega
  have g2 : ¬ (jm o b = 0 ∧ b + 1 = o.nt) := by rw [jm_eq o hb]; split <;> omega
  have g3 : ¬ (b = 0 ∧ jp o b + 1 = o.nt) := by rw [jp_eq o hb]; split <;> omega
  have g4 : jp o b ≠ b ∧ jp o b + 1 ≠ b ∧ jp o b = 0 ∧ b + 1 = o.nt ↔ b + 1 = o.nt := by
    rw [jp_eq o hb]; split <;> omega
  have e1 : (0 < a ∧ a < nc) ∧ i = a ↔ i = a := by omega
  rw [cval_nodeUpdates o nc hnc hnr]
  give_simp [matCols, triSlot_cCorner, Mat.circle.injEq, ne_eq, not_true_eq_false, g1, g2, g3, g4, guard_and e1]

/-- `main_diagonal(t)` of radial line `j`, not the outer boundary row: the node `nc + t` itself, its angular neighbours, the
    nodes outside and inside on the same ray (for `t = 0` the latter lies on the last circle) -/
theorem cval_rMain (hnc : 2 ≤ nc) (hnr : nc + 3 ≤ o.nr) (j t a b : Nat) (ht : nc + t + 1 < o.nr) :
    cval (.rMain j t) (nodeUpdates o nc a b) =
      (if nc + t = a ∧ j = b then mass o a b + diag o a b else 0)
      + (if nc + t = a ∧ j = jm o b then coeff3 o a b * o.att a b else 0)
      + (if nc + t = a ∧ j = jp o b then coeff4 o a b * o.att a b else 0)
      + (if nc + t + 1 = a ∧ j = b then coeff1 o a b * o.arr a b else 0)
      + (if nc + t = a + 1 ∧ j = b then coeff2 o a b * o.arr a b else 0) := by
  have e1 : (nc ≤ a ∧ a + 1 < o.nr) ∧ t = a - nc ↔ nc + t = a := by omega
  have e2 : ¬ (a + 1 = o.nr ∧ t = a - nc) := by omega
  have e3 : (nc < a ∧ a < o.nr) ∧ t = a - 1 - nc ↔ nc + t + 1 = a := by omega
  have e4 : (nc ≤ a + 1 ∧ a + 2 < o.nr) ∧ t = a + 1 - nc ↔ nc + t = a + 1 := by omega
  rw [cval_nodeUpdates o nc hnc hnr]
  give_simp [triSlot_rMain, Mat.radial.injEq, Nat.succ_ne_self, Nat.ne_add_one, guard_and e1,
    guard_and (iff_false_intro e2), guard_and e3, guard_and e4]

/-- the outer boundary row of a radial line holds the literal `1.0` and nothing else -/
theorem cval_rMain_outer (hnc : 2 ≤ nc) (hnr : nc + 3 ≤ o.nr) (j t a b : Nat) (ht : nc + t + 1 = o.nr) :
    cval (.rMain j t) (nodeUpdates o nc a b) = if nc + t = a ∧ j = b then 1 else 0 := by
  have e1 : ¬ ((nc ≤ a ∧ a + 1 < o.nr) ∧ t = a - nc) := by omega
  have e2 : a + 1 = o.nr ∧ t = a - nc ↔ nc + t = a := by omega
  have e3 : ¬ ((nc < a ∧ a < o.nr) ∧ t = a - 1 - nc) := by omega
  have e4 : ¬ ((nc ≤ a + 1 ∧ a + 2 < o.nr) ∧ t = a + 1 - nc) := by omega
  rw [cval_nodeUpdates o nc hnc hnr]
  give_simp [triSlot_rMain, Mat.radial.injEq, Nat.succ_ne_self, Nat.ne_add_one, guard_and (iff_false_intro e1),
    guard_and e2, guard_and (iff_false_intro e3), guard_and (iff_false_intro e4), Scalar.n_one]

/-- `sub_diagonal(t)` of radial line `j` (entry `(t, t+1)`): "Right" of node `nc + t` and "Left" of node `nc + t + 1` -/
theorem cval_rSub (hnc : 2 ≤ nc) (hnr : nc + 3 ≤ o.nr) (j t a b : Nat) (ht : nc + t + 2 < o.nr) :
    cval (.rSub j t) (nodeUpdates o nc a b) =
      (if nc + t + 1 = a ∧ j = b then -(coeff1 o a b) * o.arr a b else 0)
      + (if nc + t = a ∧ j = b then -(coeff2 o a b) * o.arr a b else 0) := by
  have n2 : ∀ n : Nat, ¬ n + 1 + 1 = n := fun n => by omega
  have e1 : (nc < a ∧ a + 1 < o.nr) ∧ t = a - 1 - nc ↔ nc + t + 1 = a := by omega
  have e2 : (nc ≤ a ∧ a + 2 < o.nr) ∧ t = a - nc ↔ nc + t = a := by omega
  rw [cval_nodeUpdates o nc hnc hnr]
  give_simp [triSlot_rSub, Mat.radial.injEq, Nat.succ_ne_self, n2, guard_and e1, guard_and e2]

/-- nothing is stored towards the outer Dirichlet node -/
theorem cval_rSub_outer (hnc : 2 ≤ nc) (hnr : nc + 3 ≤ o.nr) (j t a b : Nat) (ht : nc + t + 2 = o.nr) :
    cval (.rSub j t) (nodeUpdates o nc a b) = 0 := by
  have n2 : ∀ n : Nat, ¬ n + 1 + 1 = n := fun n => by omega
  have e1 : ¬ ((nc < a ∧ a + 1 < o.nr) ∧ t = a - 1 - nc) := by omega
  have e2 : ¬ ((nc ≤ a ∧ a + 2 < o.nr) ∧ t = a - nc) := by omega
  rw [cval_nodeUpdates o nc hnc hnr]
  give_simp [triSlot_rSub, Mat.radial.injEq, Nat.succ_ne_self, n2, guard_and (iff_false_intro e1),
    guard_and (iff_false_intro e2)]

/-! ### the CSR cells of the innermost circle -/

/-- Dirichlet inner boundary: the only CSR cell of row `j` holds the literal `1.0` -/
theorem cval_innerD (hnc : 2 ≤ nc) (hnr : nc + 3 ≤ o.nr) (hbc : o.bc = true) (j a b : Nat) :
    cval (.inner j 0) (nodeUpdates o nc a b) = if 0 = a ∧ j = b then 1 else 0 := by
  rw [cval_nodeUpdates o nc hnc hnr]
  give_simp [triSlot_inner, hbc, Bool.not_true, Bool.false_eq_true, Slot.inner.injEq, if_true, Scalar.n_one]

/-- across the origin, CSR cell `0` ("Center") of row `j` -/
theorem cval_inner0 (hnc : 2 ≤ nc) (hnr : nc + 3 ≤ o.nr) (hbc : o.bc = false) (j a b : Nat) :
    cval (.inner j 0) (nodeUpdates o nc a b) =
      (if 0 = a ∧ j = b then mass o 0 b + diag o 0 b else 0)
      + (if 0 = a ∧ j = ja o b then coeff1 o 0 b * o.arr 0 b else 0)
      + (if 0 = a ∧ j = jm o b then coeff3 o 0 b * o.att 0 b else 0)
      + (if 0 = a ∧ j = jp o b then coeff4 o 0 b * o.att 0 b else 0)
      + (if 1 = a ∧ j = b then coeff1 o a b * o.arr a b else 0) := by
  rw [cval_nodeUpdates o nc hnc hnr]
  give_simp [triSlot_inner, hbc, Bool.not_false, Bool.false_eq_true, Slot.inner.injEq, Nat.reduceEqDiff, @eq_comm _ a 1]

/-- across the origin, CSR cell `1` ("Left": the antipode) of row `j` -/
theorem cval_inner1 (hnc : 2 ≤ nc) (hnr : nc + 3 ≤ o.nr) (hbc : o.bc = false) (j a b : Nat) :
    cval (.inner j 1) (nodeUpdates o nc a b) =
      (if 0 = a ∧ j = b then -(coeff1 o 0 b) * o.arr 0 b else 0)
      + (if 0 = a ∧ j = ja o b then -(coeff1 o 0 b) * o.arr 0 b else 0) := by
  rw [cval_nodeUpdates o nc hnc hnr]
  give_simp [triSlot_inner, hbc, Bool.not_false, Bool.false_eq_true, Slot.inner.injEq, Nat.reduceEqDiff]

/-- across the origin, CSR cell `2` ("Bottom") of row `j` -/
theorem cval_inner2 (hnc : 2 ≤ nc) (hnr : nc + 3 ≤ o.nr) (hbc : o.bc = false) (j a b : Nat) :
    cval (.inner j 2) (nodeUpdates o nc a b) =
      (if 0 = a ∧ j = b then -(coeff3 o 0 b) * o.att 0 b else 0)
      + (if 0 = a ∧ j = jp o b then -(coeff4 o 0 b) * o.att 0 b else 0) := by
  rw [cval_nodeUpdates o nc hnc hnr]
  give_simp [triSlot_inner, hbc, Bool.not_false, Bool.false_eq_true, Slot.inner.injEq, Nat.reduceEqDiff]

/-- across the origin, CSR cell `3` ("Top") of row `j` -/
theorem cval_inner3 (hnc : 2 ≤ nc) (hnr : nc + 3 ≤ o.nr) (hbc : o.bc = false) (j a b : Nat) :
    cval (.inner j 3) (nodeUpdates o nc a b) =
      (if 0 = a ∧ j = jm o b then -(coeff3 o 0 b) * o.att 0 b else 0)
      + (if 0 = a ∧ j = b then -(coeff4 o 0 b) * o.att 0 b else 0) := by
  rw [cval_nodeUpdates o nc hnc hnr]
  give_simp [triSlot_inner, hbc, Bool.not_false, Bool.false_eq_true, Slot.inner.injEq, Nat.reduceEqDiff]

end

/-- across the origin a row has four cells -/
theorem cval_inner_ge (o : Op K) (nc : Nat) (hnc : 2 ≤ nc) (hnr : nc + 3 ≤ o.nr) (j q a b : Nat) (hq : 4 ≤ q) :
    cval (.inner j q) (nodeUpdates o nc a b) = 0 := by
  have h0 : q ≠ 0 := by omega
  have h1 : q ≠ 1 := by omega
  have h2 : q ≠ 2 := by omega
  have h3 : q ≠ 3 := by omega
  rw [cval_nodeUpdates o nc hnc hnr]
  give_simp [triSlot_inner, Slot.inner.injEq, h0, h1, h2, h3]

theorem slotCol_eq (us : List (AUpd K)) (s : Slot) (C : Nat) (h1 : ∀ u ∈ us, u.1 = s → u.2.1 = C)
    (h2 : ∃ u ∈ us, u.1 = s) : slotCol us s = C := by
  have h : ∀ (l : List (AUpd K)) (e : Nat × K), l.foldl (fun acc u => if u.1 = s then u.2.1 else acc) e.1
      = (Scatter.cellFold (·.1 = s) (·.2.1) (·.2.2) e l).1 := by
    intro l
    induction l with
    | nil => intro e; rfl
    | cons u l ih =>
      intro e
      rw [List.foldl_cons, Scatter.cellFold_cons, ← ih]
      split <;> rfl
  exact (h us (0, 0)).trans (Scatter.cellFold_fst _ _ _ C us _ h1 (.inl h2))

section
variable (o : Op K) (nc : Nat)

/-- the column offset `q` of row `r` stands for -/
def expCol (r q : Nat) : Nat := if q = 0 then r else if q = 1 then ja o r else if q = 2 then jm o r else jp o r

/-- a store is consistent: if it goes to a CSR cell, its column is the one the cell's offset stands for -/
def ColOK (u : AUpd K) : Prop := ∀ r q, u.1 = .inner r q → u.2.1 = expCol o r q

omit [_root_.Field K] in
theorem colOK_tri (M : Mat) (row col : Nat) (v : K) : ∀ u ∈ tri o nc M row col v, ColOK o u := by
  intro u hu r q h
  unfold tri at hu
  cases hs : triSlot (matCols o nc M) M row col with
  | none => rw [hs] at hu; cases hu
  | some s =>
    rw [hs] at hu
    have : u = (s, col, v) := by simpa using hu
    subst this
    exact absurd (by rw [hs]; exact congrArg some h) (fun h' => (triSlot_inner _ M row col r q).mp h')

omit [_root_.Field K] in
theorem colOK_csr (row off col : Nat) (v : K) : (∀ u ∈ csr row off col v, ColOK o u) ↔ col = expCol o row off := by
  unfold csr ColOK
  simp only [List.mem_singleton, forall_eq, Slot.inner.injEq, and_imp]
  constructor
  · intro h; exact h row off rfl rfl
  · intro h r q h1 h2; subst h1; subst h2; exact h

/-- **every `COO_CSR_UPDATE` stores the column its offset stands for in its row** -/
theorem colOK_node (heven : o.nt % 2 = 0) (a b : Nat) (hb : b < o.nt) : ∀ u ∈ nodeUpdates o nc a b, ColOK o u := by
  have e1 : jp o (jm o b) = b := jp_jm o hb
  have e2 : jm o (jp o b) = b := jm_jp o hb
  have e3 : ja o (ja o b) = b := ja_ja o heven hb
  unfold nodeUpdates circleInterior radialInterior innerDirichlet innerAcross radialFirst radialNextOuter radialOuter
  split_ifs <;>
  simp only [List.forall_mem_append, fun M r c (v : K) => iff_true_intro (colOK_tri o nc M r c v), colOK_csr, expCol, and_self, if_true, if_false,
    e1, e2, e3, List.not_mem_nil, false_imp_iff, implies_true, OfNat.ofNat_ne_zero, one_ne_zero,
    (by decide : (3 : Nat) ≠ 2), (by decide : (2 : Nat) ≠ 1), (by decide : (3 : Nat) ≠ 1)]

theorem mem_allUpdates {a b : Nat} (ha : a < o.nr) (hb : b < o.nt) {u : AUpd K} (hu : u ∈ nodeUpdates o nc a b) :
    u ∈ allUpdates o nc :=
  List.mem_flatMap.mpr ⟨(a, b), DirectGiveCode.mem_nodeOrder o nc ha hb, hu⟩

theorem allUpdates_colOK (heven : o.nt % 2 = 0) : ∀ u ∈ allUpdates o nc, ColOK o u := by
  intro u hu
  obtain ⟨p, hp, hu⟩ := List.mem_flatMap.mp hu
  exact colOK_node o nc heven p.1 p.2 (DirectGiveCode.nodeOrder_snd o nc p hp) u hu

theorem slotCol_inner (hnr : nc + 3 ≤ o.nr) (heven : o.nt % 2 = 0) (j q : Nat) (hj : j < o.nt)
    (hq : q < if o.bc then 1 else 4) : slotCol (allUpdates o nc) (.inner j q) = expCol o j q := by
  apply slotCol_eq
  · intro u hu h
    exact allUpdates_colOK o nc heven u hu j q h
  · have hmem : ∀ u, u ∈ nodeUpdates o nc 0 j → u ∈ allUpdates o nc := fun u hu => mem_allUpdates o nc (by omega) hj hu
    have h0 := nodeUpdates_zero o nc j
    cases hbc : o.bc
    · rw [hbc] at hq h0
      simp only [Bool.false_eq_true, if_false] at hq h0
      rcases (by omega : q = 0 ∨ q = 1 ∨ q = 2 ∨ q = 3) with rfl | rfl | rfl | rfl
      · exact ⟨(.inner j 0, j, mass o 0 j), hmem _ (by rw [h0]; simp [innerAcross, csr]), rfl⟩
      · exact ⟨(.inner j 1, ja o j, -(coeff1 o 0 j) * o.arr 0 j), hmem _ (by rw [h0]; simp [innerAcross, csr]), rfl⟩
      · exact ⟨(.inner j 2, jm o j, -(coeff3 o 0 j) * o.att 0 j), hmem _ (by rw [h0]; simp [innerAcross, csr]), rfl⟩
      · exact ⟨(.inner j 3, jp o j, -(coeff4 o 0 j) * o.att 0 j), hmem _ (by rw [h0]; simp [innerAcross, csr]), rfl⟩
    · rw [hbc] at hq h0
      simp only [if_true] at hq h0
      have : q = 0 := by omega
      subst this
      exact ⟨(.inner j 0, j, Scalar.n 1), hmem _ (by rw [h0]; simp [innerDirichlet, csr]), rfl⟩

/-! ### no store leaves the allocated storage -/

/-- the cells that exist: circle solvers `1 … nc-1` of dimension `nt` (cyclic), radial solvers `0 … nt-1` of dimension
    `nr - nc` (not cyclic: no corner cell is ever addressed), CSR rows of 1 resp. 4 cells -/
def SlotInB : Slot → Prop
  | .cMain i j => 0 < i ∧ i < nc ∧ j < o.nt
  | .cSub i j => 0 < i ∧ i < nc ∧ j + 1 < o.nt
  | .cCorner i => 0 < i ∧ i < nc
  | .rMain j t => j < o.nt ∧ t < o.nr - nc
  | .rSub j t => j < o.nt ∧ t + 1 < o.nr - nc
  | .rCorner _ => False
  | .inner r q => r < o.nt ∧ q < (if o.bc then 1 else 4)

section
omit [_root_.Field K]

theorem inB_tri_circle (i row col : Nat) (v : K) (hi0 : 0 < i) (hi : i < nc) (hr : row < o.nt) (hc : col < o.nt) :
    ∀ u ∈ tri o nc (.circle i) row col v, SlotInB o nc u.1 := by
  intro u hu
  unfold tri triSlot at hu
  split_ifs at hu <;> simp only [List.mem_singleton, List.not_mem_nil] at hu <;> subst hu <;>
    simp only [SlotInB] <;> omega

theorem inB_tri_radial (j row col : Nat) (v : K) (hj : j < o.nt) (hr : row < o.nr - nc) (hc : col < o.nr - nc)
    (hadj : row = col ∨ row + 1 = col ∨ col + 1 = row) :
    ∀ u ∈ tri o nc (.radial j) row col v, SlotInB o nc u.1 := by
  intro u hu
  unfold tri triSlot matCols at hu
  split_ifs at hu <;> simp only [List.mem_singleton, List.not_mem_nil] at hu <;> (try subst hu) <;>
    simp only [SlotInB] <;> omega

theorem inB_csr (row off col : Nat) (v : K) (hr : row < o.nt) (hq : off < (if o.bc then 1 else 4)) :
    ∀ u ∈ csr row off col v, SlotInB o nc u.1 := by
  intro u hu
  unfold csr at hu
  simp only [List.mem_singleton] at hu
  subst hu
  exact ⟨hr, hq⟩

end

/-- **every store of every node addresses an allocated cell** -/
theorem inB_node (hnc : 2 ≤ nc) (hnr : nc + 3 ≤ o.nr) (a b : Nat) (hb : b < o.nt) :
    ∀ u ∈ nodeUpdates o nc a b, SlotInB o nc u.1 := by
  have hm := jm_lt o (by omega) b
  have hp := jp_lt o (by omega) b
  have hA := ja_lt o (by omega) b
  unfold nodeUpdates circleInterior radialInterior innerDirichlet innerAcross radialFirst radialNextOuter radialOuter
  split_ifs <;>
  simp only [List.forall_mem_append, List.not_mem_nil, false_imp_iff, implies_true, and_true] <;>
  (repeat' apply And.intro) <;>
  (first
    | (apply inB_tri_circle <;> omega)
    | (apply inB_tri_radial <;> omega)
    | (apply inB_csr <;> simp_all))

theorem allUpdates_inB (hnc : 2 ≤ nc) (hnr : nc + 3 ≤ o.nr) : ∀ u ∈ allUpdates o nc, SlotInB o nc u.1 := by
  intro u hu
  obtain ⟨p, hp, hu⟩ := List.mem_flatMap.mp hu
  exact inB_node o nc hnc hnr p.1 p.2 (DirectGiveCode.nodeOrder_snd o nc p hp) u hu

end
end SmootherGiveCode
