import GMGProofs.Lemmas.ConcreteCyc
import GMGProofs.Lemmas.ConcreteSweep
import GMGProofs.Lemmas.CycleExact
/-!
# The operators of `Concrete.ops H`: zero data, exact data, totality

Everything is phrased through `lvl H l`, so that no shape relation between the levels or with the transfer pairs is assumed.
Zero goes to zero through every operator (`0 / d = 0` in the sparse LU, linear transfers, `take o 0 0 = 0`), the residual of an
exact solution is the zero array, a sweep fixes an exact solution.  "Present and of the level's size" (`PU`) is preserved by every
operator when the smoothing levels have a Dirichlet inner boundary and the coarse `tiny` test is silent.  On right-hand sides
(`QFL`) the size is only asked for on the coarsest level, where the direct solver returns a vector of the size of its right-hand
side; a sweep, a residual and every transfer read their arguments through `fld` and return arrays of the level's size whatever
the size of the right-hand side is.  Hence nested iteration never ends in `none`.
-/
namespace Concrete
open Stencil Scalar MGCycle SparseLU

section AnyScalar
variable {α : Type} [Scalar α]

theorem cycle_plain_eq (H : Hier α) (c : Cfg) (k : Kind) (fgs : Bool) (m : Mem (Option (Array α))) {u f : Option (Array α)}
    (hm : m (0, .sol) = u) (hr : m (0, .rhs) = f) :
    cycle H c k false fgs m (0, .sol) = cyc (ops H) c k (c.levels - 1) 0 u f :=
  exec_cycleAt_plain (ops H) c k fgs m hm hr

theorem cycle_ex_eq (H : Hier α) (c : Cfg) (k : Kind) (fgs : Bool) (m : Mem (Option (Array α))) {u f f1 : Option (Array α)}
    (hm : m (0, .sol) = u) (hr : m (0, .rhs) = f) (hr1 : m (1, .rhs) = f1) :
    cycle H c k true fgs m (0, .sol) = excyc (ops H) c k fgs u f f1 :=
  exec_cycleAt_ex (ops H) c k fgs m hm hr hr1

end AnyScalar

section AnyField
variable {K : Type} [_root_.Field K]

/-! ### the operators on present vectors -/

theorem ops_resid_some (H : Hier K) (l : Nat) (f x : Array K) :
    (ops H).resid l (some f) (some x) = some (ofFld H l (take (lvl H l).op (fld H l f) (fld H l x))) := rfl

theorem ops_restrict_some (H : Hier K) (l : Nat) (a : Array K) :
    (ops H).restrict l (some a) = some (ofFld H (l + 1) (Interp.restrict (pair H l) (fld H l a))) := rfl

theorem ops_inject_some (H : Hier K) (l : Nat) (a : Array K) :
    (ops H).inject l (some a) = some (ofFld H (l + 1) (Interp.inject (fld H l a))) := rfl

theorem ops_solve_some (H : Hier K) (l : Nat) (b : Array K) :
    (ops H).solve l (some b) =
      (DirectCode.solve H.tables (lvl H l).op H.tiny b.toList).bind fun r => r.map fun xs => xs.toArray := rfl

theorem ops_add_some (H : Hier K) (x y : Array K) : (ops H).add (some x) (some y) = some (addArr x y) := by
  show some (Array.ofFn (n := x.size) fun p => x[p] + y.getD p.val (n 0)) = some (addArr x y)
  rw [Scalar.n_zero]
  rfl

theorem ofFld_size (H : Hier K) (l : Nat) (g : Stencil.Field K) :
    (ofFld H l g).size = (lvl H l).op.nr * (lvl H l).op.nt := Array.size_ofFn

theorem fld_ofFld_grid (H : Hier K) (l : Nat) (g : Stencil.Field K) (i j : Nat) (hi : i < (lvl H l).op.nr)
    (hj : j < (lvl H l).op.nt) : fld H l (ofFld H l g) i j = g i j := SmootherCode.fld_ofField _ _ g i j hi hj

/-! ### the coarse direct solve -/

theorem directSolve_length (T : DirectCode.Tables) (o : Op K) (tiny : K → Bool) (b xs : List K)
    (h : DirectCode.solve T o tiny b = some (some xs)) : xs.length = b.length := by
  unfold DirectCode.solve at h
  obtain ⟨M, _, hM⟩ := Option.map_eq_some_iff.mp h
  exact solve_length tiny _ b xs hM

theorem ops_solve_eq_some (H : Hier K) (l : Nat) (b a : Array K) (h : (ops H).solve l (some b) = some a) :
    ∃ xs, DirectCode.solve H.tables (lvl H l).op H.tiny b.toList = some (some xs) ∧ a = xs.toArray ∧ xs.length = b.size := by
  rw [ops_solve_some] at h
  obtain ⟨r, hr, h'⟩ := Option.bind_eq_some_iff.mp h
  obtain ⟨xs, rfl, rfl⟩ := Option.map_eq_some_iff.mp h'
  exact ⟨xs, hr, rfl, by rw [directSolve_length _ _ _ _ _ hr, Array.length_toList]⟩

/-- the assembly of the direct solver on level `l` stays in bounds and `tiny` fires on none of the pivots -/
def CoarseOK (H : Hier K) (l : Nat) : Prop :=
  ∃ M, DirectCode.assemble H.tables (lvl H l).op = some M ∧
    ∀ r, r < M.rows → H.tiny (den ((factorRows M).2.getD r []) r) = false

theorem ops_solve_total (H : Hier K) (l : Nat) (hc : CoarseOK H l) (b : Array K) :
    ∃ a : Array K, (ops H).solve l (some b) = some a ∧ a.size = b.size := by
  obtain ⟨M, hM, ht⟩ := hc
  obtain ⟨xs, h1, h2⟩ := solve_total H.tiny M ht b.toList
  refine ⟨xs.toArray, ?_, by rw [List.size_toArray, h2, Array.length_toList]⟩
  rw [ops_solve_some]
  unfold DirectCode.solve
  rw [hM, Option.map_some, h1]
  rfl

/-- level 1 is Dirichlet as a smoothing level (`L ≥ 3`); on two levels that, or two radial nodes, is asked for -/
theorem lvl1_bc_or_nr (H : Hier K) {L : Nat} (hbc : ∀ l, l + 1 < L → (lvl H l).op.bc = true)
    (hnr1 : L = 2 → (lvl H 1).op.bc = true ∨ 2 ≤ (lvl H 1).op.nr) (hL : 2 ≤ L) :
    (lvl H 1).op.bc = true ∨ 2 ≤ (lvl H 1).op.nr := by
  by_cases h2 : L = 2
  · exact hnr1 h2
  · exact Or.inl (hbc 1 (by omega))

/-! ### zero through every operator -/

def zeroArr (H : Hier K) (l : Nat) : Array K := Array.replicate (nrOf H l * ntOf H l) 0

theorem ops_zero_eq (H : Hier K) (l : Nat) : (ops H).zero l = some (zeroArr H l) := by
  show some (Array.replicate _ (n 0)) = some (Array.replicate _ 0)
  rw [Scalar.n_zero]

theorem zeroArr_size (H : Hier K) (l : Nat) : (zeroArr H l).size = (lvl H l).op.nr * (lvl H l).op.nt :=
  Array.size_replicate

theorem ofFld_zero (H : Hier K) (l l' : Nat) (T : Stencil.Field K → Stencil.Field K)
    (hT : T (fun _ _ => 0) = fun _ _ => 0) : ofFld H l' (T (fld H l (zeroArr H l))) = zeroArr H l' := by
  unfold ofFld fld zeroArr
  rw [fld_replicate_zero, hT, ofField_zero]

theorem ops_restrict_zero (H : Hier K) (l : Nat) : (ops H).restrict l (some (zeroArr H l)) = some (zeroArr H (l + 1)) :=
  congrArg some (ofFld_zero H l (l + 1) _ (restrict_zero _))

theorem ops_exRestrict_zero (H : Hier K) (l : Nat) : (ops H).exRestrict l (some (zeroArr H l)) = some (zeroArr H (l + 1)) :=
  congrArg some (ofFld_zero H l (l + 1) _ (exRestrict_zero _))

theorem ops_prolong_zero (H : Hier K) (l : Nat) : (ops H).prolong (l + 1) (some (zeroArr H (l + 1))) = some (zeroArr H l) :=
  congrArg some (ofFld_zero H (l + 1) l _ (prolong_zero _))

theorem ops_exProlong_zero (H : Hier K) (l : Nat) :
    (ops H).exProlong (l + 1) (some (zeroArr H (l + 1))) = some (zeroArr H l) :=
  congrArg some (ofFld_zero H (l + 1) l _ (exProlong_zero _))

theorem ops_add_zero (H : Hier K) (u : Array K) (l : Nat) : (ops H).add (some u) (some (zeroArr H l)) = some u := by
  rw [ops_add_some]
  exact congrArg some (addArr_zero u _)

theorem ops_lin43_zero (H : Hier K) (l : Nat) :
    (ops H).lin43 (some (zeroArr H l)) (some (zeroArr H l)) = some (zeroArr H l) :=
  congrArg some (Array.ext (by simp) fun p h1 h2 => by
    simp only [Array.getElem_ofFn, zeroArr, Fin.getElem_fin, Array.getElem_replicate, Scalar.n_zero, getD_replicate_zero,
      mul_zero, add_zero])

theorem ops_solve_zero (H : Hier K) (l : Nat) (hc : CoarseOK H l) : (ops H).solve l ((ops H).zero l) = (ops H).zero l := by
  obtain ⟨M, hM, ht⟩ := hc
  rw [ops_zero_eq, ops_solve_some]
  unfold DirectCode.solve zeroArr
  rw [hM, Array.toList_replicate, Option.map_some, solve_zero H.tiny M ht]
  simp

def Solves (H : Hier K) (l : Nat) (f u : Array K) : Prop :=
  ∀ i j, i < (lvl H l).op.nr → j < (lvl H l).op.nt → take (lvl H l).op (fld H l f) (fld H l u) i j = 0

def InjSolves (H : Hier K) (f1 u : Array K) : Prop :=
  ∀ i j, i < (lvl H 1).op.nr → j < (lvl H 1).op.nt →
    take (lvl H 1).op (fld H 1 f1) (Interp.inject (fld H 0 u)) i j = 0

theorem solves_zero (H : Hier K) (l : Nat) : Solves H l (zeroArr H l) (zeroArr H l) := fun i j _ _ => by
  unfold fld zeroArr
  rw [fld_replicate_zero]
  exact take_zero_zero _ i j

theorem ops_resid_zero (H : Hier K) (l : Nat) (f u : Array K) (hsol : Solves H l f u) :
    (ops H).resid l (some f) (some u) = some (zeroArr H l) :=
  congrArg some (ofField_eq_replicate _ _ _ hsol)

theorem ops_resid_inject_zero (H : Hier K) (u f1 : Array K) (h01 : (lvl H 1).op.bc = true ∨ 2 ≤ (lvl H 1).op.nr)
    (hsol1 : InjSolves H f1 u) : (ops H).resid 1 (some f1) ((ops H).inject 0 (some u)) = some (zeroArr H 1) := by
  rw [ops_inject_some, ops_resid_some]
  refine congrArg some (ofField_eq_replicate _ _ _ fun i j hi hj => ?_)
  exact (take_congr_grid' (lvl H 1).op _ _ _ h01 (SmootherCode.fld_ofField _ _ _) i j hi hj).trans
    (hsol1 i j hi hj)

theorem ops_exrhs_zero (H : Hier K) (u f f1 : Array K) (hsol : Solves H 0 f u)
    (h01 : (lvl H 1).op.bc = true ∨ 2 ≤ (lvl H 1).op.nr) (hsol1 : InjSolves H f1 u) :
    exRhs (ops H) (some f) (some f1) (some u) = (ops H).zero 1 := by
  unfold exRhs
  rw [ops_resid_inject_zero H u f1 h01 hsol1, ops_resid_zero H 0 f u hsol, ops_exRestrict_zero, ops_lin43_zero, ops_zero_eq]

/-! ### present and right-sized -/

def PU (H : Hier K) (l : Nat) (v : Option (Array K)) : Prop :=
  ∃ a, v = some a ∧ a.size = (lvl H l).op.nr * (lvl H l).op.nt

def QFL (H : Hier K) (L : Nat) (l : Nat) (v : Option (Array K)) : Prop :=
  ∃ a, v = some a ∧ (l = L - 1 → a.size = (lvl H l).op.nr * (lvl H l).op.nt)

theorem PU_of_total (H : Hier K) (l : Nat) {v : Option (Array K)} {x : Array K}
    (hx : x.size = (lvl H l).op.nr * (lvl H l).op.nt) (ht : ∃ y, v = some y) (hs : ∀ y, v = some y → y.size = x.size) :
    PU H l v := by
  obtain ⟨y, hy⟩ := ht
  exact ⟨y, hy, (hs y hy).trans hx⟩

/-- **the operators of the concrete model preserve "present and right-sized"**: with a Dirichlet inner boundary the only way a
    sweep can leave is the sparse LU of the innermost circle, whose pivots are then 1 -/
theorem opsInvL (H : Hier K) (L nu1 nu2 : Nat) (hbc : ∀ l, l + 1 < L → (lvl H l).op.bc = true) (ht1 : H.tiny 1 = false)
    (hc : CoarseOK H (L - 1)) : OpsInv (ops H) ⟨L, nu1, nu2⟩ (PU H) (QFL H L) := by
  refine ⟨?_, ?_, ?_, fun l => ⟨_, rfl, Array.size_replicate⟩, ?_⟩
  · rintro l _ _ hl ⟨x, rfl, hx⟩ ⟨f, rfl, _⟩
    exact PU_of_total H l hx (C06d.code_sweep_total_dirichlet _ _ H.tiny ht1 (fld H l f) x
      (hbc l (by have : l < L - 1 := hl; omega))) (C06c.sweep_size _ _ _ _ x)
  · rintro l _ _ _ ⟨f, rfl, _⟩ ⟨x, rfl, _⟩
    exact ⟨_, rfl, fun _ => ofFld_size H (l + 1) _⟩
  · rintro _ ⟨b, rfl, hb⟩
    obtain ⟨a, h1, h2⟩ := ops_solve_total H (L - 1) hc b
    exact ⟨a, h1, h2.trans (hb rfl)⟩
  · rintro l _ _ _ ⟨x, rfl, hx⟩ ⟨e, rfl, _⟩
    exact ⟨_, ops_add_some H x _, by rw [addArr_size, hx]⟩

/-- the extra steps of the implicitly extrapolated cycle preserve "present and right-sized": Dirichlet inner boundary on level 0
    (both level-0 smoothers then only meet pivots 1), `tiny 1 = false`; the level-1 right-hand side has to be present -/
theorem exOpsInvU (H : Hier K) (L : Nat) (fgs : Bool) (hbc0 : (lvl H 0).op.bc = true) (ht1 : H.tiny 1 = false) :
    ExOpsInvR (ops H) fgs (PU H) (QFL H L) (fun v => ∃ a, v = some a) := by
  refine ⟨?_, ?_, ?_⟩
  · rintro _ _ ⟨x, rfl, hx⟩ ⟨f, rfl, _⟩
    cases fgs
    · exact PU_of_total H 0 hx (exsweep_total_dirichlet _ _ H.tiny ht1 (fld H 0 f) x hbc0) (C07c.sweep_size _ _ _ _ x)
    · exact PU_of_total H 0 hx (C06d.code_sweep_total_dirichlet _ _ H.tiny ht1 (fld H 0 f) x hbc0) (C06c.sweep_size _ _ _ _ x)
  · rintro _ _ _ ⟨f, rfl, _⟩ ⟨f1, rfl⟩ ⟨x, rfl, _⟩
    exact ⟨_, rfl, fun _ => by rw [Array.size_ofFn]; exact ofFld_size H (0 + 1) _⟩
  · rintro _ _ ⟨x, rfl, hx⟩ ⟨e, rfl, _⟩
    exact ⟨_, ops_add_some H x _, by rw [addArr_size, hx]⟩

theorem ops_fmgInterp_PU (H : Hier K) (l : Nat) (a : Array K) : PU H l ((ops H).fmgInterp (l + 1) (some a)) :=
  ⟨_, rfl, ofFld_size H l _⟩

/-- **nested iteration over the code-level operators is total** (plain and extrapolated, any depth, any FMG cycle type and count):
    the right-hand side of the coarsest level present, those of the other levels present if FMG cycles are run (any sizes) -/
theorem ops_start_total (H : Hier K) (L : Nat) (hL : 2 ≤ L) (fk : Kind) (fi nu1 nu2 : Nat) (ex fgs : Bool)
    (hbc : ∀ l, l + 1 < L → (lvl H l).op.bc = true) (ht1 : H.tiny 1 = false) (hc : CoarseOK H (L - 1))
    (g : Nat → Option (Array K)) (hg : ∀ l, l < L → (l + 1 < L → 0 < fi) → ∃ f, g l = some f) :
    PU H 0 (fmgSpec (ops H) ⟨L, nu1, nu2⟩ fk fi ex fgs g (L - 1) ((ops H).solve (L - 1) (g (L - 1)))) := by
  -- when every level right-hand side is present
  have aux : ∀ (fi : Nat) (g : Nat → Option (Array K)), (∀ l, l < L → ∃ f, g l = some f) →
      PU H 0 (fmgSpec (ops H) ⟨L, nu1, nu2⟩ fk fi ex fgs g (L - 1) ((ops H).solve (L - 1) (g (L - 1)))) := by
    intro fi g hg
    have I := opsInvL H L nu1 nu2 hbc ht1 hc
    obtain ⟨b, hb⟩ := hg (L - 1) (by omega)
    obtain ⟨a, hs, _⟩ := ops_solve_total H (L - 1) hc b
    obtain ⟨n, rfl⟩ : ∃ n, L = n + 2 := ⟨L - 2, by omega⟩
    have hex : ex = true → ExOpsInvR (ops H) fgs (PU H) (QFL H (n + 2)) (fun v => ∃ a, v = some a) ∧ ∃ a, g 1 = some a :=
      fun _ => ⟨exOpsInvU H (n + 2) fgs (hbc 0 (by omega)) ht1, hg 1 (by omega)⟩
    have hQ : ∀ l, l < n + 2 - 1 → QFL H (n + 2) l (g l) := fun l hl => by
      obtain ⟨f, hf⟩ := hg l (by omega)
      exact ⟨f, hf, fun h => by omega⟩
    have hn : n < n + 2 - 1 := by omega
    rw [hb, hs]
    show PU H 0 (fmgSpec (ops H) ⟨n + 2, nu1, nu2⟩ fk fi ex fgs g (n + 1) (some a))
    rw [fmgSpec_succ]
    exact fmgSpec_inv I ex g hex fk fi (fun l s _ hs => by obtain ⟨a, rfl, _⟩ := hs; exact ops_fmgInterp_PU H l a) hQ
      n _ (Nat.le_of_lt hn)
      (iter_inv (fun v hv => cycleSpec_inv I ex g hex fk hn hv (hQ n hn)) fi (ops_fmgInterp_PU H n a))
  rcases Nat.eq_zero_or_pos fi with rfl | hfi
  · obtain ⟨b, hb⟩ := hg (L - 1) (by omega) (fun h => by omega)
    rw [fmgSpec_zero_rhs _ _ _ _ _ g (fun _ => some b), hb]
    exact aux 0 (fun _ => some b) (fun _ _ => ⟨b, rfl⟩)
  · exact aux fi g (fun l hl => hg l hl (fun _ => hfi))

/-! ### an absent iterate stays absent -/

theorem ops_cyc_none (H : Hier K) (c : Cfg) : ∀ (fuel : Nat) (k : Kind) (d : Nat) (f : Option (Array K)),
    cyc (ops H) c k fuel d none f = none
  | 0, k, d, f => cyc_zero _ _ _ _ _ _
  | fuel + 1, k, d, f => by
      rw [cyc_succ_twoGrid]
      exact twoGrid_inv (P := (· = none)) (fun _ h => by rw [h]; rfl) (fun _ h => by rw [h]; rfl) _ _ rfl

theorem ops_excyc_none (H : Hier K) (c : Cfg) (k : Kind) (fgs : Bool) (f f1 : Option (Array K)) :
    excyc (ops H) c k fgs none f f1 = none := by
  rw [excyc_twoGrid]
  exact twoGrid_inv (P := (· = none)) (fun _ h => by rw [h]; cases fgs <;> rfl) (fun _ h => by rw [h]; rfl) _ _ rfl

theorem ops_fmgSpec_none (H : Hier K) (c : Cfg) (fk : Kind) (fi : Nat) (ex fgs : Bool) (g : Nat → Option (Array K)) :
    ∀ cur, fmgSpec (ops H) c fk fi ex fgs g cur none = none
  | 0 => rfl
  | cur + 1 => by
      have hfix : ∀ n, iter (cycleSpec (ops H) c fk (exAt ex cur) fgs g cur) n none = none := fun n => by
        apply iter_fixed
        unfold cycleSpec
        split
        · exact ops_excyc_none H c fk fgs _ _
        · exact ops_cyc_none H c _ fk cur _
      rw [fmgSpec_succ, show (ops H).fmgInterp (cur + 1) none = none from rfl, hfix]
      exact ops_fmgSpec_none H c fk fi ex fgs g cur

end AnyField

section Ordered
variable {K : Type} [_root_.Field K] [LinearOrder K] [IsStrictOrderedRing K]

theorem ops_smooth_fixed (H : Hier K) (l : Nat) (h : LevelHyp (lvl H l)) (ht1 : H.tiny 1 = false) (u f : Array K)
    (hu : u.size = (lvl H l).op.nr * (lvl H l).op.nt) (hsol : Solves H l f u) :
    (ops H).smooth l (some u) (some f) = some u :=
  (sweepLaw (lvl H l) h H.tiny ht1).fixed_arr _ u hu fun i j hi hj _ => hsol i j hi hj

/-- **`ZeroData` for the concrete operators**: the levels `1 … L-2` smooth, the level `L-1` solves directly -/
theorem zeroData_depth (H : Hier K) (L nu1 nu2 : Nat) (hlev : ∀ l, l + 1 < L → LevelHyp (lvl H l)) (ht1 : H.tiny 1 = false)
    (hc : CoarseOK H (L - 1)) : ZeroData (ops H) ⟨L, nu1, nu2⟩ 1 := by
  refine ⟨fun l _ h2 => ?_, fun l _ _ => ?_, fun _ => ops_solve_zero H (L - 1) hc, fun l _ _ => ?_⟩
  · rw [ops_zero_eq]
    exact ops_smooth_fixed H l (hlev l (by have : l < L - 1 := h2; omega)) ht1 _ _ (zeroArr_size H l) (solves_zero H l)
  · rw [ops_zero_eq, ops_resid_zero H l _ _ (solves_zero H l), ops_restrict_zero, ops_zero_eq]
  · rw [ops_zero_eq, ops_zero_eq, ops_prolong_zero, ops_add_zero]

theorem exactData_depth (H : Hier K) (L nu1 nu2 : Nat) (hL : 2 ≤ L) (u f : Array K)
    (hlev : ∀ l, l + 1 < L → LevelHyp (lvl H l)) (ht1 : H.tiny 1 = false) (hc : CoarseOK H (L - 1))
    (hu : u.size = (lvl H 0).op.nr * (lvl H 0).op.nt) (hsol : Solves H 0 f u) :
    ExactData (ops H) ⟨L, nu1, nu2⟩ 0 (some u) (some f) :=
  ⟨ops_smooth_fixed H 0 (hlev 0 (by omega)) ht1 u f hu hsol,
    by rw [ops_resid_zero H 0 f u hsol, ops_restrict_zero, ops_zero_eq],
    by rw [ops_zero_eq, ops_prolong_zero, ops_add_zero], zeroData_depth H L nu1 nu2 hlev ht1 hc⟩

theorem exExactData (H : Hier K) (L nu1 nu2 : Nat) (hL : 2 ≤ L) (fgs : Bool) (u f f1 : Array K)
    (hlev : ∀ l, l + 1 < L → LevelHyp (lvl H l)) (hodd : fgs = false → (lvl H 0).op.nr % 2 = 1) (ht1 : H.tiny 1 = false)
    (hc : CoarseOK H (L - 1)) (hu : u.size = (lvl H 0).op.nr * (lvl H 0).op.nt) (hsol : Solves H 0 f u)
    (h01 : (lvl H 1).op.bc = true ∨ 2 ≤ (lvl H 1).op.nr) (hsol1 : InjSolves H f1 u) :
    ExExactData (ops H) ⟨L, nu1, nu2⟩ fgs (some u) (some f) (some f1) :=
  ⟨by
    cases fgs
    · exact (exSweepLaw (lvl H 0) (hlev 0 (by omega)) (hodd rfl) H.tiny ht1).fixed_arr _ u hu fun i j hi hj _ => hsol i j hi hj
    · exact ops_smooth_fixed H 0 (hlev 0 (by omega)) ht1 u f hu hsol,
   ops_exrhs_zero H u f f1 hsol h01 hsol1, by rw [ops_zero_eq, ops_exProlong_zero, ops_add_zero],
   zeroData_depth H L nu1 nu2 hlev ht1 hc⟩

end Ordered
end Concrete
