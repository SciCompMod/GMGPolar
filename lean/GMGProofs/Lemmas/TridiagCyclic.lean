import GMGProofs.Lemmas.TridiagSPD
/-!
# The cyclic tridiagonal solver: Sherman–Morrison on lists (C14)
-/
namespace Tridiag

section Lists
variable {α : Type}

@[simp] theorem setHead_length (xs : List α) (f : α → α) : (setHead xs f).length = xs.length := by
  cases xs <;> simp [setHead]

@[simp] theorem setLast_length : ∀ (xs : List α) (f : α → α), (setLast xs f).length = xs.length
  | [], _ => rfl
  | [_], _ => rfl
  | x :: y :: ys, f => by simp [setLast, setLast_length (y :: ys) f]

theorem setLast_cons_of_ne_nil (x : α) {T : List α} (h : T ≠ []) (f : α → α) :
    setLast (x :: T) f = x :: setLast T f := by
  cases T with
  | nil => exact absurd rfl h
  | cons y ys => rfl

theorem setLast_setLast : ∀ (xs : List α) (f g : α → α),
    setLast (setLast xs f) g = setLast xs (fun v => g (f v))
  | [], _, _ => rfl
  | [_], _, _ => rfl
  | x :: y :: ys, f, g => by
      have hne : setLast (y :: ys) f ≠ [] := List.ne_nil_of_length_eq_add_one (n := ys.length) (by simp)
      show setLast (x :: setLast (y :: ys) f) g = x :: setLast (y :: ys) _
      rw [setLast_cons_of_ne_nil x hne, setLast_setLast (y :: ys) f g]

theorem setLast_setHead_twice (T : List α) (h : 2 ≤ T.length) (f1 f2 g1 g2 : α → α) :
    setLast (setHead (setLast (setHead T f1) f2) g1) g2
      = setLast (setHead T (fun v => g1 (f1 v))) (fun v => g2 (f2 v)) := by
  match T, h with
  | t0 :: t1 :: ts, _ =>
    have hne : setLast (t1 :: ts) f2 ≠ [] := List.ne_nil_of_length_eq_add_one (n := ts.length) (by simp)
    show setLast (setHead (f1 t0 :: setLast (t1 :: ts) f2) g1) g2 = g1 (f1 t0) :: setLast (t1 :: ts) _
    show setLast (g1 (f1 t0) :: setLast (t1 :: ts) f2) g2 = _
    rw [setLast_cons_of_ne_nil _ hne, setLast_setLast]
  | [], h => simp at h
  | [_], h => simp at h

theorem getLastD_cons_cons (x y : α) (ys : List α) (d : α) :
    (x :: y :: ys).getLastD d = (y :: ys).getLastD d := by
  simp

theorem zipWith_cancel {β : Type} (g : α → β → α) (h : α → β → α) (hc : ∀ s t, g (h s t) t = s) :
    ∀ (y : List α) (u : List β), y.length = u.length → List.zipWith g (List.zipWith h y u) u = y
  | [], [], _ => rfl
  | y :: ys, u :: us, hl => by
      simp only [List.zipWith_cons_cons, hc]
      rw [zipWith_cancel g h hc ys us (by simpa using hl)]
  | [], _ :: _, hl => by simp at hl
  | _ :: _, [], hl => by simp at hl

theorem getLastD_zipWith {β γ : Type} (f : α → β → γ) : ∀ (x : α) (xs : List α) (u : β) (us : List β)
    (d : γ), xs.length = us.length →
    (List.zipWith f (x :: xs) (u :: us)).getLastD d = f ((x :: xs).getLastD x) ((u :: us).getLastD u)
  | x, [], u, [], d, _ => by simp
  | x, x' :: xs, u, u' :: us, d, hl => by
      have ih := getLastD_zipWith f x' xs u' us d (by simpa using hl)
      simp only [List.zipWith_cons_cons, List.getLastD_cons] at ih ⊢
      exact ih
  | _, [], _, _ :: _, _, hl => by simp at hl
  | _, _ :: _, _, [], _, hl => by simp at hl

end Lists

/-! ### the tridiagonal product under updates of the diagonal, and linearity -/
section Field
variable {K : Type} [Field K]

theorem mulT_length (a b x : List K) (h1 : a.length = x.length) (h2 : b.length + 1 = a.length) :
    ∀ p : K, (mulT a b x p).length = a.length := by
  refine tri_induction (motive := fun a b x => ∀ p : K, (mulT a b x p).length = a.length) ?_ ?_ a b x h1 h2
  · intro a x p; simp [mulT]
  · intro a a' as b bs x x' xs _ _ ih p
    simp only [mulT, List.length_cons, ih]

theorem mulT_setLast_sub (d : K) (a b x : List K) (h1 : a.length = x.length)
    (h2 : b.length + 1 = a.length) (p : K) :
    mulT (setLast a (fun v => v - d)) b x p
      = setLast (mulT a b x p) (fun v => v - d * x.getLastD 0) := by
  refine tri_induction (motive := fun a b x => ∀ p : K,
    mulT (setLast a (fun v => v - d)) b x p = setLast (mulT a b x p) (fun v => v - d * x.getLastD 0))
    ?_ ?_ a b x h1 h2 p
  · intro a x p; simp only [setLast, mulT, List.getLastD_cons, List.getLastD_nil]; congr 1; ring
  · intro a a' as b bs x x' xs hx hb ih p
    have hne : mulT (a' :: as) bs (x' :: xs) (b * x) ≠ [] :=
      List.ne_nil_of_length_eq_add_one (n := as.length)
        (by rw [mulT_length _ _ _ (by simp [hx]) (by simp [hb])]; simp)
    show mulT (a :: setLast (a' :: as) _) (b :: bs) (x :: x' :: xs) p = _
    simp only [mulT]
    rw [setLast_cons_of_ne_nil _ hne, ih, getLastD_cons_cons]

/-- linearity of the product in the vector (with the carries combined in the same way) -/
theorem mulT_axpy (f : K) (a b x : List K) (h1 : a.length = x.length) (h2 : b.length + 1 = a.length) :
    ∀ (u : List K) (p1 p2 : K), u.length = x.length →
      mulT a b (List.zipWith (fun xi ui => xi - f * ui) x u) (p1 - f * p2)
        = List.zipWith (fun s t => s - f * t) (mulT a b x p1) (mulT a b u p2) := by
  refine tri_induction (motive := fun a b x => ∀ (u : List K) (p1 p2 : K), u.length = x.length →
      mulT a b (List.zipWith (fun xi ui => xi - f * ui) x u) (p1 - f * p2)
        = List.zipWith (fun s t => s - f * t) (mulT a b x p1) (mulT a b u p2)) ?_ ?_ a b x h1 h2
  · intro a x u p1 p2 hu
    obtain ⟨u, rfl⟩ := List.length_eq_one_iff.mp hu
    simp only [List.zipWith_cons_cons, List.zipWith_nil_right, mulT]; congr 1; ring
  · intro a a' as b bs x x' xs _ _ ih u p1 p2 hu
    match u, hu with
    | u :: u' :: us, hu =>
      have := ih (u' :: us) (b * x) (b * u) (by simpa using hu)
      have e : b * (x - f * u) = b * x - f * (b * u) := by ring
      simp only [List.zipWith_cons_cons, mulT] at this ⊢
      rw [e, this]; congr 1; ring
    | [], hu => simp at hu
    | [_], hu => simp at hu

theorem zipWith_replicate_last (v c : K) : ∀ (m : Nat) (T : List K), T.length = m + 1 →
    List.zipWith (fun t u => t + u * v) T (List.replicate m 0 ++ [c]) = setLast T (fun t => t + c * v)
  | 0, T, h => by obtain ⟨t, rfl⟩ := List.length_eq_one_iff.mp h; simp [setLast]
  | m + 1, T, h => by
      obtain ⟨t, T, rfl⟩ := List.exists_cons_of_length_eq_add_one h
      have hT : T.length = m + 1 := by simpa using h
      rw [List.replicate_succ, List.cons_append, List.zipWith_cons_cons, zipWith_replicate_last v c m T hT,
        setLast_cons_of_ne_nil _ (List.ne_nil_of_length_eq_add_one hT), zero_mul, add_zero]

theorem uRhs_length (n : Nat) (g c : K) : (uRhs n g c).length = n := by
  match n with
  | 0 => rfl
  | 1 => rfl
  | n + 2 => simp [uRhs]

/-- `T + u vᵀ` only touches the first and the last row -/
theorem zipWith_uRhs (v g c : K) (T : List K) (n : Nat) (h : T.length = n) (hn : 2 ≤ n) :
    List.zipWith (fun t u => t + u * v) T (uRhs n g c)
      = setLast (setHead T (fun t => t + g * v)) (fun t => t + c * v) := by
  obtain ⟨m, rfl⟩ : ∃ m, n = m + 2 := ⟨n - 2, by omega⟩
  match T, h with
  | t0 :: t1 :: ts, h =>
    simp only [uRhs, Scalar.n_zero, List.zipWith_cons_cons]
    rw [zipWith_replicate_last v c m (t1 :: ts) (by simpa using h)]
    rfl
  | [], h => simp at h
  | [_], h => simp at h

/-! ### Sherman–Morrison data exactly as in `solveCyclic` -/

/-- `γ = -main(0)` -/
def gam (a : List K) : K := -(a.headD 0)

/-- diagonal of `B = A - u vᵀ`: `a₀ - γ`, `a₁ … a_{n-2}`, `a_{n-1} - c²/γ` -/
def diagB (a : List K) (c : K) : List K :=
  setLast (setHead a (fun v => v - gam a)) (fun v => v - c * c / gam a)

/-- `v · x` with `v = (1, 0, …, 0, c/γ)` -/
def vdot (a : List K) (c : K) (x : List K) : K := x.headD 0 + c / gam a * x.getLastD 0

/-- `q = B⁻¹ u` as the model computes it (three passes on the stored factorisation of `B`) -/
def qB (a b : List K) (c : K) : List K :=
  subst (factor (diagB a c) b).1 (factor (diagB a c) b).2 (uRhs a.length (gam a) c)

@[simp] theorem diagB_length (a : List K) (c : K) : (diagB a c).length = a.length := by simp [diagB]

theorem solve_mk_cyclic (a b : List K) (c : K) (y : List K) (h2 : b.length + 1 = a.length) :
    (solve (mk a b c true) y).2 =
      List.zipWith (fun xi ui => xi -
          vdot a c (subst (factor (diagB a c) b).1 (factor (diagB a c) b).2 y) / (1 + vdot a c (qB a b c)) * ui)
        (subst (factor (diagB a c) b).1 (factor (diagB a c) b).2 y) (qB a b c) := by
  have hl : (factor (diagB a c) b).1.length = a.length := by
    rw [factor_fst_length _ _ (by simpa using h2)]; simp
  simp only [solve, mk, solveCyclic, Bool.false_eq_true, if_false, if_true, Scalar.n_zero, Scalar.n_one]
  simp only [qB, vdot, gam, diagB] at hl ⊢
  rw [hl]

theorem qB_spec (a b : List K) (c : K) (h2 : b.length + 1 = a.length) (hp : pivotsOK (diagB a c) b) :
    (qB a b c).length = a.length ∧ mulT (diagB a c) b (qB a b c) 0 = uRhs a.length (gam a) c := by
  have h2' : b.length + 1 = (diagB a c).length := by simpa using h2
  have hu : (diagB a c).length = (uRhs a.length (gam a) c).length := by rw [uRhs_length]; simp
  unfold qB
  rw [subst_factor_eq_solveT _ b _ hu h2']
  exact ⟨by rw [solveT_length _ _ _ hu h2']; simp, mulT_solveT_zero _ _ _ hu h2' hp⟩

/-- `A = B + u vᵀ` on lists -/
theorem mulC_decomp (a b : List K) (c : K) (r : List K) (h1 : a.length = r.length)
    (h2 : b.length + 1 = a.length) (hn : 2 ≤ a.length) (ha : a.headD 0 ≠ 0) :
    mulC a b c r = List.zipWith (fun t u => t + u * vdot a c r) (mulT (diagB a c) b r 0)
      (uRhs a.length (gam a) c) := by
  have hg : gam a ≠ 0 := by unfold gam; exact neg_ne_zero.mpr ha
  have hT : (mulT a b r 0).length = a.length := mulT_length a b r h1 h2 0
  unfold diagB
  rw [mulT_setLast_sub _ _ b r (by simpa using h1) (by simpa using h2),
    mulT_setHead_sub _ a b r h1 h2]
  rw [zipWith_uRhs _ _ _ _ a.length (by simp [hT]) hn]
  rw [setLast_setHead_twice _ (by omega)]
  unfold mulC
  simp only [Scalar.n_zero]
  have e1 : (fun v : K => v - gam a * r.headD 0 + gam a * vdot a c r) = (fun v => v + c * r.getLastD 0) := by
    funext v; unfold vdot; field_simp; ring
  have e2 : (fun v : K => v - c * c / gam a * r.getLastD 0 + c * vdot a c r) = (fun v => v + c * r.headD 0) := by
    funext v; unfold vdot; field_simp; ring
  rw [e1, e2]

theorem vdot_axpy (a : List K) (c f : K) (x q : List K) (hl : x.length = q.length) (hx : x ≠ []) :
    vdot a c (List.zipWith (fun xi ui => xi - f * ui) x q) = vdot a c x - f * vdot a c q := by
  match x, q, hl, hx with
  | x0 :: xs, q0 :: qs, hl, _ =>
    unfold vdot
    rw [getLastD_zipWith _ _ _ _ _ _ (by simpa using hl)]
    simp only [List.zipWith_cons_cons, List.headD_cons, List.getLastD_cons]
    ring
  | [], _, _, hx => exact absurd rfl hx
  | _ :: _, [], hl, _ => simp at hl

/-- the recombination step: if `B x = y` and `B q = u` and `1 + v·q ≠ 0` then
    `x - (v·x)/(1 + v·q) q` solves the cyclic system -/
theorem sherman_morrison (a b : List K) (c : K) (y x q : List K) (h1 : a.length = y.length)
    (h2 : b.length + 1 = a.length) (hn : 2 ≤ a.length) (ha : a.headD 0 ≠ 0)
    (hxl : x.length = a.length) (hql : q.length = a.length)
    (hx : mulT (diagB a c) b x 0 = y) (hq : mulT (diagB a c) b q 0 = uRhs a.length (gam a) c)
    (hden : 1 + vdot a c q ≠ 0) :
    mulC a b c (List.zipWith (fun xi ui => xi - vdot a c x / (1 + vdot a c q) * ui) x q) = y := by
  set f := vdot a c x / (1 + vdot a c q) with hf
  have hxne : x ≠ [] := by intro e; rw [e] at hxl; simp at hxl; omega
  have hr : (List.zipWith (fun xi ui => xi - f * ui) x q).length = a.length := by
    simp [hxl, hql]
  rw [mulC_decomp a b c _ hr.symm h2 hn ha]
  have lin := mulT_axpy f (diagB a c) b x (by simp [hxl]) (by simpa using h2) q 0 0 (by rw [hxl, hql])
  rw [show (0 : K) - f * 0 = 0 by ring] at lin
  rw [lin, hx, hq, vdot_axpy a c f x q (by rw [hxl, hql]) hxne]
  apply zipWith_cancel
  · intro s t
    have : f * (1 + vdot a c q) = vdot a c x := by rw [hf]; field_simp
    linear_combination (-t) * this
  · rw [uRhs_length]; exact h1.symm

end Field
end Tridiag
