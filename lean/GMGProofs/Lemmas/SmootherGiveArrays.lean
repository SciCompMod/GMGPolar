import GMGProofs.Lemmas.SmootherGiveStores
/-!
# Every stored array of the give assembly is the array of the take assembly

Summing the shares of a cell over the grid, every term has a single giver, and the gather value of `SmootherCode` is the same
field element because the geometric factors of neighbouring nodes coincide (`coeff1_succ … coeff1_ja`).
-/
namespace SmootherGiveCode
open Stencil SmootherCode Finset GiveCommon
variable {K : Type} [_root_.Field K]

section
variable (o : Op K) (nc : Nat)

theorem slotVal_cMain (hnc : 2 ≤ nc) (hnr : nc + 3 ≤ o.nr) (hnt : 3 ≤ o.nt) (i j : Nat) (hi0 : 0 < i) (hi : i < nc)
    (hj : j < o.nt) :
    slotVal (allUpdates o nc) (.cMain i j) = centerValue o i j (i - 1) j := by
  rw [slotVal_allUpdates o nc hnr,
    sum_grid_congr (fun a _ b _ => cval_cMain o nc hnc hnr hnt i j a b hi0 hi)]
  simp only [Finset.sum_add_distrib]
  rw [sum_row_lt (by omega), sum_row_lt (by omega), sum_row_lt (by omega), sum_row_lt (by omega), sum_row_succ_pos hi0 (by omega),
    sum_ite_self hj, sum_ite_jm o hj, sum_ite_jp o hj, sum_ite_self hj, sum_ite_self hj,
    coeff3_jp o i hj, coeff4_jm, coeff1_succ, coeff2_pred o j hi0]
  simp only [mass, diag, DirectGiveCode.massValue, DirectGiveCode.diagValue, centerValue]
  ring

theorem slotVal_cSub (hnc : 2 ≤ nc) (hnr : nc + 3 ≤ o.nr) (hnt : 3 ≤ o.nt) (i j : Nat) (hi0 : 0 < i) (hi : i < nc)
    (hj : j + 1 < o.nt) :
    slotVal (allUpdates o nc) (.cSub i j) = topValue o i j := by
  have e : j + 1 = jp o j := by rw [jp_eq o (by omega), if_neg (by omega)]
  rw [slotVal_allUpdates o nc hnr,
    sum_grid_congr (fun a _ b hb => cval_cSub o nc hnc hnr hnt i j a b hi0 hi hj hb)]
  simp only [Finset.sum_add_distrib]
  rw [sum_row_lt (by omega), sum_row_lt (by omega), sum_ite_self hj, sum_ite_self (by omega), e, coeff3_jp o i (by omega)]
  unfold topValue
  ring

theorem slotVal_cCorner (hnc : 2 ≤ nc) (hnr : nc + 3 ≤ o.nr) (hnt : 3 ≤ o.nt) (i : Nat) (hi0 : 0 < i) (hi : i < nc) :
    slotVal (allUpdates o nc) (.cCorner i) = bottomValue o i 0 := by
  have e : o.nt - 1 = jm o 0 := by rw [jm_eq o (by omega), if_pos rfl]
  have e' : ∀ b, b + 1 = o.nt ↔ jm o 0 = b := fun b => by omega
  rw [slotVal_allUpdates o nc hnr,
    sum_grid_congr (fun a _ b hb => cval_cCorner o nc hnc hnr hnt i a b hi0 hi hb)]
  simp only [Finset.sum_add_distrib]
  rw [sum_row_lt (by omega), sum_row_lt (by omega), sum_ite_self (by omega)]
  simp only [e']
  rw [sum_ite_self (jm_lt o (by omega) 0), coeff4_jm]
  unfold bottomValue
  ring

/-- `main_diagonal` of a radial line: the identity row on the outer boundary -/
theorem slotVal_rMain (hnc : 2 ≤ nc) (hnr : nc + 3 ≤ o.nr) (j t : Nat) (hj : j < o.nt)
    (ht : t < o.nr - nc) :
    slotVal (allUpdates o nc) (.rMain j t)
      = if nc + t + 1 = o.nr then 1 else centerValue o (nc + t) j (nc + t - 1) j := by
  rw [slotVal_allUpdates o nc hnr]
  by_cases hlast : nc + t + 1 = o.nr
  · rw [sum_grid_congr (fun a _ b _ => cval_rMain_outer o nc hnc hnr j t a b hlast), sum_row_lt (by omega),
      sum_ite_self hj, if_pos hlast]
  · rw [sum_grid_congr (fun a _ b _ => cval_rMain o nc hnc hnr j t a b (by omega))]
    simp only [Finset.sum_add_distrib]
    rw [sum_row_lt (by omega), sum_row_lt (by omega), sum_row_lt (by omega), sum_row_lt (by omega),
      sum_row_succ_pos (by omega) (by omega), sum_ite_self hj, sum_ite_jm o hj, sum_ite_jp o hj, sum_ite_self hj,
      sum_ite_self hj, coeff3_jp o _ hj, coeff4_jm, coeff1_succ, coeff2_pred o j (by omega), if_neg hlast]
    simp only [mass, diag, DirectGiveCode.massValue, DirectGiveCode.diagValue, centerValue]
    ring

/-- `sub_diagonal` of a radial line: the coupling to the outer Dirichlet node is the initial `0.0` -/
theorem slotVal_rSub (hnc : 2 ≤ nc) (hnr : nc + 3 ≤ o.nr) (j t : Nat) (hj : j < o.nt)
    (ht : t + 1 < o.nr - nc) :
    slotVal (allUpdates o nc) (.rSub j t) = if nc + t + 2 = o.nr then 0 else rightValue o (nc + t) j := by
  rw [slotVal_allUpdates o nc hnr]
  by_cases hlast : nc + t + 2 = o.nr
  · rw [sum_grid_congr (fun a _ b _ => cval_rSub_outer o nc hnc hnr j t a b hlast), if_pos hlast]
    simp only [Finset.sum_const_zero]
  · rw [sum_grid_congr (fun a _ b _ => cval_rSub o nc hnc hnr j t a b (by omega))]
    simp only [Finset.sum_add_distrib]
    rw [sum_row_lt (by omega), sum_row_lt (by omega), sum_ite_self hj, sum_ite_self hj, coeff1_succ, if_neg hlast]
    unfold rightValue
    ring

theorem slotVal_innerD (hnc : 2 ≤ nc) (hnr : nc + 3 ≤ o.nr) (hbc : o.bc = true) (j : Nat) (hj : j < o.nt) :
    slotVal (allUpdates o nc) (.inner j 0) = 1 := by
  rw [slotVal_allUpdates o nc hnr, sum_grid_congr (fun a _ b _ => cval_innerD o nc hnc hnr hbc j a b),
    sum_row_lt (by omega), sum_ite_self hj]

theorem slotVal_inner0 (hnc : 2 ≤ nc) (hnr : nc + 3 ≤ o.nr) (hnt : 3 ≤ o.nt) (heven : o.nt % 2 = 0) (hbc : o.bc = false)
    (hk : ∀ j, j < o.nt → o.k (ja o j) = o.k j) (j : Nat) (hj : j < o.nt) :
    slotVal (allUpdates o nc) (.inner j 0) = centerValue o 0 j 0 (ja o j) := by
  rw [slotVal_allUpdates o nc hnr, sum_grid_congr (fun a _ b _ => cval_inner0 o nc hnc hnr hbc j a b)]
  simp only [Finset.sum_add_distrib]
  rw [sum_row_lt (by omega), sum_row_lt (by omega), sum_row_lt (by omega), sum_row_lt (by omega), sum_row_lt (by omega),
    sum_ite_self hj, sum_ite_ja o heven hj, sum_ite_jm o hj, sum_ite_jp o hj, sum_ite_self hj,
    coeff1_ja o (by omega) heven hk hj, coeff3_jp o 0 hj, coeff4_jm, coeff1_succ]
  simp only [mass, diag, DirectGiveCode.massValue, DirectGiveCode.diagValue, centerValue]
  ring

theorem slotVal_inner1 (hnc : 2 ≤ nc) (hnr : nc + 3 ≤ o.nr) (hnt : 3 ≤ o.nt) (heven : o.nt % 2 = 0) (hbc : o.bc = false)
    (hk : ∀ j, j < o.nt → o.k (ja o j) = o.k j) (j : Nat) (hj : j < o.nt) :
    slotVal (allUpdates o nc) (.inner j 1) = leftValue o 0 j 0 (ja o j) := by
  rw [slotVal_allUpdates o nc hnr, sum_grid_congr (fun a _ b _ => cval_inner1 o nc hnc hnr hbc j a b)]
  simp only [Finset.sum_add_distrib]
  rw [sum_row_lt (by omega), sum_row_lt (by omega), sum_ite_self hj, sum_ite_ja o heven hj,
    coeff1_ja o (by omega) heven hk hj]
  unfold leftValue
  ring

theorem slotVal_inner2 (hnc : 2 ≤ nc) (hnr : nc + 3 ≤ o.nr) (hbc : o.bc = false) (j : Nat) (hj : j < o.nt) :
    slotVal (allUpdates o nc) (.inner j 2) = bottomValue o 0 j := by
  rw [slotVal_allUpdates o nc hnr, sum_grid_congr (fun a _ b _ => cval_inner2 o nc hnc hnr hbc j a b)]
  simp only [Finset.sum_add_distrib]
  rw [sum_row_lt (by omega), sum_row_lt (by omega), sum_ite_self hj, sum_ite_jp o hj, coeff4_jm]
  unfold bottomValue
  ring

theorem slotVal_inner3 (hnc : 2 ≤ nc) (hnr : nc + 3 ≤ o.nr) (hbc : o.bc = false) (j : Nat) (hj : j < o.nt) :
    slotVal (allUpdates o nc) (.inner j 3) = topValue o 0 j := by
  rw [slotVal_allUpdates o nc hnr, sum_grid_congr (fun a _ b _ => cval_inner3 o nc hnc hnr hbc j a b)]
  simp only [Finset.sum_add_distrib]
  rw [sum_row_lt (by omega), sum_row_lt (by omega), sum_ite_jm o hj, sum_ite_self hj, coeff3_jp o 0 hj]
  unfold topValue
  ring

end

section
variable (o : Op K) (nc : Nat)

theorem circleMain_eq (hnc : 2 ≤ nc) (hnr : nc + 3 ≤ o.nr) (hnt : 3 ≤ o.nt) (i : Nat) (hi0 : 0 < i) (hi : i < nc) :
    circleMain o nc i = SmootherCode.circleMain o i := by
  unfold circleMain circleMainOf SmootherCode.circleMain
  apply List.map_congr_left
  intro j hj
  exact slotVal_cMain o nc hnc hnr hnt i j hi0 hi (List.mem_range.mp hj)

theorem circleSub_eq (hnc : 2 ≤ nc) (hnr : nc + 3 ≤ o.nr) (hnt : 3 ≤ o.nt) (i : Nat) (hi0 : 0 < i) (hi : i < nc) :
    circleSub o nc i = SmootherCode.circleSub o i := by
  unfold circleSub circleSubOf SmootherCode.circleSub
  apply List.map_congr_left
  intro j hj
  exact slotVal_cSub o nc hnc hnr hnt i j hi0 hi (by have := List.mem_range.mp hj; omega)

theorem circleCorner_eq (hnc : 2 ≤ nc) (hnr : nc + 3 ≤ o.nr) (hnt : 3 ≤ o.nt) (i : Nat) (hi0 : 0 < i) (hi : i < nc) :
    circleCorner o nc i = SmootherCode.circleCorner o i :=
  slotVal_cCorner o nc hnc hnr hnt i hi0 hi

theorem radialMain_eq (hnc : 2 ≤ nc) (hnr : nc + 3 ≤ o.nr) (j : Nat) (hj : j < o.nt) :
    radialMain o nc j = SmootherCode.radialMain o nc j := by
  unfold radialMain radialMainOf SmootherCode.radialMain
  apply List.map_congr_left
  intro t ht
  rw [slotVal_rMain o nc hnc hnr j t hj (List.mem_range.mp ht)]
  simp only [Scalar.n_one]

theorem radialSub_eq (hnc : 2 ≤ nc) (hnr : nc + 3 ≤ o.nr) (j : Nat) (hj : j < o.nt) :
    radialSub o nc j = SmootherCode.radialSub o nc j := by
  unfold radialSub radialSubOf SmootherCode.radialSub
  apply List.map_congr_left
  intro t ht
  rw [slotVal_rSub o nc hnc hnr j t hj (by have := List.mem_range.mp ht; omega)]
  simp only [Scalar.n_zero]

theorem innerRow_eq (hnc : 2 ≤ nc) (hnr : nc + 3 ≤ o.nr) (hnt : 3 ≤ o.nt) (heven : o.nt % 2 = 0)
    (hk : o.bc = false → ∀ j, j < o.nt → o.k (ja o j) = o.k j) (j : Nat) (hj : j < o.nt) :
    innerRow o nc j = SmootherCode.innerRow o j := by
  unfold innerRow innerRowOf SmootherCode.innerRow
  cases hbc : o.bc
  · have hc := fun q (hq : q < 4) => slotCol_inner o nc hnr heven j q hj (by rw [hbc]; exact hq)
    simp only [Bool.false_eq_true, if_false, (by decide : List.range 4 = [0, 1, 2, 3]), List.map_cons, List.map_nil,
      hc 0 (by omega), hc 1 (by omega), hc 2 (by omega), hc 3 (by omega),
      slotVal_inner0 o nc hnc hnr hnt heven hbc (hk hbc) j hj, slotVal_inner1 o nc hnc hnr hnt heven hbc (hk hbc) j hj,
      slotVal_inner2 o nc hnc hnr hbc j hj, slotVal_inner3 o nc hnc hnr hbc j hj]
    simp [expCol]
  · have hc := slotCol_inner o nc hnr heven j 0 hj (by rw [hbc]; decide)
    simp only [if_true, (by decide : List.range 1 = [0]), List.map_cons, List.map_nil, hc,
      slotVal_innerD o nc hnc hnr hbc j hj]
    simp [expCol]

theorem innerCSR_eq (hnc : 2 ≤ nc) (hnr : nc + 3 ≤ o.nr) (hnt : 3 ≤ o.nt) (heven : o.nt % 2 = 0)
    (hk : o.bc = false → ∀ j, j < o.nt → o.k (ja o j) = o.k j) :
    innerCSR o nc = SmootherCode.innerCSR o := by
  have h : (List.range o.nt).map (innerRowOf (allUpdates o nc) o.bc) = (List.range o.nt).map (SmootherCode.innerRow o) := by
    apply List.map_congr_left
    intro j hj
    exact innerRow_eq o nc hnc hnr hnt heven hk j (List.mem_range.mp hj)
  unfold innerCSR innerCSROf SmootherCode.innerCSR
  simp only [h]

theorem circleSolver_eq (hnc : 2 ≤ nc) (hnr : nc + 3 ≤ o.nr) (hnt : 3 ≤ o.nt) (i : Nat) (hi0 : 0 < i) (hi : i < nc) :
    circleSolverOf (allUpdates o nc) o.nt i = SmootherCode.circleSolver o i := by
  have h1 := circleMain_eq o nc hnc hnr hnt i hi0 hi
  have h2 := circleSub_eq o nc hnc hnr hnt i hi0 hi
  have h3 := circleCorner_eq o nc hnc hnr hnt i hi0 hi
  unfold circleMain at h1; unfold circleSub at h2; unfold circleCorner at h3
  unfold circleSolverOf SmootherCode.circleSolver
  rw [h1, h2, h3]

theorem radialSolver_eq (hnc : 2 ≤ nc) (hnr : nc + 3 ≤ o.nr) (j : Nat) (hj : j < o.nt) :
    radialSolverOf (allUpdates o nc) (o.nr - nc) j = SmootherCode.radialSolver o nc j := by
  have h1 := radialMain_eq o nc hnc hnr j hj
  have h2 := radialSub_eq o nc hnc hnr j hj
  unfold radialMain at h1; unfold radialSub at h2
  unfold radialSolverOf SmootherCode.radialSolver
  rw [h1, h2]

end
end SmootherGiveCode
