import GMGProofs.Lemmas.GridGenAnisoPass
/-!
# `anisoDivision` runs to completion on accepted inputs and rejects the others by an exception

The routine is cut into named stages (`An`).  What keeps it in bounds: the refinement window lies inside the radii with `nRef`
a power of two, and `nr + |r_set|` is never a multiple of 8, so `std::advance` gets a non-negative count.
-/
namespace GridGenL
open GridGen

/-! `An`: the stages of `anisoDivision` as functions of its input record. -/
namespace An

def P (a : AnisoIn) : Rat := (a.refr - a.R0) / (a.R - a.R0)
def A (a : AnisoIn) : Nat := a.aniso.toNat
def nEqui (a : AnisoIn) : Int :=
  if A a % 2 = 1 then (2 : Int) ^ a.nrExp.toNat - (2 : Int) ^ A a + 1 else (2 : Int) ^ a.nrExp.toNat - (2 : Int) ^ A a
def nr (a : AnisoIn) : Int := nEqui a + 1
def ud (a : AnisoIn) : Rat := (a.R - a.R0) / (nEqui a : Rat)
def r2 (a : AnisoIn) : List Rat :=
  (List.range ((nr a).toNat - 1)).map (fun (i : Nat) => a.R0 + ((i : Int) : Rat) * ud a) ++ [a.R]
def fl (a : AnisoIn) : Int := min (floorRat ((nr a : Rat) * P a)) (nr a - 1)
def nRefO (a : AnisoIn) : Out Int :=
  if fl a > nr a - (2 : Int) ^ A a / 2 then
    if nr a - fl a ≤ 0 then .ub "log2 of a non-positive number converted to int"
    else .ok ((2 : Int) ^ (log2floor (nr a - fl a).toNat + 1))
  else .ok ((2 : Int) ^ A a)
def se (a : AnisoIn) (nRef : Int) : Int :=
  if clampLow = true ∧ fl a - nRef / 2 < 0 then 0 else fl a - nRef / 2
def st (nRef : Int) : Int := ceilRat ((nRef : Rat) / 4 + 1) - 1
def et (nRef : Int) : Int := floorRat (3 * ((nRef : Rat) / 4))

def wr (arr : List Rat) (i : Int) (v : Rat) : Out (List Rat) :=
  if 0 ≤ i ∧ i < arr.length then .ok (arr.set i.toNat v) else .ub s!"write r_temp[{i}] of {arr.length}"

/-- a checked copy loop: entry `idx i` of the output receives `val i`, for `i < n` -/
def writeFold (val : Nat → Out Rat) (idx : Nat → Int) (n : Nat) (o0 : List Rat) : Out (List Rat) :=
  (List.range n).foldl (fun acc (i : Nat) => do
      let o ← acc
      let v ← val i
      wr o (idx i) v) (.ok o0)

/-- after the second insertion: resize and the three grouped copies -/
def tail3 (a : AnisoIn) (nRef : Int) (rset : List Rat) : Out (List Rat) :=
  if nEqui a - nRef + rset.length + 1 < 0 then .ub "resize to a negative length" else
  writeFold (fun i => rd (r2 a) (i : Int) "r_temp2") (fun i => (i : Int)) (se a nRef).toNat
    (List.replicate (nEqui a - nRef + rset.length + 1).toNat 0) >>= fun out1 =>
  writeFold (fun i => pure (rset.getD i 0)) (fun i => se a nRef + (i : Int)) rset.length out1 >>= fun out2 =>
  writeFold (fun i => rd (r2 a) (se a nRef + nRef + (i : Int)) "r_temp2")
    (fun i => se a nRef + (rset.length : Int) + (i : Int)) (nEqui a - (se a nRef + nRef) + 1).toNat out2

/-- after the refinement passes: the `std::advance`, re-insertion of the window -/
def tail2 (a : AnisoIn) (nRef : Int) (rset : List Rat) : Out (List Rat) :=
  if min ((nr a + rset.length) % 8 - 1) rset.length < 0 then .ub "std::advance(r_set.begin(), -1)" else
  readFold (r2 a) (se a nRef) nRef.toNat (rset.drop (min ((nr a + rset.length) % 8 - 1) (rset.length : Int)).toNat)
    >>= tail3 a nRef

def body (a : AnisoIn) (nRef : Int) : Out (List Rat) :=
  readFold (r2 a) (se a nRef) nRef.toNat [] >>= fun p1 =>
  passes (ud a) (A a) (st nRef) (et nRef) (A a) (ud a / 2) p1 nRef [] >>= tail2 a nRef

theorem anisoDivision_eq (a : AnisoIn) :
    anisoDivision a =
      if rejectOutside = true ∧ ¬ (0 ≤ P a ∧ P a ≤ 1) then .throw "refinement radius outside [R0, R]"
      else if a.aniso < 0 ∨ (2 : Int) ^ a.nrExp.toNat - (2 : Int) ^ a.aniso.toNat ≤ 0 ∨ a.nrExp < 0 then
        .throw "Please choose anisotropy factor a such that 2^fac_ani < 2^nr_exp."
      else nRefO a >>= body a := by
  unfold anisoDivision
  by_cases h1 : rejectOutside = true ∧ ¬ (0 ≤ P a ∧ P a ≤ 1)
  · rw [if_pos h1]; exact if_pos h1
  · rw [if_neg h1]
    refine (if_neg h1).trans ?_
    by_cases h2 : a.aniso < 0 ∨ (2 : Int) ^ a.nrExp.toNat - (2 : Int) ^ a.aniso.toNat ≤ 0 ∨ a.nrExp < 0
    · rw [if_pos h2, if_pos h2]
    · rw [if_neg h2, if_neg h2]
      rfl

/-! ## stage arithmetic -/

theorem P_mem_iff (a : AnisoIn) (hR : a.R0 < a.R) : (0 ≤ P a ∧ P a ≤ 1) ↔ (a.R0 ≤ a.refr ∧ a.refr ≤ a.R) := by
  have hd : 0 < a.R - a.R0 := sub_pos.mpr hR
  unfold P
  rw [le_div_iff₀ hd, div_le_one hd, zero_mul, sub_nonneg, sub_le_sub_iff_right]

theorem floor_div_four (m : Int) : ((m : Rat) / 4).floor = m / 4 :=
  eq_of_forall_le_iff fun z => by
    rw [Rat.le_floor_iff, le_div_iff₀ (by norm_num), Int.le_ediv_iff_mul_le (by norm_num)]
    exact_mod_cast Iff.rfl

theorem st_eq (n : Nat) : st (n : Int) = (((n + 3) / 4 : Nat) : Int) := by
  unfold st ceilRat
  rw [Rat.ceil_eq_neg_floor_neg, show -(((n : Int) : Rat) / 4 + 1) = ((-(n : Int) - 4 : Int) : Rat) / 4 by push_cast; ring,
    floor_div_four]
  omega

theorem et_eq (n : Nat) : et (n : Int) = ((3 * n / 4 : Nat) : Int) := by
  unfold et floorRat
  rw [show 3 * (((n : Int) : Rat) / 4) = ((3 * (n : Int) : Int) : Rat) / 4 by push_cast; ring, floor_div_four]
  omega

theorem se_eq (a : AnisoIn) (nRef : Int) : se a nRef = max (fl a - nRef / 2) 0 := by
  unfold se
  simp only [clampLow, true_and]
  split <;> omega

theorem nEqui_bounds (a : AnisoIn) :
    (2 : Int) ^ a.nrExp.toNat - (2 : Int) ^ A a ≤ nEqui a ∧ nEqui a ≤ (2 : Int) ^ a.nrExp.toNat - (2 : Int) ^ A a + 1 := by
  unfold nEqui; split <;> omega

theorem nEqui_cast_pos (a : AnisoIn) (hn : 1 ≤ nEqui a) : (0 : Rat) < ((nEqui a : Int) : Rat) := by
  exact_mod_cast (by omega : (0 : Int) < nEqui a)

theorem r2_eq (a : AnisoIn) (hn : 1 ≤ nEqui a) : r2 a = ap a.R0 (ud a) (nr a).toNat := by
  have h1 : (nr a).toNat = (nEqui a).toNat + 1 := by unfold nr; omega
  have hne := ne_of_gt (nEqui_cast_pos a hn)
  unfold r2
  rw [h1, Nat.add_sub_cancel]
  apply ap_snoc
  rw [← Int.cast_natCast, Int.toNat_of_nonneg (by omega)]
  unfold ud; field_simp; ring

theorem ud_pos (a : AnisoIn) (hn : 1 ≤ nEqui a) (hR : a.R0 < a.R) : 0 < ud a :=
  div_pos (sub_pos.mpr hR) (nEqui_cast_pos a hn)

theorem fl_bounds (a : AnisoIn) (hP : 0 ≤ P a) (hnr : 1 ≤ nr a) : 0 ≤ fl a ∧ fl a ≤ nr a - 1 := by
  have h0 : (0 : Int) ≤ floorRat ((nr a : Rat) * P a) := by
    unfold floorRat
    rw [Rat.le_floor_iff]
    have : (0 : Rat) ≤ ((nr a : Int) : Rat) := by exact_mod_cast (by omega : (0 : Int) ≤ nr a)
    push_cast
    exact mul_nonneg this hP
  unfold fl
  omega

theorem two_pow_emod {j i : Nat} (h : j ≤ i) : (2 : Int) ^ i % 2 ^ j = 0 := Int.emod_eq_zero_of_dvd (pow_dvd_pow 2 h)

theorem exp_lt_of_pow {i j : Nat} (h : (2 : Int) ^ i < (2 : Int) ^ j) : i < j :=
  (pow_lt_pow_iff_right₀ (by norm_num)).mp h

/-- the refinement window `[se, se + nRef)` lies inside the `nr` radii and `nRef` is a power of two `≥ 2` -/
theorem window (a : AnisoIn) (hA : 1 ≤ A a) (hpow : (2 : Int) ^ A a < (2 : Int) ^ a.nrExp.toNat) (hP : 0 ≤ P a) :
    ∃ b, 1 ≤ b ∧ nRefO a = .ok ((2 : Int) ^ b) ∧ 0 ≤ se a ((2 : Int) ^ b)
      ∧ se a ((2 : Int) ^ b) + (2 : Int) ^ b ≤ nr a := by
  -- all that is used of the powers: `2^A` is even and positive, and `2 · 2^A ≤ 2^nrExp`
  have h2 : (2 : Int) ^ A a * 2 ≤ (2 : Int) ^ a.nrExp.toNat := by
    rw [← pow_succ]; exact pow_le_pow_right₀ (by norm_num) (exp_lt_of_pow hpow)
  have hX : (0 : Int) < (2 : Int) ^ A a := by positivity
  have hev := two_pow_emod hA
  have hb := nEqui_bounds a
  have hnr : nr a = nEqui a + 1 := rfl
  have hfl := fl_bounds a hP (by omega)
  by_cases hs : fl a > nr a - (2 : Int) ^ A a / 2
  · -- the shrunken window: `nRef = 2 · 2^⌊log2 m⌋` with `m = nr - fl` and `2^⌊log2 m⌋ ≤ m`
    have hpos : ¬ nr a - fl a ≤ 0 := by omega
    obtain ⟨m, hm⟩ : ∃ m : Nat, nr a - fl a = (m : Int) := ⟨(nr a - fl a).toNat, by omega⟩
    have hl1 : ((2 ^ m.log2 : Nat) : Int) ≤ (m : Int) := by exact_mod_cast Nat.log2_self_le (by omega : m ≠ 0)
    have e1 : (2 : Int) ^ (m.log2 + 1) = 2 * ((2 ^ m.log2 : Nat) : Int) := by rw [pow_succ]; push_cast; ring
    refine ⟨m.log2 + 1, by omega, ?_, ?_, ?_⟩
    · unfold nRefO log2floor
      rw [if_pos hs, if_neg hpos, hm, Int.toNat_natCast]
    all_goals
      rw [se_eq, e1]
      generalize ((2 ^ m.log2 : Nat) : Int) = Y at *
      generalize (2 : Int) ^ A a = X at *
      omega
  · refine ⟨A a, hA, ?_, ?_, ?_⟩
    · unfold nRefO; rw [if_neg hs]
    all_goals
      rw [se_eq]
      generalize (2 : Int) ^ A a = X at *
      omega

/-- `nr + |r_set|` is never a multiple of 8, so `std::advance` gets a non-negative count -/
theorem nr2_mod8 (Av n b : Nat) (hA : 1 ≤ Av) (hn : Av < n) (nrv : Int)
    (hnr : nrv = (if Av % 2 = 1 then (2 : Int) ^ n - (2 : Int) ^ Av + 1 else (2 : Int) ^ n - (2 : Int) ^ Av) + 1)
    (len : Nat) (hlen : (b = 1 ∧ len = 1) ∨ (2 ≤ b ∧ len = Av * (2 ^ b - 1))) : (nrv + (len : Int)) % 8 ≠ 0 := by
  -- `len` is 1 or has the parity of `Av`, since `2^b - 1` is odd
  have hl : len = 1 ∨ len % 2 = Av % 2 := by
    rcases hlen with ⟨_, h⟩ | ⟨hb, h⟩
    · exact Or.inl h
    · obtain ⟨c, rfl⟩ : ∃ c, b = c + 1 := ⟨b - 1, by omega⟩
      have hc := Nat.two_pow_pos c
      have : (2 ^ (c + 1) - 1) % 2 = 1 := by rw [Nat.pow_succ]; omega
      rw [h, Nat.mul_mod, this]; omega
  have hA2 := two_pow_emod hA
  have hn2 := two_pow_emod (show 1 ≤ n by omega)
  rcases Nat.mod_two_eq_zero_or_one Av with hev | hodd
  · -- `Av ≥ 2` even: `nr ≡ 1 (mod 4)`, so the sum is odd or `≡ 2 (mod 4)`
    have hA4 := two_pow_emod (show 2 ≤ Av by omega)
    have hn4 := two_pow_emod (show 2 ≤ n by omega)
    rw [if_neg (by omega)] at hnr
    omega
  · -- `Av` odd: `nr` is even and `len` odd
    rw [if_pos hodd] at hnr
    omega

/-! ## the grouped writes and the tail of the routine -/

theorem wr_ok (o : List Rat) (i : Int) (v : Rat) (h0 : 0 ≤ i) (h1 : i < o.length) :
    wr o i v = .ok (o.set i.toNat v) := if_pos ⟨h0, h1⟩

theorem writeFold_ok (val : Nat → Out Rat) (idx : Nat → Int) (n : Nat) (o0 : List Rat)
    (hval : ∀ i, i < n → ∃ v, val i = .ok v) (hidx : ∀ i, i < n → 0 ≤ idx i ∧ idx i < o0.length) :
    ∃ o, writeFold val idx n o0 = .ok o ∧ o.length = o0.length :=
  foldl_range_inv (σ := List Rat) _ (fun i o => val i >>= fun v => wr o (idx i) v) (fun _ _ => rfl)
    (fun _ o => o.length = o0.length) n o0 rfl fun i hi o hlen => by
      obtain ⟨v, hv⟩ := hval i hi
      rw [hv, ok_bind, wr_ok _ _ _ (hidx i hi).1 (hlen ▸ (hidx i hi).2)]
      exact ⟨_, rfl, by rw [List.length_set, hlen]⟩

theorem bind_ok {α β} {o : Out α} {k : α → Out β} {Q : α → Prop} (ho : ∃ v, o = .ok v ∧ Q v)
    (hk : ∀ v, Q v → ∃ t, k v = .ok t) : ∃ t, (o >>= k) = .ok t := by
  obtain ⟨v, rfl, hv⟩ := ho
  exact hk v hv

theorem tail2_ok (a : AnisoIn) (nRef : Int) (rset : List Rat) (hr2 : (r2 a).length = (nr a).toNat)
    (hse : 0 ≤ se a nRef) (hee : se a nRef + nRef ≤ nr a) (hnRef : 0 ≤ nRef)
    (hmod : (nr a + (rset.length : Int)) % 8 ≠ 0) : ∃ t, tail2 a nRef rset = .ok t := by
  have hnr : nr a = nEqui a + 1 := rfl
  unfold tail2
  rw [if_neg (by omega)]
  refine bind_ok ((readFold_ok _ _ _ _ hse (by omega)).imp fun _ h => ⟨h, trivial⟩) fun l _ => ?_
  unfold tail3
  rw [if_neg (by omega)]
  refine bind_ok (writeFold_ok _ _ _ _ (fun i hi => ⟨_, rd_ok _ _ _ (by omega) (by omega)⟩) fun i hi => ?_)
    fun o1 l1 => bind_ok (writeFold_ok _ _ _ _ (fun i hi => ⟨_, rfl⟩) fun i hi => ?_)
    fun o2 l2 => (writeFold_ok _ _ _ _ (fun i hi => ⟨_, rd_ok _ _ _ (by omega) (by omega)⟩) fun i hi => ?_).imp
      fun _ h => h.1
  all_goals
    simp only [List.length_replicate] at *
    omega

/-! ## the three outcomes -/

/-- the routine completes for every admissible input with a non-zero anisotropy exponent -/
theorem aniso_ok (a : AnisoIn) (hR : a.R0 < a.R) (hr : a.R0 ≤ a.refr ∧ a.refr ≤ a.R) (hA : 1 ≤ a.aniso)
    (hpow : (2 : Int) ^ a.aniso.toNat < (2 : Int) ^ a.nrExp.toNat) : ∃ t, anisoDivision a = .ok t := by
  have hP := (P_mem_iff a hR).mpr hr
  have hA' : 1 ≤ A a := by unfold A; omega
  have hlt : A a < a.nrExp.toNat := exp_lt_of_pow hpow
  have hX : (0 : Int) < (2 : Int) ^ a.aniso.toNat := by positivity
  rw [anisoDivision_eq, if_neg (fun h => h.2 hP), if_neg (by omega)]
  obtain ⟨b, hb, hO, hse, hee⟩ := window a hA' hpow hP.1
  have hnE := nEqui_bounds a
  have hn1 : 1 ≤ nEqui a := by unfold A at hnE; omega
  have hr2 := r2_eq a hn1
  have hh : 0 < ud a / 2 := half_pos (ud_pos a hn1 hR)
  have hcast : (((2 ^ b : Nat) : Int)) = (2 : Int) ^ b := by push_cast; rfl
  have htn : ((2 : Int) ^ b).toNat = 2 ^ b := by rw [← hcast, Int.toNat_natCast]
  rw [hO, ok_bind]
  unfold body
  rw [hr2, htn, readFold_nil a.R0 (ud a) (nr a).toNat _ (2 ^ b) (ud_pos a hn1 hR) hse (by omega), ok_bind,
    ← hcast, st_eq, et_eq]
  generalize a.R0 + ((se a ((2 ^ b : Nat) : Int) : Int) : Rat) * ud a = s0
  have hs : Lat s0 (2 * (ud a / 2)) s0 := ⟨0, by simp⟩
  rw [show ap s0 (ud a) (2 ^ b) = ap s0 (2 * (ud a / 2)) (2 ^ b) by rw [mul_div_cancel₀ _ two_ne_zero]]
  -- the passes insert one radius (window of two) or `A · (2^b - 1)` radii
  refine bind_ok (Q := fun rs' => (b = 1 ∧ rs'.length = 1) ∨ (2 ≤ b ∧ rs'.length = A a * (2 ^ b - 1))) ?_
    fun rs' hlen => ?_
  · rcases Nat.lt_or_ge b 2 with hb2 | hb2
    · obtain rfl : b = 1 := by omega
      exact (passes_specB (by norm_num) hA' hh hs (by simp)).imp fun rs' h => ⟨h.1, Or.inl ⟨rfl, by simpa using h.2⟩⟩
    · obtain ⟨j, rfl⟩ : ∃ j, b = j + 2 := ⟨b - 2, by omega⟩
      have hj := Nat.two_pow_pos j
      have hm : 2 ^ (j + 2) = 4 * 2 ^ j := by rw [Nat.pow_add]; omega
      exact (passes_specA (by omega) (by omega) (by omega) (A a) (le_refl _) (ud a / 2) s0 [] hh hs (by simp)).imp
        fun rs' h => ⟨h.1, Or.inr ⟨hb2, by simpa using h.2⟩⟩
  · rw [hcast]
    exact tail2_ok a _ rs' (by rw [hr2, ap_length]) hse hee (by positivity)
      (nr2_mod8 (A a) a.nrExp.toNat b hA' hlt (nr a) rfl rs'.length hlen)

theorem reject_outside (a : AnisoIn) (hR : a.R0 < a.R) (h : a.refr < a.R0 ∨ a.R < a.refr) :
    anisoDivision a = .throw "refinement radius outside [R0, R]" := by
  rw [anisoDivision_eq, if_pos]
  refine ⟨rfl, fun hP => ?_⟩
  have := (P_mem_iff a hR).mp hP
  rcases h with h | h
  · exact absurd this.1 (not_le.mpr h)
  · exact absurd this.2 (not_le.mpr h)

theorem reject_large (a : AnisoIn)
    (h : a.aniso < 0 ∨ a.nrExp < 0 ∨ (2 : Int) ^ a.nrExp.toNat ≤ (2 : Int) ^ a.aniso.toNat) :
    ∃ m, anisoDivision a = .throw m := by
  rw [anisoDivision_eq]
  split
  · exact ⟨_, rfl⟩
  · rw [if_pos (by omega)]
    exact ⟨_, rfl⟩

/-- for `R0 < R` and a non-zero anisotropy exponent the outcome is a value or an exception -/
theorem noUB (a : AnisoIn) (hR : a.R0 < a.R) (hA : a.aniso ≠ 0) : (anisoDivision a).NoUB := by
  by_cases hout : a.refr < a.R0 ∨ a.R < a.refr
  · rw [reject_outside a hR hout]; exact .throw _
  by_cases hbad : a.aniso < 0 ∨ a.nrExp < 0 ∨ (2 : Int) ^ a.nrExp.toNat ≤ (2 : Int) ^ a.aniso.toNat
  · obtain ⟨m, h⟩ := reject_large a hbad
    rw [h]; exact .throw m
  · obtain ⟨t, h⟩ := aniso_ok a hR ⟨by linarith [not_or.mp hout], by linarith [not_or.mp hout]⟩ (by omega) (by omega)
    rw [h]; exact .ok t

end An
end GridGenL
