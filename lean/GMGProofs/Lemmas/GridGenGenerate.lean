import GMGProofs.Lemmas.GridGenDivide
/-!
# `generate`: the parametric constructor after the radial division has been produced
-/
namespace GridGenL
open GridGen

/-- the radial division before refinement: the uniform or the anisotropic branch of `constructRadialDivisions` -/
def tempOf (g : GenIn) : Out (List Rat) :=
  if g.aniso = 0 then uniformTemp g.R0 g.Rmax g.nrExp else anisoDivision ⟨g.R0, g.Rmax, g.nrExp, g.refr, g.aniso⟩
def radiiOf (g : GenIn) (t : List Rat) : List Rat := divideVector (midpointRefine t) g.div
def ntOf (g : GenIn) (t : List Rat) : Nat :=
  (if g.ntExp < 0 then 2 ^ ceilLog2 (midpointRefine t).length else 2 ^ g.ntExp.toNat) * 2 ^ g.div

/-- `checkParameters` applied to the refined/divided radii -/
def finish (g : GenIn) (t : List Rat) : Out (List Rat × Nat) :=
  if (radiiOf g t).length < 2 then .throw "At least two radii are required."
  else if ¬ (radiiOf g t).all (fun r => decide (0 < r)) then .throw "All radii must be greater than zero."
  else if ¬ ((radiiOf g t).zip ((radiiOf g t).drop 1)).all (fun p => decide (p.1 < p.2)) then
    .throw "Radii must be strictly increasing."
  else if ntOf g t + 1 < 3 then .throw "At least two angles are required."
  else if ntOf g t % 2 = 1 then .throw "Each angle must have its opposite in the set"
  else .ok (radiiOf g t, ntOf g t)

theorem generate_eq (g : GenIn) : generate g = tempOf g >>= finish g := by
  unfold generate tempOf
  by_cases h : g.aniso = 0 <;> simp only [h, if_true, if_false] <;> rfl

theorem finish_noUB (g : GenIn) (t : List Rat) : (finish g t).NoUB :=
  .guard _ (.guard _ (.guard _ (.guard _ (.guard _ (.ok _)))))

theorem generate_noUB {g : GenIn} (h : (tempOf g).NoUB) : (generate g).NoUB := by
  rw [generate_eq]
  exact h.bind fun t _ => finish_noUB g t

/-- the comparison of neighbours in `checkParameters` -/
theorem adjacent_iff : ∀ l : List Rat, (l.zip (l.drop 1)).all (fun p => decide (p.1 < p.2)) = true ↔ StrictInc l
  | [] => by simp [StrictInc]
  | [a] => by simp [StrictInc]
  | a :: b :: t => by
    have ih := adjacent_iff (b :: t)
    unfold StrictInc at ih ⊢
    rw [← List.isChain_iff_pairwise] at ih ⊢
    rw [List.isChain_cons_cons, ← ih]
    simp only [List.drop_succ_cons, List.drop_zero, List.zip_cons_cons, List.all_cons, Bool.and_eq_true,
      decide_eq_true_eq]

theorem finish_eq_ok_iff {g : GenIn} {t : List Rat} {x : List Rat × Nat} :
    finish g t = .ok x ↔ x = (radiiOf g t, ntOf g t) ∧ 2 ≤ (radiiOf g t).length ∧ (∀ r ∈ radiiOf g t, 0 < r)
      ∧ StrictInc (radiiOf g t) ∧ 2 ≤ ntOf g t ∧ ntOf g t % 2 = 0 := by
  unfold finish
  simp only [guard_eq_ok_iff, adjacent_iff]
  simp only [Out.ok.injEq, List.all_eq_true, decide_eq_true_eq, not_not]
  constructor
  · rintro ⟨h1, h2, h3, h4, h5, rfl⟩; exact ⟨rfl, by omega, h2, h3, by omega, by omega⟩
  · rintro ⟨rfl, h1, h2, h3, h4, h5⟩; exact ⟨by omega, h2, h3, by omega, by omega, rfl⟩

theorem generate_ok_iff {g : GenIn} {x : List Rat × Nat} :
    generate g = .ok x ↔ ∃ t, tempOf g = .ok t ∧ finish g t = .ok x := by
  rw [generate_eq, bind_eq_ok_iff]

theorem radiiOf_length (g : GenIn) (t : List Rat) (ht : 1 ≤ t.length) :
    (radiiOf g t).length = (2 * t.length - 2) * 2 ^ g.div + 1 := by
  unfold radiiOf
  rw [divideVector_length _ _ (by rw [midpointRefine_length]; omega), midpointRefine_length]
  congr 2

theorem two_le_of_radiiOf {g : GenIn} {t : List Rat} (h : 2 ≤ (radiiOf g t).length) : 2 ≤ t.length := by
  cases t with
  | nil => simp [radiiOf, midpointRefine, divideVector] at h
  | cons a t' =>
    rw [radiiOf_length g _ (by simp)] at h
    cases t' with
    | nil => simp at h
    | cons _ _ => simp

theorem radiiOf_odd (g : GenIn) (t : List Rat) (ht : 1 ≤ t.length) : (radiiOf g t).length % 2 = 1 := by
  rw [radiiOf_length g t ht, show 2 * t.length - 2 = 2 * (t.length - 1) by omega, Nat.mul_assoc]
  omega

theorem radiiOf_strictInc (g : GenIn) (t : List Rat) (hs : StrictInc t) : StrictInc (radiiOf g t) :=
  divideVector_strictInc _ _ (midpointRefine_strictInc t hs)

theorem radiiOf_ends (g : GenIn) (t : List Rat) (ht : 1 ≤ t.length) :
    (radiiOf g t).head? = t.head? ∧ (radiiOf g t).getLast? = t.getLast? := by
  have h := divideVector_ends (midpointRefine t) g.div (by rw [midpointRefine_length]; omega)
  exact ⟨h.1.trans (midpointRefine_ends t ht).1, h.2.trans (midpointRefine_ends t ht).2⟩

theorem radiiOf_midpoints (g : GenIn) (t : List Rat) : Midpoints (radiiOf g t) := by
  unfold radiiOf
  cases g.div with
  | zero => rw [divideVector_zero]; exact midpointRefine_midpoints t
  | succ d => exact divideVector_midpoints _ d

theorem ceilLog2_spec (n : Nat) (hn : 1 ≤ n) : n ≤ 2 ^ ceilLog2 n ∧ ∀ k, n ≤ 2 ^ k → ceilLog2 n ≤ k := by
  unfold ceilLog2
  split
  · have : n = 1 := by omega
    subst this; simp
  · rename_i h
    have h1 : n - 1 ≠ 0 := by omega
    refine ⟨?_, ?_⟩
    · have := Nat.lt_log2_self (n := n - 1); omega
    · intro k hk
      have : (n - 1).log2 < k := by
        rw [Nat.log2_lt h1]; omega
      omega

theorem ceilLog2_ge_two (n : Nat) (hn : 3 ≤ n) : 2 ≤ ceilLog2 n := by
  unfold ceilLog2
  rw [if_neg (by omega)]
  have : 1 ≤ (n - 1).log2 := by rw [Nat.le_log2 (by omega)]; omega
  omega

/-- the exponent of the angular count before `divideBy2` -/
def ntExpOf (g : GenIn) (t : List Rat) : Nat :=
  if g.ntExp < 0 then ceilLog2 (2 * t.length - 1) else g.ntExp.toNat

theorem ntOf_eq (g : GenIn) (t : List Rat) : ntOf g t = 2 ^ (ntExpOf g t + g.div) := by
  unfold ntOf ntExpOf
  rw [midpointRefine_length, Nat.pow_add]
  split <;> rfl

theorem ntExpOf_spec (g : GenIn) (t : List Rat) (ht : 2 ≤ t.length) :
    (g.ntExp < 0 → 2 ≤ ntExpOf g t) ∧ (0 ≤ g.ntExp → ntExpOf g t = g.ntExp.toNat) := by
  unfold ntExpOf
  split
  · exact ⟨fun _ => ceilLog2_ge_two _ (by omega), fun _ => by omega⟩
  · exact ⟨fun _ => by omega, fun _ => rfl⟩

theorem two_pow_mod {j k : Nat} (h : j ≤ k) : 2 ^ k % 2 ^ j = 0 := Nat.mod_eq_zero_of_dvd (Nat.pow_dvd_pow 2 h)

theorem ntOf_even {g : GenIn} {t : List Rat} (h : 2 ≤ ntOf g t) : ntOf g t % 2 = 0 := by
  rw [ntOf_eq] at h ⊢
  exact two_pow_mod (j := 1) (Nat.pos_of_ne_zero (Nat.one_lt_two_pow_iff.mp h))

theorem ntOf_mod_four (g : GenIn) (t : List Rat) (ht : 2 ≤ t.length) (h : 2 ≤ g.ntExp ∨ g.ntExp < 0) :
    ntOf g t % 4 = 0 := by
  rw [ntOf_eq]
  have := ntExpOf_spec g t ht
  exact two_pow_mod (j := 2) (by omega)

theorem two_le_ntOf (g : GenIn) (t : List Rat) (ht : 2 ≤ t.length) (h : g.ntExp ≠ 0 ∨ g.div ≠ 0) : 2 ≤ ntOf g t := by
  rw [ntOf_eq]
  have := ntExpOf_spec g t ht
  exact Nat.one_lt_two_pow_iff.mpr (by omega)

/-- every accepted grid has passed `checkParameters`, has an odd number of radii whose odd entries bisect their
neighbours, and (unless `ntExp ∈ {0, 1}` was given) a number of angles divisible by four — whichever branch made the
radial division: acceptance alone forces at least two radii before refinement. -/
theorem generate_ok_spec {g : GenIn} {radii : List Rat} {nt : Nat} (h : generate g = .ok (radii, nt)) :
    (2 ≤ radii.length ∧ (∀ r ∈ radii, 0 < r) ∧ StrictInc radii ∧ 2 ≤ nt ∧ nt % 2 = 0)
      ∧ radii.length % 2 = 1 ∧ Midpoints radii ∧ (2 ≤ g.ntExp ∨ g.ntExp < 0 → nt % 4 = 0) := by
  obtain ⟨t, -, ht⟩ := generate_ok_iff.mp h
  obtain ⟨hx, hc⟩ := finish_eq_ok_iff.mp ht
  cases hx
  have ht2 := two_le_of_radiiOf hc.1
  exact ⟨hc, radiiOf_odd g t (by omega), radiiOf_midpoints g t, ntOf_mod_four g t ht2⟩

end GridGenL
