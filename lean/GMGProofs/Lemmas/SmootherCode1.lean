import GMGModel.SmootherCode
import GMGProofs.Lemmas.TridiagCyclic
import GMGProofs.Lemmas.SparseLULemmas
import GMGProofs.Lemmas.StencilLemmas1
import Mathlib.Tactic.Ring
/-! The row equations of the operator written in the coefficients `buildAscMatrices` stores (`takeInterior_eq`,
`takeOrigin_eq`); every `A_sc + A_sc^ortho = A` statement of C06c is proved through them. -/
namespace SmootherCode
open Tridiag
variable {K : Type} [_root_.Field K]

/-- `p` is the carry into row 0 -/
theorem mulT_getD (a b x : List K) (h1 : a.length = x.length) (h2 : b.length + 1 = a.length) :
    ∀ (p : K) (t : Nat), t < a.length →
      (mulT a b x p).getD t 0
        = (if t = 0 then p else b.getD (t - 1) 0 * x.getD (t - 1) 0) + a.getD t 0 * x.getD t 0
          + (if t + 1 < a.length then b.getD t 0 * x.getD (t + 1) 0 else 0) := by
  refine tri_induction (motive := fun a b x => ∀ (p : K) (t : Nat), t < a.length →
      (mulT a b x p).getD t 0
        = (if t = 0 then p else b.getD (t - 1) 0 * x.getD (t - 1) 0) + a.getD t 0 * x.getD t 0
          + (if t + 1 < a.length then b.getD t 0 * x.getD (t + 1) 0 else 0)) ?_ ?_ a b x h1 h2
  · intro a x p t ht
    have : t = 0 := by simpa using ht
    subst this
    simp [mulT]
  · intro a a' as b bs x x' xs _ _ ih p t ht
    cases t with
    | zero => simp [mulT]
    | succ t =>
      have ht' : t < (a' :: as).length := by simpa using ht
      have := ih (b * x) t ht'
      simp only [mulT, List.getD_cons_succ, this]
      cases t with
      | zero => simp
      | succ s => simp

theorem length_of_mulT_length (a b x : List K) (p : K) (h2 : b.length + 1 = a.length)
    (h : (mulT a b x p).length = a.length) : x.length = a.length := by
  fun_induction mulT a b x p with
  | case1 => rfl
  | case2 a as b bs x x' xs p ih => simp_all
  | case3 => simp at h; omega

section edit
omit [_root_.Field K]

theorem getD_setHead (xs : List K) (f : K → K) (t : Nat) (d : K) :
    (setHead xs f).getD t d = if t = 0 ∧ xs ≠ [] then f (xs.getD 0 d) else xs.getD t d := by
  cases xs with
  | nil => simp [setHead]
  | cons x ys => cases t <;> simp [setHead]

theorem getD_setLast : ∀ (xs : List K) (f : K → K) (t : Nat) (d : K),
    (setLast xs f).getD t d = if t + 1 = xs.length then f (xs.getD t d) else xs.getD t d
  | [], f, t, d => by simp [setLast]
  | [x], f, t, d => by cases t <;> simp [setLast]
  | x :: y :: ys, f, t, d => by
      cases t with
      | zero => simp [setLast]
      | succ t =>
        have := getD_setLast (y :: ys) f t d
        simp only [setLast, List.getD_cons_succ, this, List.length_cons]
        simp

end edit

theorem mulC_getD (a b : List K) (c : K) (x : List K) (h1 : a.length = x.length) (h2 : b.length + 1 = a.length)
    (hn : 3 ≤ a.length) (t : Nat) (ht : t < a.length) :
    (mulC a b c x).getD t 0
      = a.getD t 0 * x.getD t 0
        + (if t = 0 then c * x.getD (a.length - 1) 0 else b.getD (t - 1) 0 * x.getD (t - 1) 0)
        + (if t + 1 = a.length then c * x.getD 0 0 else b.getD t 0 * x.getD (t + 1) 0) := by
  unfold mulC
  have hl := mulT_length a b x h1 h2 (0 : K)
  have hne : mulT a b x (0 : K) ≠ [] := by
    intro h; rw [h] at hl; simp at hl; omega
  simp only [Scalar.n_zero]
  rw [getD_setLast, getD_setHead, setHead_length, hl, List.headD_eq_getD, List.getLastD_eq_getLast?, List.getLast?_eq_getElem?,
    ← List.getD_eq_getElem?_getD, ← h1]
  by_cases h0 : t = 0
  · subst h0
    have : ¬ (0 + 1 = a.length) := by omega
    rw [if_neg this, if_pos ⟨rfl, hne⟩, mulT_getD a b x h1 h2 0 0 ht, if_neg this]
    simp only [if_true, Nat.zero_add]
    rw [if_pos (by omega)]
    ring
  · have : ¬ (t = 0 ∧ mulT a b x (0 : K) ≠ []) := fun h => h0 h.1
    rw [if_neg this, mulT_getD a b x h1 h2 0 t ht, if_neg h0, if_neg h0]
    by_cases hlast : t + 1 = a.length
    · rw [if_pos hlast, if_pos hlast, if_neg (by omega)]; ring
    · rw [if_neg hlast, if_neg hlast, if_pos (by omega)]; ring

section rows
open Stencil
variable (o : Op K) (f w : Stencil.Field K)

/-- symmetric storage: "Top" of the angular predecessor is "Bottom" of the node -/
theorem topValue_jm (i : Nat) {j : Nat} (hj : j < o.nt) : topValue o i (jm o j) = bottomValue o i j := by
  simp only [topValue, bottomValue, coeff3, coeff4, jp_jm o hj]
  ring

theorem bottomValue_jp (i : Nat) {j : Nat} (hj : j < o.nt) : bottomValue o i (jp o j) = topValue o i j := by
  simp only [topValue, bottomValue, coeff3, coeff4, jm_jp o hj]
  ring

/-- symmetric storage: "Right" of the radial predecessor is "Left" of the node -/
theorem rightValue_pred {i : Nat} (hi : 1 < i) (j : Nat) : rightValue o (i - 1) j = leftValue o i j (i - 1) j := by
  have e : i - 1 + 1 = i := by omega
  simp only [rightValue, leftValue, coeff1, coeff2, SmootherCode.h1, if_neg (by omega : ¬ i = 0), e]
  ring

/-- interior row: Center, Left, Right, Bottom, Top as `buildAscMatrices` computes them, the four mixed terms apart -/
theorem takeInterior_eq {i : Nat} (j : Nat) (h0 : 0 < i) :
    takeInterior o f w i j = f i j - diagTerms o w i j
      (centerValue o i j (i - 1) j * w i j + leftValue o i j (i - 1) j * w (i - 1) j + rightValue o i j * w (i + 1) j
        + bottomValue o i j * w i (jm o j) + topValue o i j * w i (jp o j)) := by
  simp only [takeInterior, diagTerms, centerValue, leftValue, rightValue, bottomValue, topValue, coeff1, coeff2, coeff3,
    coeff4, SmootherCode.h1, if_neg h0.ne']
  ring

/-- row of the innermost circle across the origin: Left is the antipode, two mixed terms -/
theorem takeOrigin_eq (j : Nat) :
    takeOrigin o f w j = f 0 j -
      (centerValue o 0 j 0 (ja o j) * w 0 j + leftValue o 0 j 0 (ja o j) * w 0 (ja o j) + rightValue o 0 j * w 1 j
        + bottomValue o 0 j * w 0 (jm o j) + topValue o 0 j * w 0 (jp o j)
        + quarter * (o.art 1 j + o.art 0 (jm o j)) * w 1 (jm o j)
        - quarter * (o.art 1 j + o.art 0 (jp o j)) * w 1 (jp o j)) := by
  simp only [takeOrigin, centerValue, leftValue, rightValue, bottomValue, topValue, coeff1, coeff2, coeff3, coeff4,
    SmootherCode.h1, if_true, Nat.zero_add]
  ring

end rows

section stored
open Stencil
variable (o : Op K) (nc : Nat) (f u : Stencil.Field K)

@[simp] theorem length_circleMain (i : Nat) : (circleMain o i).length = o.nt := by simp [circleMain]
@[simp] theorem length_circleSub (i : Nat) : (circleSub o i).length = o.nt - 1 := by simp [circleSub]
@[simp] theorem length_radialMain (j : Nat) : (radialMain o nc j).length = o.nr - nc := by simp [radialMain]
@[simp] theorem length_radialSub (j : Nat) : (radialSub o nc j).length = o.nr - nc - 1 := by simp [radialSub]
@[simp] theorem length_circleTemp (i : Nat) : (circleTemp o nc f u i).length = o.nt := by simp [circleTemp]
@[simp] theorem length_radialTemp (j : Nat) : (radialTemp o nc f u j).length = o.nr - nc := by simp [radialTemp]

theorem getD_circleTemp (i : Nat) {q : Nat} (hq : q < o.nt) :
    (circleTemp o nc f u i).getD q 0 = orthoCircle o nc f u i q := by
  rw [circleTemp, SparseLU.getD_map_range, if_pos hq]

theorem getD_radialTemp (j : Nat) {t : Nat} (ht : t < o.nr - nc) :
    (radialTemp o nc f u j).getD t 0 = orthoRadial o nc f u (nc + t) j := by
  rw [radialTemp, SparseLU.getD_map_range, if_pos ht]

end stored

end SmootherCode
