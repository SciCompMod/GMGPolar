import GMGProofs.Lemmas.InterpPointwise
import Mathlib.Tactic.LinearCombination
/-!
# FMG interpolation (C09, interpolation part)

The four Lagrange weights `w0 … w3` are exact for cubics (`rule_cubic`, one statement for both directions);
`fmgInterp` is the radial rule `fmgCol` applied to the values `fmgRow` the angular rule gives on the coarse rows,
and `fmgCol` is `Pr` except at interior odd nodes.
-/
open InterpSums

namespace Interp
variable {K : Type} [_root_.Field K]

def cubic (c0 c1 c2 c3 t : K) : K := c0 + c1 * t + c2 * t ^ 2 + c3 * t ^ 3

theorem thetaRule_mul (p : Pair K) (f g : ℕ → K) (I j : ℕ) :
    thetaRule p (fun I J => f I * g J) I j = f I * thetaRule p (fun _ J => g J) I j := by
  simp only [thetaRule]; ring

section Ordered
variable [LinearOrder K] [IsStrictOrderedRing K]

/-- cubic exactness: nodes at `ρ-(h0+h1), ρ-h1, ρ+h2, ρ+(h2+h3)`, evaluation at `ρ` -/
theorem w_cubic_at (h0 h1 h2 h3 c0 c1 c2 c3 ρ : K) (p0 : 0 < h0) (p1 : 0 < h1) (p2 : 0 < h2) (p3 : 0 < h3) :
    w0 h0 h1 h2 h3 * cubic c0 c1 c2 c3 (ρ - (h0 + h1)) + w1 h0 h1 h2 h3 * cubic c0 c1 c2 c3 (ρ - h1)
      + w2 h0 h1 h2 h3 * cubic c0 c1 c2 c3 (ρ + h2) + w3 h0 h1 h2 h3 * cubic c0 c1 c2 c3 (ρ + (h2 + h3))
      = cubic c0 c1 c2 c3 ρ := by
  unfold w0 w1 w2 w3 cubic
  have : h0 + h1 + h2 ≠ 0 := by positivity
  have : h0 + h1 + h2 + h3 ≠ 0 := by positivity
  have : h1 + h2 ≠ 0 := by positivity
  have : h1 + h2 + h3 ≠ 0 := by positivity
  field_simp
  ring

/-- the weights sum to one: exactness for the constant `1` -/
theorem w_sum (h0 h1 h2 h3 : K) (p0 : 0 < h0) (p1 : 0 < h1) (p2 : 0 < h2) (p3 : 0 < h3) :
    w0 h0 h1 h2 h3 + w1 h0 h1 h2 h3 + w2 h0 h1 h2 h3 + w3 h0 h1 h2 h3 = 1 := by
  simpa [cubic] using w_cubic_at h0 h1 h2 h3 1 0 0 0 0 p0 p1 p2 p3

theorem thetaRule_const (p : Pair K) (hP : PosSpacing p) (c : K) (I j : ℕ) :
    thetaRule p (fun _ _ => c) I j = c := by
  simp only [thetaRule]
  have := w_sum (p.kC (wC p (j / 2 + ntC p - 1))) (p.kF (wF p (j + p.ntF - 1))) (p.kF j) (p.kC (wC p (j / 2 + 1)))
    (hP.kC _) (hP.kF _) (hP.kF _) (hP.kC _)
  linear_combination c * this

/-- the four-point rule of either direction at the fine node `2s+3`: fine steps `h`, coarse steps `C` (each the sum
    of the two fine steps it covers), nodes `r`, applied to `g I = P(r(2I))·Θ` -/
theorem rule_cubic (h C : ℕ → K) (hh : ∀ i, 0 < h i) (hCp : ∀ I, 0 < C I) (c0 c1 c2 c3 Θ : K) (r g : ℕ → K) (s : ℕ)
    (hr : ∀ i, r (i + 1) = r i + h i) (hC : ∀ I, C I = h (2 * I) + h (2 * I + 1))
    (hg : ∀ I, g I = cubic c0 c1 c2 c3 (r (2 * I)) * Θ) :
    w0 (C s) (h (2 * s + 2)) (h (2 * s + 3)) (C (s + 2)) * g s
      + w1 (C s) (h (2 * s + 2)) (h (2 * s + 3)) (C (s + 2)) * g (s + 1)
      + w2 (C s) (h (2 * s + 2)) (h (2 * s + 3)) (C (s + 2)) * g (s + 2)
      + w3 (C s) (h (2 * s + 2)) (h (2 * s + 3)) (C (s + 2)) * g (s + 3)
      = cubic c0 c1 c2 c3 (r (2 * s + 3)) * Θ := by
  -- the four coarse nodes seen from `r (2s+3)`
  have n1 : r (2 * (s + 1)) = r (2 * s + 3) - h (2 * s + 2) := eq_sub_of_add_eq (hr (2 * s + 2)).symm
  have n0 : r (2 * s) = r (2 * s + 3) - (C s + h (2 * s + 2)) := by
    rw [hC s]; linear_combination (-1 : K) * hr (2 * s) - hr (2 * s + 1) - hr (2 * s + 2)
  have n2 : r (2 * (s + 2)) = r (2 * s + 3) + h (2 * s + 3) := hr (2 * s + 3)
  have n3 : r (2 * (s + 3)) = r (2 * s + 3) + (h (2 * s + 3) + C (s + 2)) := by
    rw [hC (s + 2)]; linear_combination hr (2 * s + 3) + hr (2 * s + 4) + hr (2 * s + 5)
  rw [hg s, hg (s + 1), hg (s + 2), hg (s + 3), n0, n1, n2, n3]
  linear_combination Θ * w_cubic_at (C s) (h (2 * s + 2)) (h (2 * s + 3)) (C (s + 2)) c0 c1 c2 c3 (r (2 * s + 3))
    (hCp _) (hh _) (hh _) (hCp _)

/-- the angular rule away from the seam: `j` odd, `3 ≤ j`, `j + 3 < ntF`, angles consistent with the spacings -/
theorem thetaRule_cubic (p : Pair K) (hA : Admissible p) (hP : PosSpacing p) (c0 c1 c2 c3 : K) (θ : ℕ → K)
    (x : Field K) (I j : ℕ) (hodd : j % 2 = 1) (h3 : 3 ≤ j) (hj : j + 3 < p.ntF)
    (hθ : ∀ j, θ (j + 1) = θ j + p.kF j) (hC : ∀ J, p.kC J = p.kF (2 * J) + p.kF (2 * J + 1))
    (hx : ∀ J, x I J = cubic c0 c1 c2 c3 (θ (2 * J))) :
    thetaRule p x I j = cubic c0 c1 c2 c3 (θ j) := by
  obtain ⟨m, q, hm, hq, hnr, hnt, hc, hqc⟩ := hA.exists_mq
  obtain ⟨s, rfl⟩ : ∃ s, j = 2 * s + 3 := ⟨(j - 3) / 2, by omega⟩
  -- no index wraps
  have e1 : (2 * s + 3) / 2 = s + 1 := by omega
  have e2 : wC p (s + 1 + ntC p - 1) = s := by
    unfold wC; rw [hqc]; exact mod_of_add _ _ _ (by omega) (by omega)
  have e3 : wC p (s + 1 + 1) = s + 2 := by
    unfold wC; rw [hqc]; exact Nat.mod_eq_of_lt (by omega)
  have e4 : wC p (s + 1 + 2) = s + 3 := by
    unfold wC; rw [hqc]; exact Nat.mod_eq_of_lt (by omega)
  have e5 : wF p (2 * s + 3 + p.ntF - 1) = 2 * s + 2 := by
    unfold wF; exact mod_of_add _ _ _ (by omega) (by omega)
  simp only [thetaRule, e1, e2, e3, e4, e5]
  simpa using rule_cubic p.kF p.kC hP.kF hP.kC c0 c1 c2 c3 1 θ (x I) s hθ hC (fun J => by rw [hx, mul_one])

end Ordered

/-- the value the radial rule sees on coarse row `I` at fine column `j`: the angular rule for odd `j`,
    the coarse value itself for even `j` -/
def fmgRow (p : Pair K) (x : Field K) (j I : ℕ) : K := if j % 2 = 1 then thetaRule p x I j else x I (j / 2)

/-- the radial rule on the values `g I` of one fine column: the four-point rule at interior odd nodes, elsewhere
    what `Pr` does (two-point rule next to the boundary, the coincident value at even nodes) -/
def fmgCol (p : Pair K) (g : ℕ → K) (i : ℕ) : K :=
  if i = 0 ∨ i + 1 = p.nrF then g (i / 2)
  else if i = 1 ∨ i + 2 = p.nrF then (p.hF (i - 1) * g (i / 2) + p.hF i * g (i / 2 + 1)) / (p.hF (i - 1) + p.hF i)
  else if i % 2 = 1 then
    w0 (p.hC (i / 2 - 1)) (p.hF (i - 1)) (p.hF i) (p.hC (i / 2 + 1)) * g (i / 2 - 1)
      + w1 (p.hC (i / 2 - 1)) (p.hF (i - 1)) (p.hF i) (p.hC (i / 2 + 1)) * g (i / 2)
      + w2 (p.hC (i / 2 - 1)) (p.hF (i - 1)) (p.hF i) (p.hC (i / 2 + 1)) * g (i / 2 + 1)
      + w3 (p.hC (i / 2 - 1)) (p.hF (i - 1)) (p.hF i) (p.hC (i / 2 + 1)) * g (i / 2 + 2)
  else g (i / 2)

theorem fmgInterp_eq (p : Pair K) (x : Field K) (i j : ℕ) : fmgInterp p x i j = fmgCol p (fmgRow p x j) i := by
  simp only [fmgInterp, fmgCol, fmgRow]
  split_ifs <;> rfl

theorem fmgCol_interior (p : Pair K) (g : ℕ → K) (s : ℕ) (hi : 2 * s + 3 + 3 ≤ p.nrF) :
    fmgCol p g (2 * s + 3) =
      w0 (p.hC s) (p.hF (2 * s + 2)) (p.hF (2 * s + 3)) (p.hC (s + 2)) * g s
      + w1 (p.hC s) (p.hF (2 * s + 2)) (p.hF (2 * s + 3)) (p.hC (s + 2)) * g (s + 1)
      + w2 (p.hC s) (p.hF (2 * s + 2)) (p.hF (2 * s + 3)) (p.hC (s + 2)) * g (s + 2)
      + w3 (p.hC s) (p.hF (2 * s + 2)) (p.hF (2 * s + 3)) (p.hC (s + 2)) * g (s + 3) := by
  have c1 : ¬ (2 * s + 3 = 0 ∨ 2 * s + 3 + 1 = p.nrF) := by omega
  have c2 : ¬ (2 * s + 3 = 1 ∨ 2 * s + 3 + 2 = p.nrF) := by omega
  have c3 : (2 * s + 3) % 2 = 1 := by omega
  have e1 : (2 * s + 3) / 2 = s + 1 := by omega
  simp only [fmgCol, c1, c2, c3, e1, if_true, if_false]
  rfl

theorem fmgCol_eq_Pr (p : Pair K) (hA : Admissible p) (g : ℕ → K) (i : ℕ)
    (hi : i % 2 = 0 ∨ i = 1 ∨ i + 2 = p.nrF) : fmgCol p g i = Pr p.hF g i := by
  obtain ⟨m, q, hm, hq, hnr, hnt, hc, hqc⟩ := hA.exists_mq
  unfold fmgCol Pr
  split_ifs <;> first | rfl | omega

theorem fmg_fallback (p : Pair K) (hA : Admissible p) (x : Field K) (i j : ℕ) (hi : i = 1 ∨ i + 2 = p.nrF)
    (hj : j % 2 = 0) : fmgInterp p x i j = prolong p x i j := by
  have hj' : ¬ j % 2 = 1 := by omega
  have hrow : fmgRow p x j = fun I => Pt p.ntF (ntC p) p.kF (x I) j := funext fun I => by rw [fmgRow, Pt, if_neg hj', if_neg hj']
  rw [fmgInterp_eq, fmgCol_eq_Pr p hA _ i (Or.inr hi), prolong_eq_tensor, hrow]

section Ordered
variable [LinearOrder K] [IsStrictOrderedRing K]

theorem fmg_const (p : Pair K) (hP : PosSpacing p) (c : K) (i j : ℕ) :
    fmgInterp p (fun _ _ => c) i j = c := by
  have hh : p.hF (i - 1) + p.hF i ≠ 0 := by have := hP.hF (i - 1); have := hP.hF i; positivity
  have hw := w_sum (p.hC (i / 2 - 1)) (p.hF (i - 1)) (p.hF i) (p.hC (i / 2 + 1))
    (hP.hC _) (hP.hF _) (hP.hF _) (hP.hC _)
  simp only [fmgInterp, thetaRule_const p hP]
  split_ifs
  all_goals first
    | rfl
    | (rw [div_eq_iff hh]; ring)
    | linear_combination c * hw

end Ordered

end Interp
