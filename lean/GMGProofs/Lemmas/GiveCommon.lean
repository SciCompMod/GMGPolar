import GMGProofs.Lemmas.DirectGiveRows
import GMGProofs.Lemmas.SmootherCode4
/-!
# What the two give smoothers share

Both scatter strategies (`SmootherGive`, `ExtrapolatedSmootherGive`) are compared with their gather counterparts in the same
three steps, and each step needs the same facts whichever smoother it is:

* assembly: the geometric factors of neighbouring nodes coincide (`coeff1_succ … coeff1_ja`), and a sum over the grid of terms
  with a single giver collapses (`sum_row_lt…`, `sum2_unique`);
* sweep: the lines of one colour are pairwise non-adjacent (`circles_pairwise`, `radials_pairwise`), so a fold that solves
  them one after the other on `temp` stays in lockstep with the fold that solves them on the iterate (`fold_sim`).
-/
namespace GiveCommon
open Stencil SmootherCode Finset
variable {K : Type} [_root_.Field K]

section coeff
variable (o : Op K)

theorem coeff1_succ (a b : Nat) : coeff1 o (a + 1) b = coeff2 o a b := by
  unfold coeff1 coeff2
  rw [DirectGiveCode.h1_pos o (Nat.succ_ne_zero a), Nat.succ_sub_one]

theorem coeff2_pred {a : Nat} (b : Nat) (ha : 0 < a) : coeff2 o (a - 1) b = coeff1 o a b := by
  rw [← coeff1_succ, Nat.sub_add_cancel ha]

theorem coeff3_jp (a : Nat) {b : Nat} (hb : b < o.nt) : coeff3 o a (jp o b) = coeff4 o a b := by
  unfold coeff3 coeff4
  rw [jm_jp o hb]

theorem coeff4_jm (a b : Nat) : coeff4 o a (jm o b) = coeff3 o a b := rfl

/-- antipodally symmetric angular spacing: the geometric factor of "Left" is the same at a node and at its antipode -/
theorem coeff1_ja (hnt : 2 ≤ o.nt) (heven : o.nt % 2 = 0) (hk : ∀ j, j < o.nt → o.k (ja o j) = o.k j) {j : Nat}
    (hj : j < o.nt) : coeff1 o 0 (ja o j) = coeff1 o 0 j := by
  unfold coeff1
  rw [jm_ja o hnt heven hj, hk j hj, hk _ (jm_lt o (by omega) j)]

end coeff

theorem sum_row_lt {nr nt r : Nat} (hr : r < nr) (Q : Nat → Prop) [DecidablePred Q] (g : Nat → Nat → K) :
    ∑ a ∈ range nr, ∑ b ∈ range nt, (if r = a ∧ Q b then g a b else 0) = ∑ b ∈ range nt, if Q b then g r b else 0 := by
  rw [sum_row, if_pos hr]

theorem sum_row_succ_pos {nr nt r : Nat} (h0 : 0 < r) (hr : r ≤ nr) (Q : Nat → Prop) [DecidablePred Q] (g : Nat → Nat → K) :
    ∑ a ∈ range nr, ∑ b ∈ range nt, (if r = a + 1 ∧ Q b then g a b else 0)
      = ∑ b ∈ range nt, if Q b then g (r - 1) b else 0 := by
  rw [sum_row_succ nr nt r hr, if_pos h0]

theorem sum_row_shift {L nt m r : Nat} (Q : Nat → Prop) [DecidablePred Q] (g : Nat → Nat → K) :
    ∑ s ∈ range L, ∑ b ∈ range nt, (if r = m + s ∧ Q b then g s b else 0)
      = if m ≤ r ∧ r < m + L then ∑ b ∈ range nt, if Q b then g (r - m) b else 0 else 0 := by
  split
  next h =>
    rw [← sum_row_lt (by omega : r - m < L) Q g]
    exact sum_grid_congr fun s _ b _ => if_congr (and_congr_left' (by omega)) rfl rfl
  next h =>
    exact Finset.sum_eq_zero fun s hs => Finset.sum_eq_zero fun b _ => if_neg fun h' => by
      have := mem_range.mp hs
      omega

theorem sum2_unique (nr nt i0 j0 : Nat) (P : Nat → Nat → Prop) [∀ i j, Decidable (P i j)] (g : Nat → Nat → K)
    (hu : ∀ i j, i < nr → j < nt → P i j → i = i0 ∧ j = j0) :
    ∑ i ∈ range nr, ∑ j ∈ range nt, (if P i j then g i j else 0)
      = if i0 < nr ∧ j0 < nt ∧ P i0 j0 then g i0 j0 else 0 := by
  split_ifs with h
  · rw [Finset.sum_eq_single_of_mem i0 (mem_range.mpr h.1), Finset.sum_eq_single_of_mem j0 (mem_range.mpr h.2.1),
      if_pos h.2.2]
    · exact fun j hj hne => if_neg fun hp => hne (hu i0 j h.1 (mem_range.mp hj) hp).2
    · exact fun i hi hne => Finset.sum_eq_zero fun j hj =>
        if_neg fun hp => hne (hu i j (mem_range.mp hi) (mem_range.mp hj) hp).1
  · exact Finset.sum_eq_zero fun i hi => Finset.sum_eq_zero fun j hj => if_neg fun hp => h (by
      obtain ⟨rfl, rfl⟩ := hu i j (mem_range.mp hi) (mem_range.mp hj) hp
      exact ⟨mem_range.mp hi, mem_range.mp hj, hp⟩)

theorem sum2_single (nr nt i0 j0 : Nat) (P : Nat → Nat → Prop) [∀ i j, Decidable (P i j)] (g : Nat → Nat → K)
    (h0 : P i0 j0) (hi : i0 < nr) (hj : j0 < nt) (hu : ∀ i j, i < nr → j < nt → P i j → i = i0 ∧ j = j0) :
    ∑ i ∈ range nr, ∑ j ∈ range nt, (if P i j then g i j else 0) = g i0 j0 :=
  (sum2_unique nr nt i0 j0 P g hu).trans (if_pos ⟨hi, hj, h0⟩)

theorem sum2_none (nr nt : Nat) (P : Nat → Nat → Prop) [∀ i j, Decidable (P i j)] (g : Nat → Nat → K)
    (hn : ∀ i j, i < nr → j < nt → ¬ P i j) :
    ∑ i ∈ range nr, ∑ j ∈ range nt, (if P i j then g i j else 0) = 0 :=
  (sum2_unique nr nt 0 0 P g fun i j hi hj hp => absurd hp (hn i j hi hj)).trans
    (if_neg fun h => hn 0 0 h.1 h.2.1 h.2.2)

theorem mem_blackCircles {nc i : Nat} : i ∈ blackCircles nc ↔ i < nc ∧ (nc - 1 - i) % 2 = 0 := by
  simp [blackCircles]
theorem mem_whiteCircles {nc i : Nat} : i ∈ whiteCircles nc ↔ i < nc ∧ (nc - 1 - i) % 2 = 1 := by
  simp [whiteCircles]
theorem mem_blackRadials {nt j : Nat} : j ∈ blackRadials nt ↔ j < nt ∧ j % 2 = 0 := by
  simp [blackRadials]
theorem mem_whiteRadials {nt j : Nat} : j ∈ whiteRadials nt ↔ j < nt ∧ j % 2 = 1 := by
  simp [whiteRadials]

theorem pairwise_filter_range (n : Nat) (P : Nat → Bool) (R : Nat → Nat → Prop)
    (h : ∀ i i', i < i' → i' < n → P i = true → P i' = true → R i i') :
    ((List.range n).filter P).Pairwise R :=
  (List.Pairwise.filter _ List.pairwise_lt_range).imp_of_mem fun hi hi' hlt =>
    h _ _ hlt (List.mem_range.mp (List.mem_filter.mp hi').1) (List.mem_filter.mp hi).2 (List.mem_filter.mp hi').2

/-- two circles: different and not adjacent -/
def Apart (i i' : Nat) : Prop := i ≠ i' ∧ i + 1 ≠ i' ∧ i' + 1 ≠ i

/-- two radial lines: different and not adjacent -/
def ApartAng (o : Op K) (j j' : Nat) : Prop := j ≠ j' ∧ jm o j' ≠ j ∧ jp o j' ≠ j

/-- the circles of one colour (`r`: the parity of `nc - 1 - i`) are pairwise non-adjacent -/
theorem circles_pairwise (nc r : Nat) : ((List.range nc).filter fun i => (nc - 1 - i) % 2 = r).Pairwise Apart :=
  pairwise_filter_range nc _ _ fun i i' h1 h2 p1 p2 => by
    simp only [decide_eq_true_eq] at p1 p2
    unfold Apart
    omega

omit [_root_.Field K] in
/-- `nt` even: so are the radial lines of one colour -/
theorem radials_pairwise (o : Op K) (heven : o.nt % 2 = 0) (r : Nat) :
    ((List.range o.nt).filter fun j => j % 2 = r).Pairwise (ApartAng o) :=
  pairwise_filter_range o.nt _ _ fun j j' h1 h2 p1 p2 => by
    simp only [decide_eq_true_eq] at p1 p2
    have := Stencil.jm_parity o heven h2
    have := Stencil.jp_parity o heven h2
    unfold ApartAng
    omega

section Lockstep
omit [_root_.Field K]
variable {A T V : Type} (view : A → Stencil.Field K) (viewT : T → Stencil.Field K) (write : A → Nat → V → A)
  (put : T → Nat → V → T) (solveG : T → Nat → Option V) (solveT : Stencil.Field K → Nat → Option V)

/-- the give step of a line solves on `temp` and leaves the solution there and in the iterate; the take step solves on the
    iterate -/
def stepG (s : Option (A × T)) (i : Nat) : Option (A × T) :=
  s.bind fun st => (solveG st.2 i).map fun v => (write st.1 i v, put st.2 i v)
def stepT (s : Option A) (i : Nat) : Option A := s.bind fun a => (solveT (view a) i).map (write a i)

theorem stepG_none (l : List Nat) : l.foldl (stepG write put solveG) none = none := foldl_bind_none _ l
theorem stepT_none (l : List Nat) : l.foldl (stepT view write solveT) none = none := foldl_bind_none _ l

/-- what the two folds over the lines `l` have in common: the same iterate (or both exit), and on the grid (`rng`) outside
    the solved lines (`cell i p q`: node `(p, q)` lies on line `i`) `temp` and the iterate as before -/
def Sim (good : A → T → Prop) (cell : Nat → Nat → Nat → Prop) (rng : Nat → Nat → Prop) (l : List Nat) (a : A) (t : T) :
    Prop :=
  (∃ a' t', l.foldl (stepG write put solveG) (some (a, t)) = some (a', t') ∧
      l.foldl (stepT view write solveT) (some a) = some a' ∧ good a' t' ∧
      ∀ p q, rng p q → (∀ i ∈ l, ¬ cell i p q) → viewT t' p q = viewT t p q ∧ view a' p q = view a p q) ∨
    (l.foldl (stepG write put solveG) (some (a, t)) = none ∧ l.foldl (stepT view write solveT) (some a) = none)

/-- **both strategies run in lockstep** over pairwise independent lines (`Ok`), as long as `temp` of a line still to be solved
    holds the take strategy's right-hand side for the current iterate (`Inv`): solving a line keeps that for the others -/
theorem fold_sim (good : A → T → Prop) (cell : Nat → Nat → Nat → Prop) (rng : Nat → Nat → Prop) (Inv : T → A → Nat → Prop)
    (Ok : Nat → Nat → Prop)
    (hsolve : ∀ t a i, good a t → Inv t a i → solveG t i = solveT (view a) i)
    (hgood : ∀ a t i v, good a t → good (write a i v) (put t i v))
    (hframe : ∀ a t i v p q, good a t → rng p q → ¬ cell i p q →
      viewT (put t i v) p q = viewT t p q ∧ view (write a i v) p q = view a p q)
    (hkeep : ∀ a t i v i', good a t → Ok i i' → Inv t a i' → Inv (put t i v) (write a i v) i') :
    ∀ l : List Nat, l.Pairwise Ok → ∀ a t, good a t → (∀ i ∈ l, Inv t a i) →
      Sim view viewT write put solveG solveT good cell rng l a t := by
  intro l
  induction l with
  | nil => exact fun _ a t hg _ => .inl ⟨a, t, rfl, rfl, hg, fun _ _ _ _ => ⟨rfl, rfl⟩⟩
  | cons i l ih =>
    intro hp a t hg hI
    obtain ⟨hp1, hp2⟩ := List.pairwise_cons.mp hp
    have hs := hsolve t a i hg (hI i List.mem_cons_self)
    unfold Sim
    simp only [List.foldl_cons, stepG, stepT, Option.bind_some, hs]
    cases solveT (view a) i with
    | none => exact .inr ⟨stepG_none .., stepT_none ..⟩
    | some v =>
      rcases ih hp2 _ _ (hgood a t i v hg) fun i' hi' => hkeep a t i v i' hg (hp1 i' hi') (hI i' (List.mem_cons_of_mem _ hi'))
        with ⟨a', t', h1, h2, h3, h4⟩ | h
      · refine .inl ⟨a', t', h1, h2, h3, fun p q hr hpq => ?_⟩
        obtain ⟨e1, e2⟩ := h4 p q hr fun i' hi' => hpq i' (List.mem_cons_of_mem _ hi')
        obtain ⟨e3, e4⟩ := hframe a t i v p q hg hr (hpq i List.mem_cons_self)
        exact ⟨e1.trans e3, e2.trans e4⟩
      · exact .inr h

/-- line solves that cannot fail: the folds of the plain steps -/
theorem Sim.total {sG : T → Nat → V} {sT : Stencil.Field K → Nat → V} {good : A → T → Prop}
    {cell : Nat → Nat → Nat → Prop} {rng : Nat → Nat → Prop} {l : List Nat} {a : A} {t : T}
    (h : Sim view viewT write put (fun t i => some (sG t i)) (fun u i => some (sT u i)) good cell rng l a t) :
    ∃ t', l.foldl (fun st i => (write st.1 i (sG st.2 i), put st.2 i (sG st.2 i))) (a, t)
        = (l.foldl (fun a i => write a i (sT (view a) i)) a, t') ∧
      good (l.foldl (fun a i => write a i (sT (view a) i)) a) t' ∧
      ∀ p q, rng p q → (∀ i ∈ l, ¬ cell i p q) →
        viewT t' p q = viewT t p q ∧ view (l.foldl (fun a i => write a i (sT (view a) i)) a) p q = view a p q := by
  have eG := foldl_bind_some (fun (st : A × T) i => (write st.1 i (sG st.2 i), put st.2 i (sG st.2 i))) l (a, t)
  have eT := foldl_bind_some (fun a i => write a i (sT (view a) i)) l a
  rcases h with ⟨a', t', h1, h2, h3, h4⟩ | h
  · obtain rfl := Option.some.inj (eT.symm.trans h2)
    exact ⟨t', Option.some.inj (eG.symm.trans h1), h3, h4⟩
  · exact absurd (eG.symm.trans h.1) nofun

end Lockstep
end GiveCommon
