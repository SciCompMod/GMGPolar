import GMGModel.Interp
import GMGProofs.Lemmas.FieldScalar
import GMGProofs.Lemmas.InterpSums
import Mathlib.Tactic.Ring
/-!
# Adjointness of `prolong` / `restrict` (C08)

`prolong` is the tensor product of a radial two-point rule `Pr` (non-periodic, `2m+1` fine nodes) and an
angular two-point rule `Pt` (periodic, `2q` fine nodes), `restrict` the tensor product of `Rr` and `Rt`.
Each 1-D pair is adjoint (pure field identity: every quotient appears identically on both sides, no
denominator is assumed non-zero), and the 2-D statement follows by exchanging the order of summation.
-/
open Finset InterpSums

namespace Interp

/-- standing hypotheses on a fine/coarse pair: `nrF` odd, `≥ 3`; `ntF` even, `≥ 4` -/
structure Admissible {α : Type} (p : Pair α) : Prop where
  nr_odd : p.nrF % 2 = 1
  nr_ge : 3 ≤ p.nrF
  nt_even : p.ntF % 2 = 0
  nt_ge : 4 ≤ p.ntF

theorem Admissible.exists_mq {α : Type} {p : Pair α} (h : Admissible p) :
    ∃ m q, 1 ≤ m ∧ 2 ≤ q ∧ p.nrF = 2 * m + 1 ∧ p.ntF = 2 * q ∧ nrC p = m + 1 ∧ ntC p = q := by
  obtain ⟨h1, h2, h3, h4⟩ := h
  refine ⟨p.nrF / 2, p.ntF / 2, ?_, ?_, ?_, ?_, ?_, ?_⟩ <;> (try simp only [nrC, ntC]) <;> omega

variable {K : Type} [_root_.Field K]

/-- radial prolongation with the code's weights (`h (i-1)` on the left value, `h i` on the right value) -/
def Pr (h u : ℕ → K) (i : ℕ) : K :=
  if i % 2 = 1 then (h (i - 1) * u (i / 2) + h i * u (i / 2 + 1)) / (h (i - 1) + h i) else u (i / 2)

/-- angular prolongation, periodic: `nt` fine nodes, `ntc` coarse nodes -/
def Pt (nt ntc : ℕ) (k v : ℕ → K) (j : ℕ) : K :=
  if j % 2 = 1 then
    (k ((j + nt - 1) % nt) * v (j / 2) + k j * v ((j / 2 + 1) % ntc)) / (k ((j + nt - 1) % nt) + k j)
  else v (j / 2)

/-- radial restriction: centre, left part for `I > 0`, right part for `I + 1 < nc` -/
def Rr (nc : ℕ) (h w : ℕ → K) (I : ℕ) : K :=
  w (2 * I) + (if I > 0 then h (2 * I - 1) * w (2 * I - 1) / (h (2 * I - 2) + h (2 * I - 1)) else 0)
    + (if I + 1 < nc then h (2 * I) * w (2 * I + 1) / (h (2 * I) + h (2 * I + 1)) else 0)

/-- angular restriction, periodic -/
def Rt (nt : ℕ) (k z : ℕ → K) (J : ℕ) : K :=
  z (2 * J)
    + k ((2 * J + nt - 1) % nt) * z ((2 * J + nt - 1) % nt) / (k ((2 * J + nt - 2) % nt) + k ((2 * J + nt - 1) % nt))
    + k (2 * J) * z ((2 * J + 1) % nt) / (k (2 * J) + k ((2 * J + 1) % nt))

theorem prolong_eq_tensor (p : Pair K) (x : Field K) (i j : ℕ) :
    prolong p x i j = Pr p.hF (fun I => Pt p.ntF (ntC p) p.kF (x I) j) i := by
  simp only [prolong, Pr, Pt, wF, wC]
  split_ifs
  all_goals try simp only [div_eq_mul_inv, mul_inv]
  all_goals try ring

theorem restrict_eq_tensor (p : Pair K) (y : Field K) (I J : ℕ) :
    restrict p y I J = Rr (nrC p) p.hF (fun i => Rt p.ntF p.kF (y i) J) I := by
  simp only [restrict, Rr, Rt, wF]
  split_ifs
  all_goals try simp only [div_eq_mul_inv, mul_inv]
  all_goals try ring

theorem Rt_Rr_comm (nt nc : ℕ) (k h : ℕ → K) (y : Field K) (I J : ℕ) :
    Rt nt k (fun j => Rr nc h (fun i => y i j) I) J = Rr nc h (fun i => Rt nt k (y i) J) I := by
  simp only [Rr, Rt]
  split_ifs <;> ring

theorem Pr_even (h u : ℕ → K) (I : ℕ) : Pr h u (2 * I) = u I := by simp [Pr]

theorem Pr_odd (h u : ℕ → K) (I : ℕ) :
    Pr h u (2 * I + 1) = (h (2 * I) * u I + h (2 * I + 1) * u (I + 1)) / (h (2 * I) + h (2 * I + 1)) := by
  simp [Pr]

theorem adjoint_r (m : ℕ) (h u w : ℕ → K) :
    ∑ i ∈ range (2 * m + 1), Pr h u i * w i = ∑ I ∈ range (m + 1), u I * Rr (m + 1) h w I := by
  rw [sum_odd_split]
  simp only [Pr_even, Pr_odd]
  simp only [Rr, mul_add, Finset.sum_add_distrib, mul_ite, mul_zero]
  rw [sum_left, sum_right, add_assoc, ← Finset.sum_add_distrib]
  congr 1
  apply Finset.sum_congr rfl
  intro I _
  have q1 : 2 * (I + 1) - 1 = 2 * I + 1 := by omega
  have q2 : 2 * (I + 1) - 2 = 2 * I := by omega
  rw [q1, q2]
  ring

theorem Pt_even (nt ntc : ℕ) (k v : ℕ → K) (J : ℕ) : Pt nt ntc k v (2 * J) = v J := by simp [Pt]

theorem Pt_odd (q : ℕ) (k v : ℕ → K) (J : ℕ) (hJ : J < q) :
    Pt (2 * q) q k v (2 * J + 1)
      = (k (2 * J) * v J + k (2 * J + 1) * v ((J + 1) % q)) / (k (2 * J) + k (2 * J + 1)) := by
  rw [Pt, wrapM1_odd J q hJ]; simp

theorem adjoint_t (q : ℕ) (k v z : ℕ → K) :
    ∑ j ∈ range (2 * q), Pt (2 * q) q k v j * z j = ∑ J ∈ range q, v J * Rt (2 * q) k z J := by
  rw [sum_even_split]
  rw [Finset.sum_congr rfl fun J hJ => congrArg (· * z (2 * J + 1)) (Pt_odd q k v J (Finset.mem_range.1 hJ))]
  simp only [Pt_even]
  -- the `θ-1` part of the restriction, as a function of the coarse index
  let G : ℕ → K := fun J => v J * (k ((2 * J + 2 * q - 1) % (2 * q)) * z ((2 * J + 2 * q - 1) % (2 * q))
      / (k ((2 * J + 2 * q - 2) % (2 * q)) + k ((2 * J + 2 * q - 1) % (2 * q))))
  have hG : ∑ J ∈ range q, G J
      = ∑ J ∈ range q, v ((J + 1) % q) * (k (2 * J + 1) * z (2 * J + 1) / (k (2 * J) + k (2 * J + 1))) :=
    sum_wrapM q fun J b c => v J * (k c * z c / (k b + k c))
  have rhs : ∀ J ∈ range q, v J * Rt (2 * q) k z J
      = v J * z (2 * J) + G J + v J * (k (2 * J) * z (2 * J + 1) / (k (2 * J) + k (2 * J + 1))) := fun J hJ => by
    simp only [Rt, G, wrapP1 J q (Finset.mem_range.1 hJ)]
    ring
  rw [Finset.sum_congr rfl rhs, Finset.sum_add_distrib, Finset.sum_add_distrib, hG]
  simp only [← Finset.sum_add_distrib]
  apply Finset.sum_congr rfl
  intro J _
  ring

theorem adjoint_mq (p : Pair K) (m q : ℕ) (hnr : p.nrF = 2 * m + 1) (hnt : p.ntF = 2 * q) (x y : Field K) :
    ∑ i ∈ range p.nrF, ∑ j ∈ range p.ntF, prolong p x i j * y i j
      = ∑ I ∈ range (nrC p), ∑ J ∈ range (ntC p), x I J * restrict p y I J := by
  have hc : nrC p = m + 1 := by unfold nrC; omega
  have hq : ntC p = q := by unfold ntC; omega
  simp only [prolong_eq_tensor, restrict_eq_tensor, hc, hq, hnr, hnt]
  -- radial adjointness column by column, then angular adjointness row by row
  rw [Finset.sum_comm]
  simp only [adjoint_r]
  rw [Finset.sum_comm]
  simp only [adjoint_t, Rt_Rr_comm]

end Interp
