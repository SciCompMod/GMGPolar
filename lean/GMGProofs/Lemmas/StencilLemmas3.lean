import GMGProofs.Lemmas.StencilLemmas2
/-!
# Scatter = gather

`give_formula` collects at a target what its six neighbours send; row class by row class this is the row of `take`.
Only the across-the-origin row needs anything of the angular spacing, and only at the target and its antipode.
-/
namespace Stencil
open Finset
variable {K : Type} [_root_.Field K]
variable (o : Op K) (f x : Field K)

/-- **scatter = gather** at one node; across the origin the spacings around the node and around its antipode agree -/
theorem give_eq_take_at (hnr : 4 ≤ o.nr) (heven : o.nt % 2 = 0) (i j : Nat) (hi : i < o.nr) (hj : j < o.nt)
    (hk : i = 0 → o.bc = false → o.k (ja o j) = o.k j ∧ o.k (jm o (ja o j)) = o.k (jm o j)) :
    give o f x i j = take o f x i j := by
  rw [give_formula o x hnr heven f i j hi hj]
  rcases Nat.eq_zero_or_pos i with rfl | h0
  · cases hbc : o.bc
    · obtain ⟨k1, k2⟩ := hk rfl hbc
      rw [take_origin o f x hbc]
      simp (disch := omega) only [sC, sL, sA, sB, sT, hbc, if_pos, if_neg, Bool.false_eq_true, and_false, or_false,
        false_or, if_false, if_true]
      simp only [fillC, fillL, fillLAcross, fillBAcross, fillTAcross, coeffs, takeOrigin, Nat.zero_add,
        jm_jp o hj, jp_jm o hj, ja_ja o heven hj, k1, k2]
      ring
    · rw [take_zero_dirichlet o f x hbc]
      simp (disch := omega) only [sC, sL, sA, sB, sT, hbc, if_pos, if_neg, and_self, true_or, or_true, if_true]
      ring
  · by_cases h1 : i + 1 < o.nr
    · obtain ⟨a, rfl⟩ := Nat.exists_eq_succ_of_ne_zero h0.ne'
      rw [take_interior o f x j h0 h1]
      simp (disch := omega) only [sC, sL, sR, sB, sT, if_pos, if_neg]
      simp only [fillC, fillL, fillR, fillB, fillT, coeffs, takeInterior, Nat.succ_eq_add_one, Nat.add_sub_cancel,
        jm_jp o hj, jp_jm o hj]
      ring
    · rw [take_outer o f x j h0 (by omega)]
      simp (disch := omega) only [sC, sR, sB, sT, if_pos, if_neg]
      ring

/-- **scatter = gather** at every node of the grid -/
theorem give_eq_take' (hnr : 4 ≤ o.nr) (hnt : 2 ≤ o.nt) (heven : o.nt % 2 = 0)
    (hk : o.bc = false → ∀ j, j < o.nt → o.k (ja o j) = o.k j)
    (i j : Nat) (hi : i < o.nr) (hj : j < o.nt) :
    give o f x i j = take o f x i j :=
  give_eq_take_at o f x hnr heven i j hi hj fun _ hbc =>
    ⟨hk hbc j hj, by rw [jm_ja o hnt heven hj]; exact hk hbc _ (jm_lt o (by omega) j)⟩

end Stencil
