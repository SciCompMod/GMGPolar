import GMGProofs.Lemmas.StencilLemmas4
/-!
# The explicit nodal bilinear forms

`Bform o x y i j` is the closed form of `Bn o x y i j` for `x, y ∈ V0`; it is visibly symmetric.
-/
namespace Stencil
open Finset
variable {K : Type} [_root_.Field K]

section forms
variable (o : Op K) (x y : Field K)

/-- nodal form of a node with all four neighbours; `h1` and the left values are parameters -/
def Bfull (i j : Nat) (h1 xL yL : K) : K :=
  let h2 := o.h i; let k1 := o.k (jm o j); let k2 := o.k j
  quarter * (h1 + h2) * (k1 + k2) * o.beta i * o.det i j * (x i j * y i j)
  + half * (k1 + k2) / h1 * o.arr i j * ((x i j - xL) * (y i j - yL))
  + half * (k1 + k2) / h2 * o.arr i j * ((x i j - x (i+1) j) * (y i j - y (i+1) j))
  + half * (h1 + h2) / k1 * o.att i j * ((x i j - x i (jm o j)) * (y i j - y i (jm o j)))
  + half * (h1 + h2) / k2 * o.att i j * ((x i j - x i (jp o j)) * (y i j - y i (jp o j)))
  + quarter * o.art i j * ((x i (jp o j) - x i (jm o j)) * (y (i+1) j - yL)
      + (x (i+1) j - xL) * (y i (jp o j) - y i (jm o j)))

/-- nodal form of an origin node `(0, j)`, across-the-origin mode -/
def Bacross (j : Nat) : K :=
  let h1 : K := Scalar.n 2 * o.r0
  let h2 := o.h 0; let k1 := o.k (jm o j); let k2 := o.k j
  quarter * (h1 + h2) * (k1 + k2) * o.beta 0 * o.det 0 j * (x 0 j * y 0 j)
  + half * (k1 + k2) / h1 * o.arr 0 j * ((x 0 j - x 0 (ja o j)) * (y 0 j - y 0 (ja o j)))
  + half * (k1 + k2) / h2 * o.arr 0 j * ((x 0 j - x 1 j) * (y 0 j - y 1 j))
  + half * (h1 + h2) / k1 * o.att 0 j * ((x 0 j - x 0 (jm o j)) * (y 0 j - y 0 (jm o j)))
  + half * (h1 + h2) / k2 * o.att 0 j * ((x 0 j - x 0 (jp o j)) * (y 0 j - y 0 (jp o j)))
  + quarter * o.art 0 j * ((x 0 (jp o j) - x 0 (jm o j)) * y 1 j + x 1 j * (y 0 (jp o j) - y 0 (jm o j)))

/-- closed form of the nodal bilinear form on `V0` -/
def Bform (i j : Nat) : K :=
  if i = 0 then
    (if o.bc = true then half * (o.k (jm o j) + o.k j) / o.h 0 * o.arr 0 j * (x 1 j * y 1 j)
     else Bacross o x y j)
  else if i + 1 = o.nr then
    half * (o.k (jm o j) + o.k j) / o.h (i - 1) * o.arr i j * (x (i - 1) j * y (i - 1) j)
  else Bfull o x y i j (o.h (i - 1)) (x (i - 1) j) (y (i - 1) j)

theorem Bform_symm (i j : Nat) : Bform o x y i j = Bform o y x i j := by
  unfold Bform Bfull Bacross
  split_ifs <;> ring

theorem Bn_eq_Bform (hnr : 4 ≤ o.nr) (hx : V0 o x) (hy : V0 o y) (i j : Nat) (hi : i < o.nr) :
    Bn o x y i j = Bform o x y i j := by
  rw [Bn_slots o x y hnr hi j, Bform]
  rcases Nat.eq_zero_or_pos i with rfl | h0
  · rw [if_pos rfl, if_pos rfl]
    cases hbc : o.bc
    · simp (disch := omega) only [sC, sL, sA, sR, sB, sT, hbc, if_pos, if_neg, Bool.false_eq_true, and_false,
        or_false, false_or, if_false, if_true]
      simp only [fillC, fillLAcross, fillR, fillBAcross, fillTAcross, coeffs, Bacross, Nat.zero_add]
      ring
    · simp (disch := omega) only [sC, sL, sA, sR, sB, sT, hbc, if_pos, if_neg, and_self, true_or, if_true]
      simp only [fillR, coeffs, hx.2 hbc, hy.2 hbc, Nat.zero_add]
      ring
  · rw [if_neg (by omega), if_neg h0.ne']
    by_cases hN : i + 1 = o.nr
    · have hxN : ∀ j, x i j = 0 := fun j => by rw [← hx.1 j]; congr 1; omega
      have hyN : ∀ j, y i j = 0 := fun j => by rw [← hy.1 j]; congr 1; omega
      rw [if_pos hN]
      simp (disch := omega) only [sC, sL, sR, sB, sT, if_pos, if_neg]
      simp only [fillL, coeffs, hxN, hyN]
      ring
    · -- an update that the class of `(i, j)` lacks is paired with `y` on a Dirichlet row
      have eL : sL o x i j * y (i - 1) j = (fillL o x i j (o.h (i - 1))).v * y (i - 1) j := by
        rw [sL]; split_ifs with h
        · obtain ⟨rfl, hbc⟩ := h.resolve_left h0.ne'
          rw [(hy.2 hbc j : y (1 - 1) j = 0), mul_zero, mul_zero]
        · rfl
      have eR : sR o x i j * y (i + 1) j = (fillR o x i j (o.h (i - 1))).v * y (i + 1) j := by
        rw [sR]; split_ifs with h
        · rfl
        · rw [show i + 1 = o.nr - 1 by omega, hy.1 j, mul_zero, mul_zero]
      rw [eL, eR, if_neg hN]
      simp (disch := omega) only [sC, sB, sT, if_pos, if_neg]
      simp only [fillC, fillL, fillR, fillB, fillT, coeffs, Bfull]
      ring

end forms
end Stencil
