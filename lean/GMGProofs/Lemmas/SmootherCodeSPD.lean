import GMGProofs.Props.C06c
/-! The quadratic forms of the stored line matrices are energies of the operator (C06d):
`Qc (circle matrix) xs = ⟨A e, e⟩` for the field `e` carrying `xs` on the circle. -/
namespace SmootherCode
open Stencil Tridiag C06c Finset
variable {K : Type} [_root_.Field K]

theorem dot_eq_sum : ∀ (x y : List K) (n : Nat), x.length ≤ n →
    dot x y = ∑ t ∈ range n, x.getD t 0 * y.getD t 0
  | [], y, n, _ => by simp [dot]
  | x :: xs, [], n, _ => by simp [dot]
  | x :: xs, y :: ys, 0, h => by simp at h
  | x :: xs, y :: ys, n + 1, h => by
      rw [Finset.sum_range_succ', dot, dot_eq_sum xs ys n (by simpa using h)]
      simp [add_comm]

theorem exists_ne_of_not_allZero : ∀ (x : List K), ¬ allZero x → ∃ t, t < x.length ∧ x.getD t 0 ≠ 0
  | [], h => absurd trivial h
  | x :: xs, h => by
      by_cases h0 : x = 0
      · have : ¬ allZero xs := fun hz => h ⟨h0, hz⟩
        obtain ⟨t, ht, hne⟩ := exists_ne_of_not_allZero xs this
        exact ⟨t + 1, by simpa using ht, by simpa using hne⟩
      · exact ⟨0, by simp, by simpa using h0⟩

theorem orthoCircle_zero (o : Op K) (nc i j : Nat) :
    orthoCircle o nc (fun _ _ => 0) (fun _ _ => 0) i j = 0 := by
  unfold orthoCircle diagTerms
  split_ifs <;> simp

theorem orthoRadial_zero (o : Op K) (nc i j : Nat) :
    orthoRadial o nc (fun _ _ => 0) (fun _ _ => 0) i j = 0 := by
  unfold orthoRadial diagTerms
  split_ifs <;> simp

/-- the field carrying `xs` on circle `i`, zero elsewhere -/
def circleField (i : Nat) (xs : List K) : Stencil.Field K := withCircle (fun _ _ => 0) i (fun b => xs.getD b 0)

theorem A_circleField (o : Op K) (nc : Nat) (xs : List K) (i j : Nat) (hi0 : 0 < i) (hinc : i < nc)
    (hnc : nc < o.nr) :
    A o (circleField i xs) i j
      = centerValue o i j (i - 1) j * xs.getD j 0 + bottomValue o i j * xs.getD (jm o j) 0
        + topValue o i j * xs.getD (jp o j) 0 := by
  unfold A circleField
  rw [circle_split o nc _ _ _ i j hi0 hinc hnc, orthoCircle_zero]; ring

/-- the quadratic form of the stored circle matrix is the energy of the field supported on the circle -/
theorem circle_Qc_eq_inner (o : Op K) (nc : Nat) (hnt : 3 ≤ o.nt) (i : Nat) (hi0 : 0 < i) (hinc : i < nc)
    (hnc : nc < o.nr) (xs : List K) (hxs : xs.length = o.nt) :
    Qc (circleMain o i) (circleSub o i) (circleCorner o i) xs
      = inner o (A o (circleField i xs)) (circleField i xs) := by
  have hI : inner o (A o (circleField i xs)) (circleField i xs)
      = ∑ j ∈ range o.nt, A o (circleField i xs) i j * circleField i xs i j := by
    unfold inner
    rw [Finset.sum_eq_single i]
    · intro a _ ha
      apply Finset.sum_eq_zero; intro b _
      rw [circleField, withCircle_of_ne _ _ ha, mul_zero]
    · intro h; exfalso; apply h; simp only [Finset.mem_range]; omega
  rw [hI, ← dot_mulC _ _ _ xs (by simp [hxs]) (by simp; omega), dot_eq_sum xs _ o.nt (by omega)]
  apply Finset.sum_congr rfl; intro j hj
  have hj' : j < o.nt := by simpa using hj
  have := circle_matrix_rows o i (fun b => xs.getD b 0) hnt j hj'
  rw [← list_eq_map_range xs o.nt hxs] at this
  rw [this, A_circleField o nc xs i j hi0 hinc hnc]
  rw [circleField, withCircle_self, mul_comm]

theorem circleField_V0 (o : Op K) (i : Nat) (xs : List K) (hi0 : 0 < i) (hi : i + 1 < o.nr) :
    V0 o (circleField i xs) := by
  exact ⟨fun j => withCircle_of_ne _ _ (by omega) j, fun _ j => withCircle_of_ne _ _ (by omega) j⟩

end SmootherCode
