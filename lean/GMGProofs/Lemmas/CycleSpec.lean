import GMGProofs.Lemmas.CycleExec
/-!
# The textbook multigrid recursion and the refinement of the buffer-rotating programs to it

`fgs` is the solver's `full_grid_smoothing_` switch: when set, level 0 of an extrapolated cycle uses the plain smoother.
-/
namespace MGCycle
variable {V : Type}

/-! ## specification -/

/-- textbook V/W/F recursion on depth `d` with iterate `u` and right-hand side `f`; `fuel` = `levels - 1 - d` -/
def cyc (o : Ops V) (c : Cfg) : Kind → (fuel d : Nat) → (u f : V) → V
  | _, 0, _, u, _ => u
  | k, fuel + 1, d, u, f =>
      let u1 := iter (fun v => o.smooth d v f) c.nu1 u
      let g := o.restrict d (o.resid d f u1)
      let e :=
        if d + 1 = c.levels - 1 then o.solve (d + 1) g
        else match k with
          | .V => cyc o c .V fuel (d + 1) (o.zero (d + 1)) g
          | .W => cyc o c .W fuel (d + 1) (cyc o c .W fuel (d + 1) (o.zero (d + 1)) g) g
          | .F => cyc o c .V fuel (d + 1) (cyc o c .F fuel (d + 1) (o.zero (d + 1)) g) g
      iter (fun v => o.smooth d v f) c.nu2 (o.add u1 (o.prolong (d + 1) e))

/-- the coarse-grid correction computed recursively on depth `d` (started from zero) for right-hand side `g` -/
def coarse (o : Ops V) (c : Cfg) (k : Kind) (fuel d : Nat) (g : V) : V :=
  match k with
  | .V => cyc o c .V fuel d (o.zero d) g
  | .W => cyc o c .W fuel d (cyc o c .W fuel d (o.zero d) g) g
  | .F => cyc o c .V fuel d (cyc o c .F fuel d (o.zero d) g) g

def coarseOrSolve (o : Ops V) (c : Cfg) (k : Kind) (fuel d : Nat) (g : V) : V :=
  if d = c.levels - 1 then o.solve d g else coarse o c k fuel d g

@[simp] theorem cyc_zero (o : Ops V) (c : Cfg) (k : Kind) (d : Nat) (u f : V) : cyc o c k 0 d u f = u := by
  cases k <;> rfl

theorem cyc_succ (o : Ops V) (c : Cfg) (k : Kind) (fuel d : Nat) (u f : V) :
    cyc o c k (fuel + 1) d u f =
      iter (fun v => o.smooth d v f) c.nu2
        (o.add (iter (fun v => o.smooth d v f) c.nu1 u)
          (o.prolong (d + 1) (coarseOrSolve o c k fuel (d + 1)
            (o.restrict d (o.resid d f (iter (fun v => o.smooth d v f) c.nu1 u)))))) := by
  cases k <;> rfl

def exSmF (o : Ops V) (fgs : Bool) (f : V) (v : V) : V := if fgs then o.smooth 0 v f else o.exSmooth 0 v f

/-- the implicitly extrapolated cycle on level 0: iterate `u`, right-hand sides `f` (level 0) and `f1` (level 1) -/
def excyc (o : Ops V) (c : Cfg) (k : Kind) (fgs : Bool) (u f f1 : V) : V :=
  let u1 := iter (exSmF o fgs f) c.nu1 u
  let g := o.lin43 (o.exRestrict 0 (o.resid 0 f u1)) (o.resid 1 f1 (o.inject 0 u1))
  iter (exSmF o fgs f) c.nu2 (o.add u1 (o.exProlong 1 (coarseOrSolve o c k (c.levels - 2) 1 g)))

/-! ## the programs, one level unfolded -/

def coarseProg (c : Cfg) (k : Kind) (fuel d : Nat) : List Instr :=
  match k with
  | .V => plain c .V fuel d (d, .res) (d, .err) (d, .sol)
  | .W => plain c .W fuel d (d, .res) (d, .err) (d, .sol) ++ plain c .W fuel d (d, .res) (d, .err) (d, .sol)
  | .F => plain c .F fuel d (d, .res) (d, .err) (d, .sol) ++ plain c .V fuel d (d, .res) (d, .err) (d, .sol)

/-- the buffer of level `d + 1` that receives the coarse right-hand side: `res` if that level is the last one (it is
    solved in place), `err` if a cycle is run there -/
def gbuf (c : Cfg) (d : Nat) : Buf := if d + 1 = c.levels - 1 then .res else .err

/-- the other one of `res`, `err` -/
def obuf (c : Cfg) (d : Nat) : Buf := if d + 1 = c.levels - 1 then .err else .res

theorem gbuf_obuf (c : Cfg) (d : Nat) :
    (gbuf c d = .res ∧ obuf c d = .err) ∨ (gbuf c d = .err ∧ obuf c d = .res) := by
  unfold gbuf obuf; split <;> simp

@[simp] theorem gbuf_ne_rhs (c : Cfg) (d : Nat) : gbuf c d ≠ .rhs := by unfold gbuf; split <;> decide

@[simp] theorem obuf_ne_rhs (c : Cfg) (d : Nat) : obuf c d ≠ .rhs := by unfold obuf; split <;> decide

/-- from the coarse right-hand side in `(d+1, gbuf c d)` to the coarse correction in `(d+1, res)` -/
def descend (c : Cfg) (k : Kind) (fuel d : Nat) : List Instr :=
  if d + 1 = c.levels - 1 then [.directSolve (d+1) (d+1, .res)] else .zero (d+1, .res) :: coarseProg c k fuel (d + 1)

@[simp] theorem plain_zero (c : Cfg) (k : Kind) (d : Nat) (x rhs tmp : Ref) : plain c k 0 d x rhs tmp = [] := rfl

theorem plain_succ (c : Cfg) (k : Kind) (fuel d : Nat) (x rhs tmp : Ref) :
    plain c k (fuel + 1) d x rhs tmp =
      List.replicate c.nu1 (.smooth d x rhs tmp) ++ ([.residual d tmp rhs x, .restrict d (d+1, gbuf c d) tmp] ++
      (descend c k fuel d ++
      ([.prolong (d+1) tmp (d+1, .res), .add x tmp] ++ List.replicate c.nu2 (.smooth d x rhs tmp)))) := by
  unfold gbuf descend
  by_cases hl : d + 1 = c.levels - 1 <;> cases k <;> simp [plain, coarseProg, hl]

/-- the fine-to-coarse part of the extrapolated cycle: the coarse right-hand side `4/3 R_ex r_d - 1/3 r_{d+1}` is
    formed in `(d+1, a)`, with `(d+1, sol)` and `(d+1, b)` as scratch -/
def exHead (d : Nat) (x rhs tmp : Ref) (a b : Buf) : List Instr :=
  [.residual d tmp rhs x, .exRestrict d (d+1, a) tmp, .inject d (d+1, .sol) x,
   .residual (d+1) (d+1, b) (d+1, .rhs) (d+1, .sol), .lin43 (d+1, a) (d+1, b)]

theorem extrap_eq (c : Cfg) (k : Kind) (fgs : Bool) (d : Nat) (x rhs tmp : Ref) :
    extrap c k fgs d x rhs tmp =
      List.replicate c.nu1 (exSm fgs d x rhs tmp) ++ (exHead d x rhs tmp (gbuf c d) (obuf c d) ++
      (descend c k (c.levels - 2 - d) d ++
      ([.exProlong (d+1) tmp (d+1, .res), .add x tmp] ++ List.replicate c.nu2 (exSm fgs d x rhs tmp)))) := by
  unfold gbuf obuf descend exHead
  by_cases hl : d + 1 = c.levels - 1 <;> cases k <;> simp [extrap, coarseProg, hl]

/-! ## what the programs write -/

def Below (d : Nat) (w : Ref) : Prop := d < w.1 ∧ w.2 ≠ Buf.rhs

/-- what a cycle on depth `d` with iterate `x` and scratch vector `t` may write -/
def Scope (d : Nat) (x t w : Ref) : Prop := w = x ∨ w = t ∨ Below d w

theorem Scope.self_x {d : Nat} {x t : Ref} : Scope d x t x := Or.inl rfl

theorem Scope.self_t {d : Nat} {x t : Ref} : Scope d x t t := Or.inr (Or.inl rfl)

theorem Scope.of_below {d : Nat} {x t w : Ref} (h : Below d w) : Scope d x t w := Or.inr (Or.inr h)

theorem below_succ {d : Nat} {b : Buf} (h : b ≠ .rhs) : Below d (d + 1, b) := ⟨Nat.lt_succ_self d, h⟩

theorem not_below {d : Nat} {r : Ref} (hr : r.1 ≤ d ∨ r.2 = Buf.rhs) : ¬ Below d r :=
  fun h => hr.elim (fun hr => Nat.lt_irrefl _ (Nat.lt_of_lt_of_le h.1 hr)) h.2

theorem Scope.below {d : Nat} {b b' : Buf} {w : Ref} (hb : b ≠ .rhs) (hb' : b' ≠ .rhs)
    (h : Scope (d + 1) (d + 1, b) (d + 1, b') w) : Below d w := by
  rcases h with h | h | h
  · rw [h]; exact below_succ hb
  · rw [h]; exact below_succ hb'
  · exact ⟨Nat.lt_of_succ_lt h.1, h.2⟩

theorem Scope.ne_rhs {d d' : Nat} {b b' : Buf} {w : Ref} (hb : b ≠ .rhs) (hb' : b' ≠ .rhs)
    (h : Scope d (d', b) (d', b') w) : w.2 ≠ .rhs := by
  rcases h with h | h | h
  · rw [h]; exact hb
  · rw [h]; exact hb'
  · exact h.2

theorem exec_frame_scope (o : Ops V) {p : List Instr} {d : Nat} {x t : Ref} (hp : WritesIn p (Scope d x t))
    (m : Mem V) {r : Ref} (hx : r ≠ x) (ht : r ≠ t) (hr : r.1 ≤ d ∨ r.2 = Buf.rhs) : exec o p m r = m r :=
  exec_frame o p m r hp fun h => h.elim hx fun h => h.elim ht (not_below hr)

/-- write statement at a given fuel, for all kinds, depths and buffer triples -/
def PlainWrites (c : Cfg) (fuel : Nat) : Prop :=
  ∀ (k : Kind) (d : Nat) (x rhs tmp : Ref), WritesIn (plain c k fuel d x rhs tmp) (Scope d x tmp)

theorem descend_writes {c : Cfg} {fuel : Nat} (H : PlainWrites c fuel) (k : Kind) (d : Nat) :
    WritesIn (descend c k fuel d) (Below d) := by
  have h : ∀ k', WritesIn (plain c k' fuel (d+1) (d+1, .res) (d+1, .err) (d+1, .sol)) (Below d) := fun k' =>
    (H k' (d+1) _ _ _).mono fun _ => Scope.below (by decide) (by decide)
  unfold descend
  split
  · simp [writes, below_succ]
  · cases k <;> simp [coarseProg, writes, below_succ, h]

theorem plain_writes (c : Cfg) : ∀ fuel, PlainWrites c fuel
  | 0 => fun k d x rhs tmp => by simp
  | fuel + 1 => fun k d x rhs tmp => by
      have hs : ∀ n, WritesIn (List.replicate n (.smooth d x rhs tmp)) (Scope d x tmp) := fun n =>
        .replicate n (by simp [writes, Scope.self_x, Scope.self_t])
      have hd : WritesIn (descend c k fuel d) (Scope d x tmp) :=
        (descend_writes (plain_writes c fuel) k d).mono fun _ => Scope.of_below
      rw [plain_succ]
      simp [writes, Scope.self_x, Scope.self_t, Scope.of_below, below_succ, hs, hd]

/-! ## refinement of the plain cycles -/

/-- value statement at a given fuel, for all kinds, depths, triples of distinct buffers, memories -/
def PlainVal (o : Ops V) (c : Cfg) (fuel : Nat) : Prop :=
  ∀ (k : Kind) (d : Nat) (bx br bt : Buf) (m : Mem V), bx ≠ br → bx ≠ bt → br ≠ bt →
    exec o (plain c k fuel d (d, bx) (d, br) (d, bt)) m (d, bx) = cyc o c k fuel d (m (d, bx)) (m (d, br))

theorem coarseProg_val {o : Ops V} {c : Cfg} {fuel : Nat} (H : PlainVal o c fuel) (k : Kind) (d : Nat) (m : Mem V)
    (hz : m (d, .res) = o.zero d) :
    exec o (coarseProg c k fuel d) m (d, .res) = coarse o c k fuel d (m (d, .err)) := by
  have hv := fun k' m' => H k' d .res .err .sol m' (by decide) (by decide) (by decide)
  have hf : ∀ k' (m' : Mem V), exec o (plain c k' fuel d (d, .res) (d, .err) (d, .sol)) m' (d, .err) = m' (d, .err) :=
    fun k' m' => exec_frame_scope o (plain_writes c fuel k' d _ _ _) m' (by simp) (by simp) (Or.inl (Nat.le_refl d))
  cases k <;> simp only [coarseProg, coarse, exec_append, hv, hf, hz]

theorem descend_val {o : Ops V} {c : Cfg} {fuel : Nat} (H : PlainVal o c fuel) (k : Kind) (d : Nat) (m : Mem V) :
    exec o (descend c k fuel d) m (d+1, .res) = coarseOrSolve o c k fuel (d + 1) (m (d+1, gbuf c d)) := by
  unfold descend gbuf coarseOrSolve
  split
  · simp [stepI]
  · rw [exec_cons, coarseProg_val H k (d + 1) _ (by simp [stepI])]; simp [stepI, upd]

theorem descend_frame (o : Ops V) (c : Cfg) (k : Kind) (fuel d : Nat) (m : Mem V) {r : Ref}
    (hr : r.1 ≤ d ∨ r.2 = Buf.rhs) : exec o (descend c k fuel d) m r = m r :=
  exec_frame o _ m r (descend_writes (plain_writes c fuel) k d) (not_below hr)

theorem plain_val_at (o : Ops V) (c : Cfg) : ∀ fuel, PlainVal o c fuel
  | 0 => fun k d bx br bt m _ _ _ => by simp
  | fuel + 1 => fun k d bx br bt m hxr hxt hrt => by
      have S := exec_smooths o d (d, bx) (d, br) (d, bt) (ref_ne_of_buf hxr) (ref_ne_of_buf hrt)
      have Sr : ∀ n (m' : Mem V), exec o (List.replicate n (.smooth d (d, bx) (d, br) (d, bt))) m' (d, br) = m' (d, br) :=
        fun n m' => exec_replicate_frame o _ n m' (by simp [writes, hxr.symm, hrt])
      rw [plain_succ, cyc_succ]
      simp only [exec_append]
      rw [S]
      -- run the straight-line code around `descend`, which is crossed by its value and frame lemmas
      simp [stepI, upd, S, Sr, descend_val (plain_val_at o c fuel), descend_frame, hxt, hrt, hxr.symm]

theorem plain_val (o : Ops V) (c : Cfg) (fuel : Nat) (k : Kind) (d : Nat) (x rhs tmp : Ref) (m : Mem V)
    (hx : x.1 = d) (hr : rhs.1 = d) (ht : tmp.1 = d) (hxr : x ≠ rhs) (hxt : x ≠ tmp) (hrt : rhs ≠ tmp) :
    exec o (plain c k fuel d x rhs tmp) m x = cyc o c k fuel d (m x) (m rhs) := by
  obtain ⟨_, bx⟩ := x; obtain ⟨_, br⟩ := rhs; obtain ⟨_, bt⟩ := tmp
  cases hx; cases hr; cases ht
  exact plain_val_at o c fuel k _ bx br bt m (fun e => hxr (by rw [e])) (fun e => hxt (by rw [e]))
    (fun e => hrt (by rw [e]))

/-! ## refinement of the extrapolated cycle on level 0 -/

theorem writes_exSm (fgs : Bool) (d : Nat) (x rhs tmp : Ref) : writes (exSm fgs d x rhs tmp) = [x, tmp] := by
  unfold exSm; split <;> rfl

theorem exec_exSm (o : Ops V) (fgs : Bool) (x rhs tmp : Ref) (hxr : x ≠ rhs) (hrt : rhs ≠ tmp) (n : Nat) (m : Mem V) :
    exec o (List.replicate n (exSm fgs 0 x rhs tmp)) m x = iter (exSmF o fgs (m rhs)) n (m x) := by
  cases fgs
  · exact exec_exSmooths o 0 x rhs tmp hxr hrt n m
  · exact exec_smooths o 0 x rhs tmp hxr hrt n m

theorem extrap_writes (c : Cfg) (k : Kind) (fgs : Bool) (d : Nat) (x rhs tmp : Ref) :
    WritesIn (extrap c k fgs d x rhs tmp) (Scope d x tmp) := by
  have hs : ∀ n, WritesIn (List.replicate n (exSm fgs d x rhs tmp)) (Scope d x tmp) := fun n =>
    .replicate n (by simp [writes_exSm, Scope.self_x, Scope.self_t])
  have hd : WritesIn (descend c k (c.levels - 2 - d) d) (Scope d x tmp) :=
    (descend_writes (plain_writes c _) k d).mono fun _ => Scope.of_below
  rw [extrap_eq]
  simp [exHead, writes, Scope.self_x, Scope.self_t, Scope.of_below, below_succ, hs, hd]

theorem extrap_val (o : Ops V) (c : Cfg) (k : Kind) (fgs : Bool) (m : Mem V) :
    exec o (extrap c k fgs 0 (0, .sol) (0, .rhs) (0, .res)) m (0, .sol) =
      excyc o c k fgs (m (0, .sol)) (m (0, .rhs)) (m (1, .rhs)) := by
  have S := exec_exSm o fgs (0, .sol) (0, .rhs) (0, .res) (by decide) (by decide)
  have Sf : ∀ n (m' : Mem V) (l : Nat), exec o (List.replicate n (exSm fgs 0 (0, .sol) (0, .rhs) (0, .res))) m' (l, .rhs) =
      m' (l, .rhs) := fun n m' l => exec_replicate_frame o _ n m' (by simp [writes_exSm])
  rw [extrap_eq, excyc]
  simp only [exec_append]
  rw [S]
  rcases gbuf_obuf c 0 with ⟨ha, hb⟩ | ⟨ha, hb⟩ <;>
    simp [exHead, stepI, upd, S, Sf, descend_val (plain_val_at o c _), descend_frame, ha, hb]

/-! ## one top-level cycle -/

/-- one top-level cycle on level `d` as a function of the iterate, given the right-hand sides `g l` -/
def cycleSpec (o : Ops V) (c : Cfg) (k : Kind) (ex fgs : Bool) (g : Nat → V) (d : Nat) (u : V) : V :=
  if ex then excyc o c k fgs u (g 0) (g 1) else cyc o c k (c.levels - 1 - d) d u (g d)

theorem cycleAt_writes (c : Cfg) (k : Kind) (ex fgs : Bool) (d : Nat) :
    WritesIn (cycleAt c k ex fgs d) (Scope d (d, .sol) (d, .res)) := by
  unfold cycleAt
  split
  · exact extrap_writes c k fgs d _ _ _
  · exact plain_writes c _ k d _ _ _

theorem cycleAt_val_of (o : Ops V) (c : Cfg) (k : Kind) (ex fgs : Bool) (d : Nat) (hd : ex = true → d = 0) (m : Mem V)
    (g : Nat → V) (hg : ∀ l, m (l, .rhs) = g l) :
    exec o (cycleAt c k ex fgs d) m (d, .sol) = cycleSpec o c k ex fgs g d (m (d, .sol)) := by
  unfold cycleAt cycleSpec
  split
  · rename_i h; rw [hd h, ← hg, ← hg]; exact extrap_val o c k fgs m
  · rw [← hg]; exact plain_val_at o c _ k d _ _ _ m (by decide) (by decide) (by decide)

theorem cycleAt_val (o : Ops V) (c : Cfg) (k : Kind) (ex fgs : Bool) (d : Nat) (hd : ex = true → d = 0) (m : Mem V) :
    exec o (cycleAt c k ex fgs d) m (d, .sol) = cycleSpec o c k ex fgs (fun l => m (l, .rhs)) d (m (d, .sol)) :=
  cycleAt_val_of o c k ex fgs d hd m _ fun _ => rfl

/-- the top-level call of `solve()`, plain and extrapolated, in terms of what the memory holds -/
theorem exec_cycleAt_plain (o : Ops V) (c : Cfg) (k : Kind) (fgs : Bool) (m : Mem V) {u f : V} (hm : m (0, .sol) = u)
    (hr : m (0, .rhs) = f) : exec o (cycleAt c k false fgs 0) m (0, .sol) = cyc o c k (c.levels - 1) 0 u f := by
  rw [cycleAt_val o c k false fgs 0 (fun h => by cases h), hm, ← hr]
  rfl

theorem exec_cycleAt_ex (o : Ops V) (c : Cfg) (k : Kind) (fgs : Bool) (m : Mem V) {u f f1 : V} (hm : m (0, .sol) = u)
    (hr : m (0, .rhs) = f) (hr1 : m (1, .rhs) = f1) :
    exec o (cycleAt c k true fgs 0) m (0, .sol) = excyc o c k fgs u f f1 := by
  rw [cycleAt_val o c k true fgs 0 (fun _ => rfl), hm, ← hr, ← hr1]
  rfl

end MGCycle
