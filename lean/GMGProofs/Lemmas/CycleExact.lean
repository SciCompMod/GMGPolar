import GMGProofs.Lemmas.CycleSpec
/-!
# Fixed points of the cycle specification (consistency of the correction scheme)
-/
namespace MGCycle
variable {V : Type}

/-- the coarse levels `d0 ≤ l ≤ levels-1` map (zero iterate, zero right-hand side) to zero.
    Only the compositions that occur in a cycle are constrained. -/
structure ZeroData (o : Ops V) (c : Cfg) (d0 : Nat) : Prop where
  smooth : ∀ l, d0 ≤ l → l < c.levels - 1 → o.smooth l (o.zero l) (o.zero l) = o.zero l
  resid_restrict : ∀ l, d0 ≤ l → l < c.levels - 1 →
    o.restrict l (o.resid l (o.zero l) (o.zero l)) = o.zero (l + 1)
  solve : d0 ≤ c.levels - 1 → o.solve (c.levels - 1) (o.zero (c.levels - 1)) = o.zero (c.levels - 1)
  prolong_add : ∀ l, d0 ≤ l → l < c.levels - 1 →
    o.add (o.zero l) (o.prolong (l + 1) (o.zero (l + 1))) = o.zero l

theorem ZeroData.of_factors (o : Ops V) (c : Cfg) (d0 : Nat)
    (h1 : ∀ l, o.smooth l (o.zero l) (o.zero l) = o.zero l)
    (h2 : ∀ l, o.resid l (o.zero l) (o.zero l) = o.zero l)
    (h3 : ∀ l, o.restrict l (o.zero l) = o.zero (l + 1))
    (h4 : ∀ l, o.solve l (o.zero l) = o.zero l)
    (h5 : ∀ l, o.prolong (l + 1) (o.zero (l + 1)) = o.zero l)
    (h6 : ∀ l, o.add (o.zero l) (o.zero l) = o.zero l) : ZeroData o c d0 :=
  ⟨fun l _ _ => h1 l, fun l _ _ => by rw [h2, h3], fun _ => h4 _, fun l _ _ => by rw [h5, h6]⟩

theorem ZeroData.mono {o : Ops V} {c : Cfg} {d0 d1 : Nat} (z : ZeroData o c d0) (h : d0 ≤ d1) : ZeroData o c d1 :=
  ⟨fun l a b => z.smooth l (Nat.le_trans h a) b, fun l a b => z.resid_restrict l (Nat.le_trans h a) b,
   fun a => z.solve (Nat.le_trans h a), fun l a b => z.prolong_add l (Nat.le_trans h a) b⟩

/-- `u` solves the level-`d` problem with right-hand side `f`, as far as the cycle can tell:
    the smoother fixes it, its restricted residual is the coarse zero vector, adding the prolongated zero
    changes nothing, and the coarser levels map zero to zero -/
structure ExactData (o : Ops V) (c : Cfg) (d : Nat) (u f : V) : Prop where
  smooth_fix : o.smooth d u f = u
  resid_restrict : o.restrict d (o.resid d f u) = o.zero (d + 1)
  add_prolong : o.add u (o.prolong (d + 1) (o.zero (d + 1))) = u
  coarse : ZeroData o c (d + 1)

theorem ExactData.ofZero {o : Ops V} {c : Cfg} {d0 d : Nat} (z : ZeroData o c d0) (hd : d0 ≤ d)
    (hL : d + 1 ≤ c.levels - 1) : ExactData o c d (o.zero d) (o.zero d) :=
  ⟨z.smooth d hd hL, z.resid_restrict d hd hL, z.prolong_add d hd hL, z.mono (Nat.le_succ_of_le hd)⟩

theorem coarseOrSolve_zero {o : Ops V} {c : Cfg} {d : Nat} (z : ZeroData o c d) (fuel : Nat) (hL : d ≤ c.levels - 1)
    (IH : ∀ k, d + 1 ≤ c.levels - 1 → cyc o c k fuel d (o.zero d) (o.zero d) = o.zero d) (k : Kind) :
    coarseOrSolve o c k fuel d (o.zero d) = o.zero d := by
  unfold coarseOrSolve
  split
  · rename_i h; rw [h]; exact z.solve (Nat.le_of_eq h)
  · rename_i h
    cases k <;> simp only [coarse, IH _ (Nat.lt_of_le_of_ne hL h)]

theorem cyc_exact (o : Ops V) (c : Cfg) : ∀ (fuel : Nat) (k : Kind) (d : Nat) (u f : V), d + 1 ≤ c.levels - 1 →
    ExactData o c d u f → cyc o c k fuel d u f = u
  | 0, k, d, u, f, _, _ => cyc_zero o c k d u f
  | fuel + 1, k, d, u, f, hL, E => by
      have hs := iter_fixed (fun v => o.smooth d v f) u E.smooth_fix
      rw [cyc_succ, hs, E.resid_restrict,
        coarseOrSolve_zero E.coarse fuel hL
          (fun k' h => cyc_exact o c fuel k' (d + 1) _ _ h (.ofZero E.coarse (Nat.le_refl _) h)) k,
        E.add_prolong, hs]

theorem cyc_zero_zero (o : Ops V) (c : Cfg) (d0 : Nat) (z : ZeroData o c d0) (fuel : Nat) (k : Kind) (d : Nat)
    (hd : d0 ≤ d) (hL : d + 1 ≤ c.levels - 1) : cyc o c k fuel d (o.zero d) (o.zero d) = o.zero d :=
  cyc_exact o c fuel k d _ _ hL (.ofZero z hd hL)

/-- the same for the implicitly extrapolated cycle on level 0 -/
structure ExExactData (o : Ops V) (c : Cfg) (fgs : Bool) (u f f1 : V) : Prop where
  smooth_fix : exSmF o fgs f u = u
  rhs_zero : o.lin43 (o.exRestrict 0 (o.resid 0 f u)) (o.resid 1 f1 (o.inject 0 u)) = o.zero 1
  add_prolong : o.add u (o.exProlong 1 (o.zero 1)) = u
  coarse : ZeroData o c 1

theorem excyc_exact (o : Ops V) (c : Cfg) (k : Kind) (fgs : Bool) (u f f1 : V) (hL : 1 ≤ c.levels - 1)
    (E : ExExactData o c fgs u f f1) : excyc o c k fgs u f f1 = u := by
  have hs := iter_fixed (exSmF o fgs f) u E.smooth_fix
  unfold excyc
  simp only [hs, E.rhs_zero]
  rw [coarseOrSolve_zero E.coarse (c.levels - 2) hL
        (fun k' h => cyc_zero_zero o c 1 E.coarse _ k' 1 (Nat.le_refl _) h) k, E.add_prolong, hs]

end MGCycle
