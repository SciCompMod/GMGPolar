import GMGProofs.Lemmas.GridGenBasic
/-!
# `anisoDivision`: set insertion, checked folds, and the refinement passes

A pass over `m` equally spaced radii inserts the `m - 1` midpoints.  They are new because they lie on the odd part of
the half-step lattice while everything older is on the coarse lattice or below the current position; so the passes
never merge two radii and never run the iterator past the end of the set.
-/
namespace GridGenL
open GridGen

/-! ## `sins` -/

theorem mem_sins (x y : Rat) : ∀ l : List Rat, y ∈ sins x l ↔ y = x ∨ y ∈ l
  | [] => by simp [sins]
  | z :: zs => by
    unfold sins
    split
    · simp
    · split
      · rename_i h; subst h; simp
      · simp only [List.mem_cons, mem_sins x y zs]; tauto

theorem sins_length_of_not_mem (x : Rat) : ∀ l : List Rat, x ∉ l → (sins x l).length = l.length + 1
  | [], _ => by simp [sins]
  | z :: zs, h => by
    unfold sins
    split
    · simp
    · split
      · rename_i h'; subst h'; simp at h
      · simp only [List.length_cons]
        rw [sins_length_of_not_mem x zs (fun hm => h (List.mem_cons_of_mem _ hm))]

theorem sins_append (x : Rat) : ∀ l : List Rat, (∀ y ∈ l, y < x) → sins x l = l ++ [x]
  | [], _ => by simp [sins]
  | z :: zs, h => by
    have hz : z < x := h z (by simp)
    unfold sins
    rw [if_neg (not_lt.mpr hz.le), if_neg (ne_of_gt hz), sins_append x zs (fun y hy => h y (List.mem_cons_of_mem _ hy))]
    simp

theorem ap_mem_lt (s h : Rat) (n : Nat) (hh : 0 < h) : ∀ y ∈ ap s h n, y < s + (n : Rat) * h := by
  intro y hy
  obtain ⟨i, hi, rfl⟩ := List.getElem_of_mem hy
  simp only [ap_length] at hi
  rw [← getD_eq_getElem _ _ (by simpa using hi), ap_getD _ _ _ _ hi]
  have : (i : Rat) < n := by exact_mod_cast hi
  nlinarith

theorem sins_ap (s h : Rat) (n : Nat) (hh : 0 < h) : sins (s + (n : Rat) * h) (ap s h n) = ap s h (n + 1) := by
  rw [sins_append _ _ (ap_mem_lt s h n hh), ap_succ]

/-! ## checked folds in the `Out` monad -/

theorem foldl_range_inv {σ : Type} (f : Out σ → Nat → Out σ) (step : Nat → σ → Out σ)
    (hf : ∀ acc i, f acc i = acc >>= step i) (Inv : Nat → σ → Prop) :
    ∀ (n : Nat) (s0 : σ), Inv 0 s0 →
      (∀ i, i < n → ∀ s, Inv i s → ∃ s', step i s = .ok s' ∧ Inv (i + 1) s') →
      ∃ s, (List.range n).foldl f (.ok s0) = .ok s ∧ Inv n s := by
  intro n
  induction n with
  | zero => intro s0 h0 _; exact ⟨s0, rfl, h0⟩
  | succ n ih =>
    intro s0 h0 hstep
    obtain ⟨s, hs, hinv⟩ := ih s0 h0 (fun i hi => hstep i (by omega))
    obtain ⟨s', hs', hinv'⟩ := hstep n (by omega) s hinv
    refine ⟨s', ?_, hinv'⟩
    rw [List.range_succ, List.foldl_append, hs]
    simp only [List.foldl_cons, List.foldl_nil]
    rw [hf, ok_bind, hs']

theorem rd_ok (a : List Rat) (i : Int) (w : String) (h0 : 0 ≤ i) (h1 : i < a.length) :
    rd a i w = .ok (a.getD i.toNat 0) := if_pos ⟨h0, h1⟩

namespace An

/-- insertion of `n` consecutive entries `r2[se + i]` into a set -/
def readFold (r2 : List Rat) (se : Int) (n : Nat) (s0 : List Rat) : Out (List Rat) :=
  (List.range n).foldl (fun acc (i : Nat) => do
      let s ← acc
      let v ← rd r2 (se + (i : Int)) "r_temp2"
      pure (sins v s)) (.ok s0)

end An

/-- re-insertion of a window into an arbitrary set: in bounds, result irrelevant -/
theorem readFold_ok (r2 : List Rat) (se : Int) (n : Nat) (s0 : List Rat) (h0 : 0 ≤ se) (h1 : se + n ≤ r2.length) :
    ∃ l, An.readFold r2 se n s0 = .ok l :=
  (foldl_range_inv (σ := List Rat) _ (fun i sacc => rd r2 (se + (i : Int)) "r_temp2" >>= fun v => pure (sins v sacc))
    (fun _ _ => rfl) (fun _ _ => True) n s0 trivial fun i hi sacc _ => by
      rw [rd_ok _ _ _ (by omega) (by omega)]
      exact ⟨_, rfl, trivial⟩).imp fun _ h => h.1

/-- the window `r_set_p1`: `n` consecutive entries, no merging -/
theorem readFold_nil (s h : Rat) (N : Nat) (se : Int) (n : Nat) (hh : 0 < h) (h0 : 0 ≤ se) (h1 : se + n ≤ N) :
    An.readFold (ap s h N) se n [] = .ok (ap (s + (se : Rat) * h) h n) := by
  obtain ⟨l, hl, rfl⟩ := foldl_range_inv (σ := List Rat) _
    (fun i sacc => rd (ap s h N) (se + (i : Int)) "r_temp2" >>= fun v => pure (sins v sacc))
    (fun _ _ => rfl) (fun i sacc => sacc = ap (s + (se : Rat) * h) h i) n [] rfl (by
      rintro i hi _ rfl
      rw [rd_ok _ _ _ (by omega) (by rw [ap_length]; omega), ap_getD _ _ _ _ (by omega), ← Int.cast_natCast,
        Int.toNat_of_nonneg (by omega), ← sins_ap _ _ _ hh]
      exact ⟨_, rfl, by push_cast; rw [add_mul, add_assoc]⟩)
  exact hl

/-! ## the lattice of radii -/

/-- `y` lies on the lattice `c + ℤ h` -/
def Lat (c h y : Rat) : Prop := ∃ z : Int, y = c + (z : Rat) * h

theorem Lat.refine {c h y : Rat} (hy : Lat c (2 * h) y) : Lat c h y := by
  obtain ⟨z, rfl⟩ := hy
  exact ⟨2 * z, by push_cast; ring⟩

theorem Lat.add {c h y : Rat} (hy : Lat c h y) (i : Nat) : Lat c h (y + (i : Rat) * h) := by
  obtain ⟨z, rfl⟩ := hy
  exact ⟨z + i, by push_cast; ring⟩

theorem lat_odd_not (c h : Rat) (hh : h ≠ 0) (w : Int) : ¬ Lat c (2 * h) (c + ((2 * w + 1 : Int) : Rat) * h) := by
  rintro ⟨z, hz⟩
  have h1 : ((2 * w + 1 : Int) : Rat) * h = ((2 * z : Int) : Rat) * h := by
    push_cast at hz ⊢; linarith
  have h3 : 2 * w + 1 = 2 * z := by exact_mod_cast mul_right_cancel₀ hh h1
  omega

/-- The midpoint `x + half` above a coarse-lattice point `x` is new to a set whose members are all on the fine lattice
and, unless on the coarse lattice, below `x`; the enlarged set has the same shape one step further up. -/
theorem sins_mid {c half x : Rat} {rs : List Rat} (hh : 0 < half) (hx : Lat c (2 * half) x)
    (h : ∀ y ∈ rs, Lat c half y ∧ (Lat c (2 * half) y ∨ y < x)) :
    (sins (x + half) rs).length = rs.length + 1
      ∧ ∀ y ∈ sins (x + half) rs, Lat c half y ∧ (Lat c (2 * half) y ∨ y < x + 2 * half) := by
  obtain ⟨z, rfl⟩ := hx
  have hxh : c + (z : Rat) * (2 * half) + half = c + ((2 * z + 1 : Int) : Rat) * half := by push_cast; ring
  refine ⟨sins_length_of_not_mem _ _ fun hm => ?_, fun y hy => ?_⟩
  · rcases (h _ hm).2 with hl | hl
    · rw [hxh] at hl; exact lat_odd_not c half (ne_of_gt hh) _ hl
    · linarith
  · rcases (mem_sins _ _ _).mp hy with rfl | hy
    · exact ⟨⟨_, hxh⟩, Or.inr (by linarith)⟩
    · exact ⟨(h y hy).1, (h y hy).2.imp_right fun hl => by linarith⟩

/-! ## one pass -/

/-- one iteration of the loop body of `refinePass` -/
def passStep (half : Rat) (keep : Bool) (st et : Int) (p1 : List Rat) (i : Nat)
    (x : List Rat × List Rat × Int) : Out (List Rat × List Rat × Int) :=
  match x with
  | (rs, tmp, cnt) =>
    if i < p1.length then
      if keep = true ∧ st ≤ (i : Int) ∧ (i : Int) < et then
        pure (sins (p1.getD i 0 + half) rs, sins (p1.getD i 0 + half) (sins (p1.getD i 0) tmp), cnt + 2)
      else pure (sins (p1.getD i 0 + half) rs, tmp, cnt)
    else .ub s!"dereference of r_set_p1 iterator at position {i} of {p1.length}"

theorem refinePass_eq (half : Rat) (keep : Bool) (st et : Int) (p1 : List Rat) (rsize : Int) (rset : List Rat) :
    refinePass half keep st et p1 rsize rset
      = (List.range (rsize - 1).toNat).foldl (fun acc i => acc >>= passStep half keep st et p1 i)
          (.ok (rset, [], 0)) := rfl

/-- kept pairs after `i` iterations -/
def keptN (keep : Bool) (st et i : Nat) : Nat := if keep = true then min i et - min i st else 0

theorem keptN_zero (keep : Bool) (st et : Nat) : keptN keep st et 0 = 0 := by
  unfold keptN; split <;> omega

theorem keptN_succ {st et i : Nat} (h1 : st ≤ i) (h2 : i < et) :
    i = st + keptN true st et i ∧ keptN true st et (i + 1) = keptN true st et i + 1 := by
  simp only [keptN, if_true]; omega

theorem keptN_succ_of_not {keep : Bool} {st et i : Nat} (hst : st ≤ et) (h : ¬ (keep = true ∧ st ≤ i ∧ i < et)) :
    keptN keep st et (i + 1) = keptN keep st et i := by
  unfold keptN
  split
  · rename_i hk
    have : ¬ (st ≤ i ∧ i < et) := fun h' => h ⟨hk, h'⟩
    omega
  · rfl

theorem keptN_full (st et m : Nat) (hst : st ≤ et) (het : et + 1 ≤ m) : keptN true st et (m - 1) = et - st := by
  simp only [keptN, if_true]; omega

theorem keptN_empty (keep : Bool) (st i : Nat) : keptN keep st st i = 0 := by
  unfold keptN; split <;> omega

theorem refinePass_spec {half s c : Rat} (keep : Bool) {st et m : Nat} {rset : List Rat}
    (hh : 0 < half) (hs : Lat c (2 * half) s) (hst : st ≤ et) (het : et + 1 ≤ m)
    (hlat : ∀ y ∈ rset, Lat c (2 * half) y) :
    ∃ rs', refinePass half keep (st : Int) (et : Int) (ap s (2 * half) m) (m : Int) rset
        = .ok (rs', ap (s + (st : Rat) * (2 * half)) half (2 * keptN keep st et (m - 1)),
            ((2 * keptN keep st et (m - 1) : Nat) : Int))
      ∧ rs'.length = rset.length + (m - 1) ∧ ∀ y ∈ rs', Lat c half y := by
  rw [refinePass_eq, show ((m : Int) - 1).toNat = m - 1 by omega]
  obtain ⟨⟨rs, tmp, cnt⟩, hfold, h1, h2, rfl, rfl⟩ := foldl_range_inv (σ := List Rat × List Rat × Int) _
    (passStep half keep (st : Int) (et : Int) (ap s (2 * half) m)) (fun _ _ => rfl)
    (fun i x => x.1.length = rset.length + i
      ∧ (∀ y ∈ x.1, Lat c half y ∧ (Lat c (2 * half) y ∨ y < s + (i : Rat) * (2 * half)))
      ∧ x.2.1 = ap (s + (st : Rat) * (2 * half)) half (2 * keptN keep st et i)
      ∧ x.2.2 = ((2 * keptN keep st et i : Nat) : Int))
    (m - 1) (rset, [], 0)
    ⟨rfl, fun y hy => ⟨(hlat y hy).refine, Or.inl (hlat y hy)⟩, by rw [keptN_zero]; rfl, by rw [keptN_zero]; rfl⟩
    (by
      rintro i hi ⟨rs, tmp, cnt⟩ ⟨h1, h2, h3, h4⟩
      dsimp only at h1 h2 h3 h4
      obtain ⟨hl, hf⟩ := sins_mid hh (hs.add i) h2
      have e : s + ((i + 1 : Nat) : Rat) * (2 * half) = s + (i : Rat) * (2 * half) + 2 * half := by push_cast; ring
      unfold passStep
      dsimp only
      rw [if_pos (by rw [ap_length]; omega), ap_getD _ _ _ _ (by omega), e]
      split
      · -- a kept pair: `x` and `x + half` are the next two entries of the fine progression starting at position `st`
        rename_i hc
        obtain ⟨hk0, hk⟩ := keptN_succ (show st ≤ i by omega) (show i < et by omega)
        have hi_st : (i : Rat) = (st : Rat) + (keptN true st et i : Rat) := by exact_mod_cast hk0
        refine ⟨_, rfl, by rw [hl, h1, Nat.add_assoc], hf, ?_, ?_⟩
        · dsimp only
          -- the inner insertion extends the progression by one term; the target, two terms longer, is read backwards as
          -- an insertion into that, which leaves the two inserted values to compare
          rw [h3, hc.1, hk, show 2 * (keptN true st et i + 1) = 2 * keptN true st et i + 1 + 1 by ring,
            show s + (i : Rat) * (2 * half)
              = s + (st : Rat) * (2 * half) + ((2 * keptN true st et i : Nat) : Rat) * half by
                rw [hi_st]; push_cast; ring,
            sins_ap _ _ _ hh, ← sins_ap _ _ (_ + 1) hh]
          congr 1
          push_cast; ring
        · dsimp only
          rw [h4, hc.1, hk]; push_cast; ring
      · rename_i hc
        rw [keptN_succ_of_not hst fun h => hc ⟨h.1, by omega, by omega⟩]
        exact ⟨_, rfl, by rw [hl, h1, Nat.add_assoc], hf, h3, h4⟩)
  exact ⟨rs, hfold, h1, fun y hy => (h2 y hy).1⟩

/-! ## all passes -/

theorem passes_succ (ud : Rat) (aniso : Nat) (st et : Int) (fuel : Nat) (half : Rat) (p1 : List Rat) (count : Int)
    (rset : List Rat) :
    passes ud aniso st et (fuel + 1) half p1 count rset
      = refinePass half (decide (aniso - (fuel + 1) + 1 < aniso)) st et p1 count rset >>= fun x =>
          match x with
          | (rs, tmp, cnt) => passes ud aniso st et fuel (half / 2) tmp cnt rs := rfl

theorem passes_zero_count (ud : Rat) (aniso : Nat) (st et : Int) :
    ∀ (fuel : Nat) (half : Rat) (p1 rset : List Rat), passes ud aniso st et fuel half p1 0 rset = .ok rset
  | 0, _, _, _ => rfl
  | f + 1, _, _, _ => passes_zero_count ud aniso st et f _ _ _

/-- the self-reproducing case `2 (et - st) = m`: every pass sees `m` entries and inserts `m - 1` new radii -/
theorem passes_specA {ud c : Rat} {aniso st et m : Nat} (hst : st ≤ et) (het : et + 1 ≤ m) (hm : 2 * (et - st) = m) :
    ∀ (fuel : Nat), fuel ≤ aniso → ∀ (half s : Rat) (rset : List Rat), 0 < half → Lat c (2 * half) s →
      (∀ y ∈ rset, Lat c (2 * half) y) →
      ∃ rs', passes ud aniso (st : Int) (et : Int) fuel half (ap s (2 * half) m) (m : Int) rset = .ok rs'
        ∧ rs'.length = rset.length + fuel * (m - 1) := by
  intro fuel
  induction fuel with
  | zero => intro _ half s rset _ _ _; exact ⟨rset, rfl, by simp⟩
  | succ f ih =>
    intro hf half s rset hh hs hlat
    obtain ⟨rs1, h1, hlen, hl1⟩ := refinePass_spec (decide (aniso - (f + 1) + 1 < aniso)) hh hs hst het hlat
    rw [passes_succ, h1, ok_bind]
    dsimp only
    rcases Nat.eq_zero_or_pos f with rfl | hfpos
    · exact ⟨rs1, rfl, by rw [hlen]; simp⟩
    · -- not the last pass: the kept set is again `m` entries, at half the spacing
      rw [decide_eq_true (by omega : aniso - (f + 1) + 1 < aniso), keptN_full st et m hst het, hm]
      have e : half = 2 * (half / 2) := by ring
      obtain ⟨rs2, h2, hlen2⟩ := ih (by omega) (half / 2) (s + (st : Rat) * (2 * half)) rs1 (by linarith)
        (by rw [← e]; exact (hs.add st).refine) (by rw [← e]; exact hl1)
      rw [← e] at h2
      exact ⟨rs2, h2, by rw [hlen2, hlen, Nat.succ_mul]; omega⟩

/-- the degenerate case `st = et` (window of two radii): one pass inserts, the others see an empty set -/
theorem passes_specB {ud c : Rat} {aniso st m : Nat} (het : st + 1 ≤ m) {fuel : Nat} (hf : 1 ≤ fuel)
    {half s : Rat} {rset : List Rat} (hh : 0 < half) (hs : Lat c (2 * half) s)
    (hlat : ∀ y ∈ rset, Lat c (2 * half) y) :
    ∃ rs', passes ud aniso (st : Int) (st : Int) fuel half (ap s (2 * half) m) (m : Int) rset = .ok rs'
      ∧ rs'.length = rset.length + (m - 1) := by
  obtain ⟨f, rfl⟩ : ∃ f, fuel = f + 1 := ⟨fuel - 1, by omega⟩
  obtain ⟨rs1, h1, hlen, _⟩ := refinePass_spec (decide (aniso - (f + 1) + 1 < aniso)) hh hs (le_refl st) het hlat
  rw [passes_succ, h1, ok_bind]
  simp only [keptN_empty]
  exact ⟨rs1, passes_zero_count _ _ _ _ _ _ _ _, hlen⟩

end GridGenL
