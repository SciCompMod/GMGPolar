import GMGModel.Sched
import Mathlib.Data.List.Perm.Basic
import Mathlib.Algebra.BigOperators.Group.List.Basic
import Mathlib.Order.Lattice
import Mathlib.Data.Rat.Floor
import Mathlib.Algebra.Order.Field.Basic
/-!
# Order independence of non-interfering tasks, reductions, threads per level (C12)

The frame lemma: a task that writes only `W` and whose writes depend only on `R ∪ W` commutes with a task whose footprint it
does not touch, for any location type and any value type.  Hence a family of tasks that respect pairwise non-interfering
footprints runs to the same memory in any order; the work items of one barrier interval of the schedule model (footprints
`iterR`, `iterW`, non-interference from `RegionRaceFree`) are an instance.

The execution model is *serialisation*: a barrier interval is executed as its work items (loop iterations) in some order.
That a data-race-free OpenMP program has only such executions is the OpenMP memory model's guarantee, not proved here.
-/
namespace Sched.Order

theorem perm_invariant {M : Type} (ts us : List (M → M)) (m : M) (hp : ts.Perm us)
    (hc : ∀ f ∈ ts, ∀ g ∈ ts, ∀ x, f (g x) = g (f x)) :
    ts.foldl (fun acc f => f acc) m = us.foldl (fun acc f => f acc) m :=
  hp.foldl_eq' (fun f hf g hg x => hc g hg f hf x) m

variable {Loc V : Type}

/-- `f` writes only locations in `W`, and what it writes depends only on the old values on `R ∪ W` -/
structure Respects (f : (Loc → V) → (Loc → V)) (R W : Loc → Prop) : Prop where
  frame : ∀ m x, ¬ W x → f m x = m x
  dep : ∀ m m', (∀ x, R x ∨ W x → m x = m' x) → ∀ x, W x → f m x = f m' x

theorem Respects.mono {f : (Loc → V) → (Loc → V)} {R W R' W' : Loc → Prop} (h : Respects f R W)
    (hR : ∀ x, R x → R' x) (hW : ∀ x, W x → W' x) : Respects f R' W' := by
  refine ⟨fun m x hx => h.frame m x (fun hw => hx (hW x hw)), fun m m' hm x hx => ?_⟩
  by_cases hw : W x
  · exact h.dep m m' (fun y hy => hm y (hy.elim (fun a => Or.inl (hR y a)) (fun a => Or.inr (hW y a)))) x hw
  · rw [h.frame m x hw, h.frame m' x hw]; exact hm x (Or.inr hx)

/-- `W_f ∩ (R_g ∪ W_g) = ∅` and `W_g ∩ (R_f ∪ W_f) = ∅` -/
def NonInterfering (Rf Wf Rg Wg : Loc → Prop) : Prop :=
  (∀ x, Wf x → ¬ (Rg x ∨ Wg x)) ∧ (∀ x, Wg x → ¬ (Rf x ∨ Wf x))

theorem NonInterfering.symm {Rf Wf Rg Wg : Loc → Prop} (h : NonInterfering Rf Wf Rg Wg) : NonInterfering Rg Wg Rf Wf :=
  ⟨h.2, h.1⟩

theorem commute_of_disjoint {f g : (Loc → V) → (Loc → V)} {Rf Wf Rg Wg : Loc → Prop}
    (hf : Respects f Rf Wf) (hg : Respects g Rg Wg) (hd : NonInterfering Rf Wf Rg Wg) (m : Loc → V) :
    f (g m) = g (f m) := by
  funext x
  by_cases hwf : Wf x
  · -- `g` does not touch `R_f ∪ W_f`, and does not write `x`
    have hgx : ¬ Wg x := fun h => hd.1 x hwf (Or.inr h)
    rw [hg.frame (f m) x hgx]
    exact hf.dep (g m) m (fun y hy => hg.frame m y (fun h => hd.2 y h hy)) x hwf
  · rw [hf.frame (g m) x hwf]
    by_cases hwg : Wg x
    · exact hg.dep m (f m) (fun y hy => (hf.frame m y (fun h => hd.1 y h hy)).symm) x hwg
    · rw [hg.frame m x hwg, hg.frame (f m) x hwg, hf.frame m x hwf]

/-- a task with its declared footprint -/
structure Task (Loc V : Type) where
  run : (Loc → V) → (Loc → V)
  R : Loc → Prop
  W : Loc → Prop
  ok : Respects run R W

def Task.Indep (f g : Task Loc V) : Prop := NonInterfering f.R f.W g.R g.W

/-- tasks `run p` that respect footprints `R p`, `W p`, non-interfering for `p ≠ q`, give the same final memory in every
    order (two equal items commute trivially, so the list may repeat an item) -/
theorem determinism {ι : Type} (run : ι → (Loc → V) → (Loc → V)) (R W : ι → Loc → Prop) {items items' : List ι}
    (hp : items.Perm items') (hrun : ∀ p ∈ items, Respects (run p) (R p) (W p))
    (hni : ∀ p ∈ items, ∀ q ∈ items, p ≠ q → NonInterfering (R p) (W p) (R q) (W q)) (m : Loc → V) :
    items.foldl (fun acc p => run p acc) m = items'.foldl (fun acc p => run p acc) m := by
  refine hp.foldl_eq' (fun p hp q hq x => ?_) m
  by_cases h : q = p
  · rw [h]
  · exact commute_of_disjoint (hrun q hq) (hrun p hp) (hni q hq p hp h) x

theorem region_determinism (ts us : List (Task Loc V)) (hp : ts.Perm us) (hi : ts.Pairwise Task.Indep) (m : Loc → V) :
    ts.foldl (fun acc f => f.run acc) m = us.foldl (fun acc f => f.run acc) m := by
  have h₂ := hi.imp (S := fun f g => f ≠ g → Task.Indep f g) fun h _ => h
  have h₃ := hi.imp (S := fun f g => g ≠ f → Task.Indep g f) fun h _ => NonInterfering.symm h
  exact determinism Task.run Task.R Task.W hp (fun f _ => f.ok)
    (fun _ hf _ hg => h₂.forall_of_forall_of_flip (fun _ _ h => absurd rfl h) h₃ hf hg) m

/-! ### tie to the schedule model: the work items of one barrier interval -/

/-- locations: (shared array, r, θ) -/
abbrev Node := Arr × Int × Int

/-- nodes of the grid an iteration of a loop may write: the union over the calls of its body -/
def iterW (s : Shape) (l : Loop) (t : Int) : Node → Prop := fun x =>
  (0 ≤ x.2.1 ∧ x.2.1 < s.nr ∧ 0 ≤ x.2.2 ∧ x.2.2 < s.nt) ∧ ∃ k ∈ l.body s t, writes s k x.1 x.2.1 x.2.2
/-- … may read -/
def iterR (s : Shape) (l : Loop) (t : Int) : Node → Prop := fun x =>
  (0 ≤ x.2.1 ∧ x.2.1 < s.nr ∧ 0 ≤ x.2.2 ∧ x.2.2 < s.nt) ∧ ∃ k ∈ l.body s t, reads s k x.1 x.2.1 x.2.2

/-- `LoopsRaceFree` is exactly non-interference of the iteration footprints -/
theorem nonInterfering_of_loopsRaceFree {s : Shape} {l l' : Loop} {same : Bool} (h : LoopsRaceFree s l l' same)
    {t t' : Int} (ht : l.has s t) (ht' : l'.has s t') (hne : same = true → t ≠ t') :
    NonInterfering (iterR s l t) (iterW s l t) (iterR s l' t') (iterW s l' t') := by
  constructor
  · rintro ⟨a, r, θ⟩ ⟨⟨h0, h1, h2, h3⟩, k, hk, hw⟩ hor
    rcases hor with ⟨_, k', hk', hr'⟩ | ⟨_, k', hk', hw'⟩
    · exact h t t' ht ht' hne k hk k' hk' a r θ h0 h1 h2 h3 (Or.inl ⟨hw, Or.inr hr'⟩)
    · exact h t t' ht ht' hne k hk k' hk' a r θ h0 h1 h2 h3 (Or.inl ⟨hw, Or.inl hw'⟩)
  · rintro ⟨a, r, θ⟩ ⟨⟨h0, h1, h2, h3⟩, k', hk', hw'⟩ hor
    rcases hor with ⟨_, k, hk, hr⟩ | ⟨_, k, hk, hw⟩
    · exact h t t' ht ht' hne k hk k' hk' a r θ h0 h1 h2 h3 (Or.inr ⟨hw', hr⟩)
    · exact h t t' ht ht' hne k hk k' hk' a r θ h0 h1 h2 h3 (Or.inl ⟨hw, Or.inl hw'⟩)

/-- One barrier interval of a race-free region: if the code of every iteration respects the model footprint of that
    iteration, then every order of the work items `(loop, iteration)` of the interval gives the same memory. -/
theorem interval_determinism {s : Shape} {reg : Region} (hrf : RegionRaceFree s reg)
    (iv : List Nat) (hiv : iv ∈ intervals reg.loops)
    (run : Nat → Int → (Node → V) → (Node → V))
    (hrun : ∀ ia ∈ iv, ∀ t, (reg.loops.getD ia default).has s t →
      Respects (run ia t) (iterR s (reg.loops.getD ia default) t) (iterW s (reg.loops.getD ia default) t))
    (items items' : List (Nat × Int))
    (hmem : ∀ p ∈ items, p.1 ∈ iv ∧ (reg.loops.getD p.1 default).has s p.2)
    (hp : items.Perm items') (m : Node → V) :
    items.foldl (fun acc p => run p.1 p.2 acc) m = items'.foldl (fun acc p => run p.1 p.2 acc) m := by
  refine determinism (fun p => run p.1 p.2) (fun p => iterR s (reg.loops.getD p.1 default) p.2)
    (fun p => iterW s (reg.loops.getD p.1 default) p.2) hp (fun p hp => hrun p.1 (hmem p hp).1 p.2 (hmem p hp).2) ?_ m
  rintro ⟨ia, t⟩ hp ⟨ib, t'⟩ hq hpq
  obtain ⟨hia, ht⟩ := hmem _ hp
  obtain ⟨hib, ht'⟩ := hmem _ hq
  rcases Nat.le_total ia ib with hle | hle
  · refine nonInterfering_of_loopsRaceFree (hrf iv hiv ia hia ib hib hle) ht ht' ?_
    intro he htt; exact hpq (Prod.ext (beq_iff_eq.mp he) htt)
  · refine (nonInterfering_of_loopsRaceFree (hrf iv hiv ib hib ia hia hle) ht' ht ?_).symm
    intro he htt; exact hpq (Prod.ext (beq_iff_eq.mp he).symm htt.symm)

theorem foldl_max_le_iff {A : Type} [LinearOrder A] (l : List A) (b y : A) :
    l.foldl max b ≤ y ↔ b ≤ y ∧ ∀ a ∈ l, a ≤ y := by
  induction l generalizing b with
  | nil => simp
  | cons a l ih =>
      simp only [List.foldl_cons, ih, max_le_iff, List.mem_cons, forall_eq_or_imp, and_assoc]

/-- `setup.cpp`: `max(1, min(maxT, (int) floor(maxT * pow(f, d))))`, in exact arithmetic -/
def threads (maxT : Int) (f : Rat) (d : Nat) : Int := max 1 (min maxT ⌊(maxT : Rat) * f ^ d⌋)

end Sched.Order
