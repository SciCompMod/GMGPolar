import GMGModel.ExSmootherCode
import GMGProofs.Lemmas.SmootherCode4
/-!
# Code-level extrapolated smoother (C07c): on the odd lines the tridiagonal parts and `temp` are those of `SmootherCode`;
the even lines go through the diagonal solver, the innermost circle through a CSR matrix whose rows have different lengths
-/
namespace ExSmootherCode
open Stencil SparseLU SmootherCode
variable {K : Type} [_root_.Field K]

/-! ### `DiagonalSolver::solveInPlace` -/

theorem diagSolve_length : ∀ (d y : List K), d.length = y.length → (diagSolve d y).length = y.length
  | [], [], _ => rfl
  | _ :: ds, _ :: ys, h => by
      simp only [diagSolve, List.length_cons]
      rw [diagSolve_length ds ys (by simpa using h)]
  | [], _ :: _, h => by simp at h
  | _ :: _, [], h => by simp at h

theorem getD_diagSolve : ∀ (d y : List K), d.length = y.length → ∀ t, t < y.length →
    (diagSolve d y).getD t 0 = y.getD t 0 / d.getD t 0
  | [], [], _, t, ht => by simp at ht
  | d :: ds, y :: ys, h, t, ht => by
      cases t with
      | zero => simp [diagSolve]
      | succ t =>
        simp only [diagSolve, List.getD_cons_succ]
        exact getD_diagSolve ds ys (by simpa using h) t (by simpa using ht)
  | [], _ :: _, h, _, _ => by simp at h
  | _ :: _, [], h, _, _ => by simp at h

theorem getD_diagSolve_range (n : Nat) (D Y : Nat → K) (t : Nat) (ht : t < n) :
    (diagSolve ((List.range n).map D) ((List.range n).map Y)).getD t 0 = Y t / D t := by
  rw [getD_diagSolve _ _ (by simp) t (by simpa using ht), getD_map_range, getD_map_range, if_pos ht, if_pos ht]

theorem circleTriMain_eq (o : Op K) (i : Nat) : circleTriMain o i = SmootherCode.circleMain o i := rfl
theorem circleTriSub_eq (o : Op K) (i : Nat) : circleTriSub o i = SmootherCode.circleSub o i := rfl
theorem circleTriCorner_eq (o : Op K) (i : Nat) : circleTriCorner o i = SmootherCode.circleCorner o i := rfl
theorem circleTriSolver_eq (o : Op K) (i : Nat) : circleTriSolver o i = SmootherCode.circleSolver o i := rfl

/-- the `else if` chain of the odd radial lines, on grids with at least three radial smoother nodes -/
theorem radialTriMain_eq (o : Op K) (nc j : Nat) (hnr : nc + 3 ≤ o.nr) :
    radialTriMain o nc j = SmootherCode.radialMain o nc j := by
  unfold radialTriMain SmootherCode.radialMain
  apply List.map_congr_left
  intro t ht
  have ht' : t < o.nr - nc := by simpa using ht
  simp only
  split_ifs <;> first | rfl | (exfalso; omega)

theorem radialTriSub_eq (o : Op K) (nc j : Nat) (hnr : nc + 3 ≤ o.nr) :
    radialTriSub o nc j = SmootherCode.radialSub o nc j := by
  unfold radialTriSub SmootherCode.radialSub
  apply List.map_congr_left
  intro t ht
  have ht' : t < o.nr - nc - 1 := by simpa using ht
  simp only
  split_ifs <;> first | rfl | (exfalso; omega)

theorem radialTriSolver_eq (o : Op K) (nc j : Nat) (hnr : nc + 3 ≤ o.nr) :
    radialTriSolver o nc j = SmootherCode.radialSolver o nc j := by
  unfold radialTriSolver SmootherCode.radialSolver
  rw [radialTriMain_eq o nc j hnr, radialTriSub_eq o nc j hnr]

theorem orthoCircle_odd (o : Op K) (nc : Nat) (f u : Stencil.Field K) (i j : Nat) (hi0 : 0 < i) (hinc : i < nc)
    (hodd : i % 2 = 1) : orthoCircle o nc f u i j = SmootherCode.orthoCircle o nc f u i j := by
  unfold orthoCircle SmootherCode.orthoCircle
  rw [if_pos ⟨hi0, hinc⟩, if_pos hodd, if_pos ⟨hi0, hinc⟩]

theorem orthoRadial_odd (o : Op K) (nc : Nat) (f u : Stencil.Field K) (i j : Nat) (hodd : j % 2 = 1) :
    orthoRadial o nc f u i j = SmootherCode.orthoRadial o nc f u i j := by
  unfold orthoRadial SmootherCode.orthoRadial
  simp only [if_pos hodd]
  split
  · rfl
  · split
    · rfl
    · split
      · rfl
      · split <;> rfl

theorem circleTemp_odd (o : Op K) (nc : Nat) (f u : Stencil.Field K) (i : Nat) (hi0 : 0 < i) (hinc : i < nc)
    (hodd : i % 2 = 1) : circleTemp o nc f u i = SmootherCode.circleTemp o nc f u i := by
  unfold circleTemp SmootherCode.circleTemp
  exact List.map_congr_left fun j _ => orthoCircle_odd o nc f u i j hi0 hinc hodd

theorem radialTemp_odd (o : Op K) (nc : Nat) (f u : Stencil.Field K) (j : Nat) (hodd : j % 2 = 1) :
    radialTemp o nc f u j = SmootherCode.radialTemp o nc f u j := by
  unfold radialTemp SmootherCode.radialTemp
  exact List.map_congr_left fun t _ => orthoRadial_odd o nc f u (nc + t) j hodd

section stored
variable (o : Op K) (nc : Nat) (f u : Stencil.Field K)

@[simp] theorem length_circleTemp (i : Nat) : (circleTemp o nc f u i).length = o.nt := by simp [circleTemp]
@[simp] theorem length_radialTemp (j : Nat) : (radialTemp o nc f u j).length = o.nr - nc := by simp [radialTemp]
@[simp] theorem length_circleDiag (i : Nat) : (circleDiag o i).length = o.nt := by simp [circleDiag]
@[simp] theorem length_radialDiag (j : Nat) : (radialDiag o nc j).length = o.nr - nc := by simp [radialDiag]

theorem getD_circleTemp (i : Nat) {q : Nat} (hq : q < o.nt) :
    (circleTemp o nc f u i).getD q 0 = orthoCircle o nc f u i q := by
  rw [circleTemp, getD_map_range, if_pos hq]

theorem getD_radialTemp (j : Nat) {t : Nat} (ht : t < o.nr - nc) :
    (radialTemp o nc f u j).getD t 0 = orthoRadial o nc f u (nc + t) j := by
  rw [radialTemp, getD_map_range, if_pos ht]

end stored

theorem innerRow_length (o : Op K) (j : Nat) : (innerRow o j).length = innerNnz o j := by
  unfold innerRow innerNnz
  split
  · rfl
  · split
    · rename_i h; rw [if_neg (by omega)]; rfl
    · rename_i h; rw [if_pos (by omega)]; rfl

theorem innerCSR_rows (o : Op K) : (innerCSR o).rows = o.nt := rfl

/-- the stored entries of row `j` of the CSR container are `innerRow o j` (rows of different lengths: the row pointer
    holds the prefix sums of `innerNnz`) -/
theorem rowEntries_innerCSR (o : Op K) (j : Nat) (hj : j < o.nt) : rowEntries (innerCSR o) j = innerRow o j := by
  refine rowEntries_of_layout (innerCSR o) (innerRow o) o.nt (by simp [innerCSR, List.flatMap_map])
    (by simp [innerCSR, List.flatMap_map]) (fun j hj => ?_) j hj
  rw [innerCSR, getD_map_range, if_pos (by omega), blockStart]
  congr 1
  exact List.map_congr_left fun a _ => (innerRow_length o a).symm

theorem innerRow_uniq (o : Op K) (hnt : 2 ≤ o.nt) (heven : o.nt % 2 = 0) (j : Nat) (hj : j < o.nt) :
    Uniq (innerRow o j) := by
  unfold Uniq keys innerRow
  split
  · simp
  · split
    · have h3 := ja_eq o heven hj
      simp only [List.map_cons, List.map_nil, List.nodup_cons, List.mem_cons, List.not_mem_nil, or_false,
        List.nodup_nil, and_true, not_false_eq_true]
      generalize ja o j = a at *
      split at h3 <;> omega
    · simp

theorem loadRow_innerCSR (o : Op K) (hnt : 2 ≤ o.nt) (heven : o.nt % 2 = 0) (j : Nat) (hj : j < o.nt) :
    loadRow (innerCSR o) j = innerRow o j := by
  rw [loadRow_eq_rowEntries _ _ (by rw [rowEntries_innerCSR o j hj]; exact innerRow_uniq o hnt heven j hj),
    rowEntries_innerCSR o j hj]

end ExSmootherCode
