import GMGProofs.Lemmas.SymBasic
/-!
# The derived PDE operator `Sym.Lu` really is `-div(α∇u) + βu` in (r, θ) coordinates (C19)

`okP` collects the point-wise side conditions of a `Problem`; from them all derived expressions (`detJ`, `flux`, `Lu`)
satisfy `ok`, and the symbolic derivatives inside them are genuine derivatives.
-/
namespace Sym
open Expr

variable {env : Nat → ℝ} {r th : ℝ}

/-- point-wise side conditions of a problem: `u, α, β, Fx, Fy` are well defined at `(r, θ)` and the mapping is regular there -/
def okP (env : Nat → ℝ) (r th : ℝ) (p : Problem) : Prop :=
  ok env r th p.u ∧ ok env r th p.alpha ∧ ok env r th p.beta ∧ ok env r th p.Fx ∧ ok env r th p.Fy ∧
    ev env r th (detJ p) ≠ 0

theorem ok_detJ {p : Problem} (hx : ok env r th p.Fx) (hy : ok env r th p.Fy) : ok env r th (detJ p) :=
  ⟨⟨ok_D _ _ hx, ok_D _ _ hy⟩, ⟨ok_D _ _ hx, ok_D _ _ hy⟩⟩

theorem ev_detJ (p : Problem) : ev env r th (detJ p) =
    ev env r th (D .r p.Fx) * ev env r th (D .th p.Fy) - ev env r th (D .th p.Fx) * ev env r th (D .r p.Fy) := rfl

theorem ok_flux {p : Problem} (h : okP env r th p) :
    ok env r th (flux p).1 ∧ ok env r th (flux p).2 := by
  obtain ⟨hu, ha, _, hx, hy, hdet⟩ := h
  have hd := ok_detJ (p := p) hx hy
  have hdd : ev env r th (.mul (detJ p) (detJ p)) ≠ 0 := by
    simpa using hdet
  have hxr := ok_D (env := env) (r := r) (th := th) .r _ hx
  have hxt := ok_D (env := env) (r := r) (th := th) .th _ hx
  have hyr := ok_D (env := env) (r := r) (th := th) .r _ hy
  have hyt := ok_D (env := env) (r := r) (th := th) .th _ hy
  have hur := ok_D (env := env) (r := r) (th := th) .r _ hu
  have hut := ok_D (env := env) (r := r) (th := th) .th _ hu
  refine ⟨?_, ?_⟩
  · exact ⟨⟨ha, hd⟩, ⟨⟨⟨⟨hxt, hxt⟩, ⟨hyt, hyt⟩⟩, ⟨hd, hd⟩, hdd⟩, hur⟩,
      ⟨⟨⟨⟨hxr, hxt⟩, ⟨hyr, hyt⟩⟩, ⟨hd, hd⟩, hdd⟩, hut⟩⟩
  · exact ⟨⟨ha, hd⟩, ⟨⟨⟨⟨hxr, hxt⟩, ⟨hyr, hyt⟩⟩, ⟨hd, hd⟩, hdd⟩, hur⟩,
      ⟨⟨⟨⟨hxr, hxr⟩, ⟨hyr, hyr⟩⟩, ⟨hd, hd⟩, hdd⟩, hut⟩⟩

theorem ok_Lu {p : Problem} (h : okP env r th p) : ok env r th (Lu p) := by
  have hf := ok_flux h
  obtain ⟨hu, _, hb, hx, hy, hdet⟩ := h
  exact ⟨⟨⟨ok_D _ _ hf.1, ok_D _ _ hf.2⟩, ok_detJ hx hy, hdet⟩, hb, hu⟩

theorem ev_flux1 (p : Problem) : ev env r th (flux p).1 =
    ev env r th p.alpha * ev env r th (detJ p) *
      ((ev env r th (D .th p.Fx) * ev env r th (D .th p.Fx) + ev env r th (D .th p.Fy) * ev env r th (D .th p.Fy))
          / (ev env r th (detJ p) * ev env r th (detJ p)) * ev env r th (D .r p.u)
        + -(ev env r th (D .r p.Fx) * ev env r th (D .th p.Fx) + ev env r th (D .r p.Fy) * ev env r th (D .th p.Fy))
          / (ev env r th (detJ p) * ev env r th (detJ p)) * ev env r th (D .th p.u)) := rfl

theorem ev_flux2 (p : Problem) : ev env r th (flux p).2 =
    ev env r th p.alpha * ev env r th (detJ p) *
      (-(ev env r th (D .r p.Fx) * ev env r th (D .th p.Fx) + ev env r th (D .r p.Fy) * ev env r th (D .th p.Fy))
          / (ev env r th (detJ p) * ev env r th (detJ p)) * ev env r th (D .r p.u)
        + (ev env r th (D .r p.Fx) * ev env r th (D .r p.Fx) + ev env r th (D .r p.Fy) * ev env r th (D .r p.Fy))
          / (ev env r th (detJ p) * ev env r th (detJ p)) * ev env r th (D .th p.u)) := rfl

theorem ev_Lu (p : Problem) : ev env r th (Lu p) =
    -((ev env r th (D .r (flux p).1) + ev env r th (D .th (flux p).2)) / ev env r th (detJ p))
      + ev env r th p.beta * ev env r th p.u := rfl

/-- hand-written Jacobian entries that evaluate like the symbolic derivatives of the mapping are its partial derivatives -/
theorem hasDerivAt_jacobian {Fx Fy a b c d : Expr} (ox : ok env r th Fx) (oy : ok env r th Fy)
    (j : ev env r th a = ev env r th (D .r Fx) ∧ ev env r th b = ev env r th (D .r Fy) ∧
      ev env r th c = ev env r th (D .th Fx) ∧ ev env r th d = ev env r th (D .th Fy)) :
    HasDerivAt (fun x => ev env x th Fx) (ev env r th a) r ∧ HasDerivAt (fun x => ev env x th Fy) (ev env r th b) r ∧
    HasDerivAt (fun y => ev env r y Fx) (ev env r th c) th ∧ HasDerivAt (fun y => ev env r y Fy) (ev env r th d) th := by
  rw [j.1, j.2.1, j.2.2.1, j.2.2.2]
  exact ⟨hasDerivAt_r _ ox, hasDerivAt_r _ oy, hasDerivAt_th _ ox, hasDerivAt_th _ oy⟩

end Sym
