import GMGProofs.Lemmas.GridGenBasic
/-!
# `divideVector`: closed form, nesting, uniform subdivision
-/
namespace GridGenL
open GridGen

/-- closed form of entry `k` of `divideVector v d` with `pw = 2^d` -/
def dv (v : List Rat) (pw k : Nat) : Rat :=
  v.getD (k / pw) 0 + ((k % pw : Nat) : Rat) * (v.getD (k / pw + 1) 0 - v.getD (k / pw) 0) / (pw : Rat)

theorem flatMap_range (n m : Nat) (g : Nat → Nat → Rat) :
    ((List.range n).flatMap fun i => (List.range m).map (g i))
      = (List.range (n * m)).map fun k => g (k / m) (k % m) := by
  induction n with
  | zero => simp
  | succ n ih =>
    rw [List.range_succ, List.flatMap_append, ih, Nat.succ_mul, List.range_add, List.map_append]
    congr 1
    simp only [List.flatMap_cons, List.flatMap_nil, List.append_nil, List.map_map]
    apply List.map_congr_left
    intro x hx
    have hx : x < m := List.mem_range.mp hx
    have hm : 0 < m := by omega
    simp only [Function.comp]
    rw [Nat.mul_comm n m, Nat.mul_add_div hm, Nat.div_eq_of_lt hx, Nat.mul_add_mod, Nat.mod_eq_of_lt hx]
    simp

theorem divideVector_eq (v : List Rat) (d : Nat) (hv : 0 < v.length) :
    divideVector v d = (List.range ((v.length - 1) * 2 ^ d + 1)).map (dv v (2 ^ d)) := by
  have hp : 0 < 2 ^ d := Nat.two_pow_pos d
  unfold divideVector
  cases v with
  | nil => simp at hv
  | cons a t =>
    simp only
    rw [List.range_succ, List.map_append]
    congr 1
    · rw [flatMap_range]
      apply List.map_congr_left
      intro k _
      unfold dv
      simp only [Int.cast_natCast]
    · simp only [List.map_cons, List.map_nil, List.cons.injEq, and_true]
      unfold dv
      rw [Nat.mul_div_cancel _ hp, Nat.mul_mod_left, getLastD_eq_getD _ (by simp)]
      simp

theorem divideVector_length (v : List Rat) (d : Nat) (hv : 0 < v.length) :
    (divideVector v d).length = (v.length - 1) * 2 ^ d + 1 := by
  rw [divideVector_eq v d hv]; simp

theorem divideVector_getD (v : List Rat) (d k : Nat) (hv : 0 < v.length) (hk : k ≤ (v.length - 1) * 2 ^ d) :
    (divideVector v d).getD k 0 = dv v (2 ^ d) k := by
  rw [divideVector_eq v d hv, getD_map_range _ _ _ (by omega)]

/-- `dv` in (interval, offset) coordinates; the offset may be the right end `j = pw` -/
theorem dv_split (v : List Rat) (pw i j : Nat) (hp : 0 < pw) (hj : j ≤ pw) :
    dv v pw (i * pw + j) = v.getD i 0 + (j : Rat) * (v.getD (i + 1) 0 - v.getD i 0) / (pw : Rat) := by
  have hpq : (pw : Rat) ≠ 0 := by positivity
  rcases Nat.lt_or_ge j pw with h | h
  · unfold dv
    rw [Nat.mul_comm i pw, Nat.mul_add_div hp, Nat.div_eq_of_lt h, Nat.mul_add_mod, Nat.mod_eq_of_lt h]
    simp
  · have : j = pw := by omega
    subst this
    have e : i * j + j = (i + 1) * j := by ring
    unfold dv
    rw [e, Nat.mul_div_cancel _ hp, Nat.mul_mod_left]
    field_simp
    simp only [List.getD_eq_getElem?_getD, Nat.cast_zero, zero_mul, add_zero]
    ring

theorem divideVector_coarse (v : List Rat) (d i : Nat) (hi : i < v.length) :
    (divideVector v d).getD (2 ^ d * i) 0 = v.getD i 0 := by
  have hp : 0 < 2 ^ d := Nat.two_pow_pos d
  rw [divideVector_getD v d _ (by omega) (by rw [Nat.mul_comm]; exact Nat.mul_le_mul_right _ (by omega))]
  have := dv_split v (2 ^ d) i 0 hp (by omega)
  rw [Nat.mul_comm]
  simpa using this

theorem divideVector_zero (v : List Rat) : divideVector v 0 = v := by
  cases v with
  | nil => simp [divideVector]
  | cons a t =>
    apply ext_getD
    · rw [divideVector_length _ _ (by simp)]; simp
    · intro i hi
      rw [divideVector_length _ _ (by simp)] at hi
      have := divideVector_coarse (a :: t) 0 i (by simpa using hi)
      simpa using this

theorem split_div (q P : Nat) (hP : 0 < P) : ∃ A r, r < P ∧ q = A * P + r :=
  ⟨q / P, q % P, Nat.mod_lt _ hP, by rw [Nat.mul_comm]; exact (Nat.div_add_mod q P).symm⟩

theorem dv_even (v : List Rat) (P k : Nat) (hP : 0 < P) : dv v (P * 2) (2 * k) = dv v P k := by
  obtain ⟨A, r, hr, rfl⟩ := split_div k P hP
  have hpq : (P : Rat) ≠ 0 := by positivity
  have e : 2 * (A * P + r) = A * (P * 2) + 2 * r := by ring
  rw [e, dv_split v _ _ _ (by omega) (by omega), dv_split v _ _ _ hP (by omega)]
  push_cast
  field_simp

theorem dv_mid (v : List Rat) (P q : Nat) (hP : 0 < P) :
    dv v (P * 2) (2 * q + 1) = (dv v (P * 2) (2 * q) + dv v (P * 2) (2 * q + 2)) / 2 := by
  obtain ⟨A, r, hr, rfl⟩ := split_div q P hP
  have e0 : 2 * (A * P + r) = A * (P * 2) + 2 * r := by ring
  have e1 : 2 * (A * P + r) + 1 = A * (P * 2) + (2 * r + 1) := by ring
  have e2 : 2 * (A * P + r) + 2 = A * (P * 2) + (2 * r + 2) := by ring
  rw [e1, e2, e0, dv_split v _ _ _ (by omega) (by omega), dv_split v _ _ _ (by omega) (by omega),
    dv_split v _ _ _ (by omega) (by omega)]
  push_cast
  ring

theorem divideVector_midpoints (v : List Rat) (d : Nat) : Midpoints (divideVector v (d + 1)) := by
  intro i hi hlen
  have hp : 0 < 2 ^ d := Nat.two_pow_pos d
  have hv : 0 < v.length := by
    cases v with
    | nil => simp [divideVector] at hlen
    | cons a t => simp
  rw [divideVector_length _ _ hv] at hlen
  obtain ⟨q, rfl⟩ : ∃ q, i = 2 * q + 1 := ⟨i / 2, by omega⟩
  rw [divideVector_getD _ _ _ hv (by omega), divideVector_getD _ _ _ hv (by omega),
    divideVector_getD _ _ _ hv (by omega), pow_succ]
  exact dv_mid v _ q hp

theorem divideVector_strictInc (v : List Rat) (d : Nat) (hv : StrictInc v) : StrictInc (divideVector v d) := by
  have hp : 0 < 2 ^ d := Nat.two_pow_pos d
  have hpq : (0 : Rat) < ((2 ^ d : Nat) : Rat) := by positivity
  cases hvl : v with
  | nil => simp [divideVector, StrictInc]
  | cons a t =>
    rw [← hvl]
    have hv0 : 0 < v.length := by rw [hvl]; simp
    apply strictInc_of_step
    intro k hk
    rw [divideVector_length _ _ hv0] at hk
    rw [divideVector_getD _ _ _ hv0 (by omega), divideVector_getD _ _ _ hv0 (by omega)]
    -- both entries lie in interval `A`, at offsets `r` and `r + 1 ≤ 2^d`
    obtain ⟨A, r, hr, rfl⟩ := split_div k _ hp
    have hA : A < v.length - 1 := Nat.lt_of_mul_lt_mul_right (a := 2 ^ d) (by omega)
    rw [Nat.add_assoc, dv_split v _ _ _ hp (by omega), dv_split v _ _ _ hp (by omega)]
    have := div_pos (sub_pos.mpr (hv.lt (Nat.lt_succ_self A) (by omega))) hpq
    rw [Nat.cast_succ, add_mul, add_div, one_mul]
    linarith

theorem divideVector_ends (v : List Rat) (d : Nat) (hv : 0 < v.length) :
    (divideVector v d).head? = v.head? ∧ (divideVector v d).getLast? = v.getLast? := by
  apply ends_eq (by rw [divideVector_length _ _ hv]; omega) hv
  · simpa using divideVector_coarse v d 0 hv
  · rw [divideVector_length _ _ hv, Nat.add_sub_cancel, Nat.mul_comm]
    exact divideVector_coarse v d _ (by omega)

end GridGenL
