import GMGProofs.Lemmas.DirectCode1
/-!
# Code-level direct solver — what `buildRow` / `rows` / `assemble` compute with the header's tables

`GoodTables T`: the five offset tables have the values of `directSolverTakeCustomLU.h` (checked by `rfl` against
`Generated/Stencils.lean` in `C04c.lean`).  With them every row is the list of the node's stores in code order
(`nodeRow o (writes o i j)`): no store leaves the row, no slot keeps its zero initialisation.
-/
namespace DirectCode
open Stencil SparseLU
variable {K : Type} [_root_.Field K]

structure GoodTables (T : Tables) : Prop where
  interior : T.interior = [7, 4, 8, 1, 0, 2, 5, 3, 6]
  acrossOrigin : T.acrossOrigin = [-1, 4, 6, 1, 0, 2, -1, 3, 5]
  db : T.db = [-1, -1, -1, -1, 0, -1, -1, -1, -1]
  nextInnerDB : T.nextInnerDB = [7, 4, 8, 1, 0, 2, 5, 3, 6]
  nextOuterDB : T.nextOuterDB = [7, 4, 8, 1, 0, 2, 5, 3, 6]

/-- the stores of one node as (column, value) pairs, in code order -/
def nodeRow (o : Op K) (ws : List (Pos × (Nat × Nat) × K)) : List (Nat × K) :=
  ws.map fun w => (w.2.1.1 * o.nt + w.2.1.2, w.2.2)

section
variable (T : Tables) (o : Op K)

theorem writes_int {i : Nat} (j : Nat) (h : 0 < i ∧ i + 1 < o.nr) : writes o i j =
    [(.Center, (i, j), centerValueD o i j (i - 1) j),
     (.Left, (i - 1, j), SmootherCode.leftValue o i j (i - 1) j),
     (.Right, (i + 1, j), SmootherCode.rightValue o i j),
     (.Bottom, (i, jm o j), SmootherCode.bottomValue o i j),
     (.Top, (i, jp o j), SmootherCode.topValue o i j),
     (.BottomLeft, (i - 1, jm o j), -quarter * (o.art (i - 1) j + o.art i (jm o j))),
     (.BottomRight, (i + 1, jm o j), quarter * (o.art (i + 1) j + o.art i (jm o j))),
     (.TopLeft, (i - 1, jp o j), quarter * (o.art (i - 1) j + o.art i (jp o j))),
     (.TopRight, (i + 1, jp o j), -quarter * (o.art (i + 1) j + o.art i (jp o j)))] := by
  unfold writes; rw [if_pos h]

theorem writes_origin (j : Nat) (hbc : o.bc = false) : writes o 0 j =
    [(.Center, (0, j), centerValueD o 0 j 0 (ja o j)),
     (.Left, (0, ja o j), SmootherCode.leftValue o 0 j 0 (ja o j)),
     (.Right, (1, j), SmootherCode.rightValue o 0 j),
     (.Bottom, (0, jm o j), SmootherCode.bottomValue o 0 j),
     (.Top, (0, jp o j), SmootherCode.topValue o 0 j),
     (.BottomRight, (1, jm o j), quarter * (o.art 1 j + o.art 0 (jm o j))),
     (.TopRight, (1, jp o j), -quarter * (o.art 1 j + o.art 0 (jp o j)))] := by
  unfold writes; rw [if_neg (by omega), if_pos rfl, hbc]; rfl

theorem writes_inner_db (j : Nat) (hbc : o.bc = true) : writes o 0 j = [(.Center, (0, j), Scalar.n 1)] := by
  unfold writes; rw [if_neg (by omega), if_pos rfl, hbc]; rfl

theorem writes_outer {i : Nat} (j : Nat) (h0 : 0 < i) (h : i + 1 = o.nr) :
    writes o i j = [(.Center, (i, j), Scalar.n 1)] := by
  unfold writes; rw [if_neg (by omega), if_neg (by omega), if_pos h]

omit [_root_.Field K] in
/-- an interior row uses one of the three interior tables, which coincide, with nine slots -/
theorem stencil_int (hT : GoodTables T) {i : Nat} (h : 0 < i ∧ i + 1 < o.nr) :
    stencilOf T o i = some [7, 4, 8, 1, 0, 2, 5, 3, 6] ∧ stencilSize o i = some 9 := by
  unfold stencilOf stencilSize
  rw [hT.interior, hT.nextInnerDB, hT.nextOuterDB]
  -- with `o.bc` decided the conditions are arithmetic; the branches of the boundary rows and the
  -- final `none` contradict `h`
  cases o.bc <;> simp only [and_true, and_false, or_false, false_or, if_false, Bool.false_eq_true,
    Bool.true_eq_false]
  · constructor <;> (split_ifs; exacts [rfl, by omega, by omega, rfl, by omega])
  · constructor <;> (split_ifs; exacts [rfl, by omega, rfl, rfl, by omega])

omit [_root_.Field K] in
/-- the four kinds of grid rows (`writes_int`, `writes_inner_db`, `writes_origin`, `writes_outer`) -/
theorem node_cases {i : Nat} (hi : i < o.nr) {P : Prop} (int : 0 < i ∧ i + 1 < o.nr → P)
    (db : i = 0 → o.bc = true → P) (origin : i = 0 → o.bc = false → P)
    (outer : 0 < i → i + 1 = o.nr → P) : P := by
  by_cases hint : 0 < i ∧ i + 1 < o.nr
  · exact int hint
  · by_cases h0 : i = 0
    · cases hb : o.bc
      · exact origin h0 hb
      · exact db h0 hb
    · exact outer (by omega) (by omega)

/-- **every row is the node's stores in code order**: no store out of bounds, every allocated slot written -/
theorem row_eq (hT : GoodTables T) (hnr : 4 ≤ o.nr) {i : Nat} (hi : i < o.nr) (j : Nat) :
    row T o i j = some (nodeRow o (writes o i j)) := by
  refine node_cases o hi ?_ ?_ ?_ ?_
  · intro hint
    obtain ⟨h1, h2⟩ := stencil_int T o hT hint
    unfold row
    rw [h1, h2, writes_int o j hint]
    rfl
  · rintro rfl hb
    unfold row stencilOf stencilSize
    rw [hT.db, writes_inner_db o j hb]
    simp [hb]
    rfl
  · rintro rfl hb
    unfold row stencilOf stencilSize
    rw [hT.acrossOrigin, writes_origin o j hb]
    simp [hb]
    rfl
  · intro h0 hl
    unfold row stencilOf stencilSize
    rw [hT.db, writes_outer o j h0 hl, if_neg (by omega), if_neg (by omega), if_pos (Or.inr hl),
      if_neg (by omega), if_neg (by omega), if_pos (Or.inr hl)]
    rfl

/-- the stored rows, row-major -/
def rowList : List (List (Nat × K)) :=
  (List.range (o.nr * o.nt)).map fun p => nodeRow o (writes o (p / o.nt) (p % o.nt))

theorem rows_eq (hT : GoodTables T) (hnr : 4 ≤ o.nr) : rows T o = some (rowList o) := by
  unfold rows rowList
  have hl : ∀ p ∈ List.range (o.nr * o.nt), p < o.nr * o.nt := fun p hp => List.mem_range.mp hp
  generalize List.range (o.nr * o.nt) = l at hl ⊢
  induction l with
  | nil => rfl
  | cons p l ih =>
    have hp : p / o.nt < o.nr :=
      Nat.div_lt_of_lt_mul (by rw [Nat.mul_comm]; exact hl p (List.mem_cons_self ..))
    rw [List.foldr_cons, ih (fun q hq => hl q (List.mem_cons_of_mem _ hq)), row_eq T o hT hnr hp]
    rfl

theorem assemble_eq (hT : GoodTables T) (hnr : 4 ≤ o.nr) :
    assemble T o = some (csrRows (o.nr * o.nt) (o.nr * o.nt) (rowList o)) := by
  unfold assemble
  rw [rows_eq T o hT hnr]
  rfl

theorem rowList_length : (rowList o).length = o.nr * o.nt := by simp [rowList]

theorem rowList_getD {i j : Nat} (hi : i < o.nr) (hj : j < o.nt) :
    (rowList o).getD (i * o.nt + j) [] = nodeRow o (writes o i j) := by
  unfold rowList
  rw [SparseLU.getD_map_range, if_pos (idx_lt hi hj), idx_div hj, idx_mod hj]

end
end DirectCode
