import GMGProofs.Lemmas.InterpAdjoint
/-!
# Adjointness of `exProlong` / `exRestrict` (C08)

Not a tensor product (anti-diagonal pair at odd/odd nodes): the fine double sum is split into the four parity
classes, the coarse double sum into the seven stencil directions of `exRestrict`, and the directions are matched
by the one-sided radial shifts and the cyclic angular shift.
-/
open Finset InterpSums

namespace Interp
variable {K : Type} [_root_.Field K]

theorem exProlong_ee (p : Pair K) (x : Field K) (I J : ℕ) : exProlong p x (2 * I) (2 * J) = x I J := by
  simp [exProlong]

theorem exProlong_eo (p : Pair K) (x : Field K) (I J : ℕ) :
    exProlong p x (2 * I) (2 * J + 1) = half * (x I J + x I (wC p (J + 1))) := by
  simp [exProlong]

theorem exProlong_oe (p : Pair K) (x : Field K) (I J : ℕ) :
    exProlong p x (2 * I + 1) (2 * J) = half * (x I J + x (I + 1) J) := by
  simp [exProlong]

theorem exProlong_oo (p : Pair K) (x : Field K) (I J : ℕ) :
    exProlong p x (2 * I + 1) (2 * J + 1) = half * (x (I + 1) J + x I (wC p (J + 1))) := by
  simp [exProlong]

theorem mul_exRestrict (p : Pair K) (a : K) (y : Field K) (I J : ℕ) :
    a * exRestrict p y I J = a * y (2 * I) (2 * J)
      + (if I > 0 then a * (half * y (2 * I - 1) (2 * J)) else 0)
      + (if I + 1 < nrC p then a * (half * y (2 * I + 1) (2 * J)) else 0)
      + a * (half * y (2 * I) (wF p (2 * J + p.ntF - 1)))
      + a * (half * y (2 * I) (wF p (2 * J + 1)))
      + (if I + 1 < nrC p then a * (half * y (2 * I + 1) (wF p (2 * J + p.ntF - 1))) else 0)
      + (if I > 0 then a * (half * y (2 * I - 1) (wF p (2 * J + 1))) else 0) := by
  simp only [exRestrict]
  split_ifs <;> ring

theorem sum_ite_out (c : Prop) [Decidable c] (f : ℕ → K) (s : Finset ℕ) :
    ∑ J ∈ s, (if c then f J else 0) = if c then ∑ J ∈ s, f J else 0 := by
  split_ifs <;> simp

/-- the seven directions, regrouped into full rows and shifted half rows -/
theorem sum_seven (m q : ℕ) (t1 t2 t3 t4 t5 t6 t7 : ℕ → ℕ → K) :
    ∑ I ∈ range (m + 1), ∑ J ∈ range q,
        (t1 I J + (if I > 0 then t2 I J else 0) + (if I + 1 < m + 1 then t3 I J else 0) + t4 I J + t5 I J
          + (if I + 1 < m + 1 then t6 I J else 0) + (if I > 0 then t7 I J else 0))
      = ∑ I ∈ range (m + 1), ∑ J ∈ range q, (t1 I J + t4 I J + t5 I J)
        + ∑ I ∈ range m, ∑ J ∈ range q, (t2 (I + 1) J + t3 I J + t6 I J + t7 (I + 1) J) := by
  simp only [Finset.sum_add_distrib, sum_ite_out]
  rw [sum_left (fun I => ∑ J ∈ range q, t2 I J) m, sum_left (fun I => ∑ J ∈ range q, t7 I J) m,
    sum_right (fun I => ∑ J ∈ range q, t3 I J) m, sum_right (fun I => ∑ J ∈ range q, t6 I J) m]
  ring

theorem sum_wrapM1 (q : ℕ) (a z : ℕ → K) :
    ∑ J ∈ range q, a J * z ((2 * J + 2 * q - 1) % (2 * q)) = ∑ J ∈ range q, a ((J + 1) % q) * z (2 * J + 1) :=
  sum_wrapM q fun J _ c => a J * z c

theorem sum_wrapP1 (q : ℕ) (a z : ℕ → K) :
    ∑ J ∈ range q, a J * z ((2 * J + 1) % (2 * q)) = ∑ J ∈ range q, a J * z (2 * J + 1) := by
  apply Finset.sum_congr rfl
  intro J hJ
  have hJ' : J < q := by simpa using hJ
  rw [wrapP1 J q hJ']

theorem row_even (q : ℕ) (c : K) (a z : ℕ → K) :
    ∑ J ∈ range q, (a J * z (2 * J) + a J * (c * z ((2 * J + 2 * q - 1) % (2 * q)))
        + a J * (c * z ((2 * J + 1) % (2 * q))))
      = ∑ J ∈ range q, a J * z (2 * J) + ∑ J ∈ range q, c * (a J + a ((J + 1) % q)) * z (2 * J + 1) := by
  have e1 := sum_wrapM1 q a (fun j => c * z j)
  have e2 := sum_wrapP1 q a (fun j => c * z j)
  rw [Finset.sum_add_distrib, Finset.sum_add_distrib, e1, e2, add_assoc, ← Finset.sum_add_distrib]
  congr 1
  apply Finset.sum_congr rfl
  intro J _
  ring

/-- odd fine row: `a` the coarse row below, `b` the coarse row above -/
theorem row_odd (q : ℕ) (c : K) (a b z : ℕ → K) :
    ∑ J ∈ range q, (b J * (c * z (2 * J)) + a J * (c * z (2 * J))
        + a J * (c * z ((2 * J + 2 * q - 1) % (2 * q))) + b J * (c * z ((2 * J + 1) % (2 * q))))
      = ∑ J ∈ range q, c * (a J + b J) * z (2 * J) + ∑ J ∈ range q, c * (b J + a ((J + 1) % q)) * z (2 * J + 1) := by
  have e1 := sum_wrapM1 q a (fun j => c * z j)
  have e2 := sum_wrapP1 q b (fun j => c * z j)
  rw [Finset.sum_add_distrib, Finset.sum_add_distrib, Finset.sum_add_distrib, e1, e2]
  simp only [← Finset.sum_add_distrib]
  apply Finset.sum_congr rfl
  intro J _
  ring

theorem adjoint_ex_mq (p : Pair K) (m q : ℕ) (hnr : p.nrF = 2 * m + 1) (hnt : p.ntF = 2 * q) (x y : Field K) :
    ∑ i ∈ range p.nrF, ∑ j ∈ range p.ntF, exProlong p x i j * y i j
      = ∑ I ∈ range (nrC p), ∑ J ∈ range (ntC p), x I J * exRestrict p y I J := by
  have hc : nrC p = m + 1 := by unfold nrC; omega
  have hq : ntC p = q := by unfold ntC; omega
  -- right-hand side: seven directions
  simp only [mul_exRestrict, wF, hc, hq, hnt]
  rw [sum_seven]
  -- left-hand side: four parity classes
  rw [hnr, sum_odd_split]
  simp only [sum_even_split _ q, exProlong_ee, exProlong_eo, exProlong_oe, exProlong_oo, wC, hq]
  congr 1
  · apply Finset.sum_congr rfl
    intro I _
    exact (row_even q half (x I) (y (2 * I))).symm
  · apply Finset.sum_congr rfl
    intro I _
    have e : 2 * (I + 1) - 1 = 2 * I + 1 := by omega
    simp only [e]
    exact (row_odd q half (x I) (x (I + 1)) (y (2 * I + 1))).symm

end Interp
