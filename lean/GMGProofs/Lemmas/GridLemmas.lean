import GMGModel.Grid
/-! Lemmas for C17, in core Lean only. -/
namespace Grid

/-- what the constructors guarantee about the shape record -/
structure Valid (g : Grid) : Prop where
  nt_pos : 0 < g.nt
  nc_le : g.nc ≤ g.nr
  flag : g.pow2 = pow2Flag g.nt
  nt_small : g.nt < 2 ^ 31

theorem pow2Flag_iff {nt : Nat} (h : 0 < nt) : pow2Flag nt = true ↔ nt.isPowerOfTwo := by
  unfold pow2Flag
  rw [beq_iff_eq]
  exact Nat.and_sub_one_eq_zero_iff_isPowerOfTwo (by omega)

theorem Valid.nt_two_pow {g : Grid} (hv : g.Valid) (hp : g.pow2 = true) : ∃ k, g.nt = 2 ^ k :=
  (pow2Flag_iff hv.nt_pos).mp (hv.flag ▸ hp)

/-! `(r, q) ↦ r + m q` with `r < m` numbers the pairs; `/ m` and `% m` recover them.  Circle nodes are numbered so with
`m = nt`, radial nodes with `m = len`. -/

theorem pair_lt {r m q n : Nat} (hr : r < m) (hq : q < n) : r + m * q < m * n :=
  calc r + m * q < m * (q + 1) := by rw [Nat.mul_succ]; omega
    _ ≤ m * n := Nat.mul_le_mul_left _ hq

theorem pair_div {r m : Nat} (q : Nat) (hr : r < m) : (r + m * q) / m = q := by
  rw [Nat.add_mul_div_left _ _ (by omega), Nat.div_eq_of_lt hr, Nat.zero_add]

theorem pair_mod {r m : Nat} (q : Nat) (hr : r < m) : (r + m * q) % m = r := by
  rw [Nat.add_mul_mod_self_left, Nat.mod_eq_of_lt hr]

theorem unpair {m n k : Nat} (hk : k < m * n) : k % m < m ∧ k / m < n ∧ k % m + m * (k / m) = k :=
  have hm : 0 < m := Nat.pos_of_ne_zero fun h => by rw [h, Nat.zero_mul] at hk; omega
  ⟨Nat.mod_lt _ hm, (Nat.div_lt_iff_lt_mul hm).mpr (Nat.mul_comm m n ▸ hk), Nat.mod_add_div k m⟩

theorem numNodes_eq {g : Grid} (h : g.nc ≤ g.nr) : g.numNodes = g.ncirc + g.len * g.nt := by
  unfold numNodes ncirc len; rw [← Nat.add_mul]; congr 1; omega

theorem tmod_wrap (x n : Int) (hn : 0 < n) : Int.tmod (Int.tmod x n + n) n = x % n := by
  have h0 : 0 ≤ x % n := Int.emod_nonneg x (by omega)
  have h1 : x % n < n := Int.emod_lt_of_pos x hn
  rw [Int.tmod_eq_emod (a := x)]
  by_cases hc : 0 ≤ x ∨ n ∣ x
  · simp only [hc, if_true]
    have : 0 ≤ x % n - ((0 : Nat) : Int) + n := by omega
    rw [Int.tmod_eq_emod_of_nonneg this]
    simp [Int.add_emod_right, Int.emod_emod_of_dvd x (Int.dvd_refl n)]
  · simp only [hc, if_false]
    have hnn : ((n.natAbs : Nat) : Int) = n := by omega
    rw [hnn]
    have : 0 ≤ x % n - n + n := by omega
    rw [Int.tmod_eq_emod_of_nonneg this]
    have : x % n - n + n = x % n := by omega
    rw [this, Int.emod_emod_of_dvd x (Int.dvd_refl n)]

theorem and32_pow2 (x : Int) (k : Nat) (hk : k ≤ 32) :
    ((and32 x (2 ^ k - 1) : Nat) : Int) = x % (2 ^ k : Int) := by
  unfold and32
  rw [Nat.and_two_pow_sub_one_eq_mod]
  have hpos : (0 : Int) ≤ x % 2 ^ 32 := Int.emod_nonneg x (by decide)
  have h2 : (0 : Int) ≤ (2 : Int) ^ k := Int.le_of_lt (Int.pow_pos (by decide))
  have e : ((2 ^ k : Nat) : Int) = (2 : Int) ^ k := by simp
  have : (((x % 2 ^ 32).toNat % 2 ^ k : Nat) : Int) = (x % 2 ^ 32) % (2 : Int) ^ k := by
    rw [Int.natCast_emod, Int.toNat_of_nonneg hpos, e]
  rw [this]
  apply Int.emod_emod_of_dvd
  exact ⟨(2 : Int) ^ (32 - k), by rw [← Int.pow_add]; congr 1; omega⟩

end Grid
