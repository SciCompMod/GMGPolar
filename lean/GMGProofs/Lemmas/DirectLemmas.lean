import GMGProofs.Lemmas.SmootherLemmas
import GMGProofs.Lemmas.SparseLULemmas
import GMGProofs.Lemmas.StencilLemmas6
/-!
# Direct-solve lemmas — the operator `A` is linear, its matrix, and the row-major numbering

Every row of `A` is a fixed linear combination, so `A x = Σ_s Σ_t opEntry · x s t` on the grid, `opEntry` being `A` of the unit
field `oneHot s t`; in the row-major numbering `Σ_{k < nr·nt} g k = Σ_s Σ_t g (s·nt + t)`.  With Dirichlet inner boundary and
elliptic data every principal block of `A` is injective on grid fields.
-/
namespace Direct
open Stencil Finset
variable {K : Type} [_root_.Field K]

def oneHot (s t : Nat) : Stencil.Field K := fun a b => if a = s ∧ b = t then 1 else 0

/-- matrix entry of the operator: row `(i, j)`, column `(s, t)` -/
def opEntry (o : Op K) (i j s t : Nat) : K := A o (oneHot s t) i j

theorem A_add_smul (o : Op K) (x y : Stencil.Field K) (c : K) (i j : Nat) :
    A o (fun a b => x a b + c * y a b) i j = A o x i j + c * A o y i j := by
  unfold A take
  split
  · simp only [takeInterior]; ring
  · split
    · rename_i h; subst h
      split
      · ring
      · simp only [takeOrigin]; ring
    · ring

theorem A_add (o : Op K) (x y : Stencil.Field K) (i j : Nat) :
    A o (fun a b => x a b + y a b) i j = A o x i j + A o y i j := by
  have := A_add_smul o x y 1 i j
  simpa using this

theorem A_sub (o : Op K) (x y : Stencil.Field K) (i j : Nat) :
    A o (fun a b => x a b - y a b) i j = A o x i j - A o y i j := by
  have := A_add_smul o x y (-1) i j
  simp only [neg_one_mul, ← sub_eq_add_neg] at this
  exact this

theorem A_zero (o : Op K) (i j : Nat) : A o (fun _ _ => 0) i j = 0 := by
  have := A_sub o (fun _ _ => 0) (fun _ _ => 0) i j
  simpa using this

theorem A_smul (o : Op K) (y : Stencil.Field K) (c : K) (i j : Nat) :
    A o (fun a b => c * y a b) i j = c * A o y i j := by
  have := A_add_smul o (fun _ _ => 0) y c i j
  simpa [A_zero] using this

theorem A_sub_of_take_eq {o : Op K} {f w w' : Stencil.Field K} {i j : Nat}
    (h : take o f w i j = take o f w' i j) : A o (fun a b => w a b - w' a b) i j = 0 := by
  rw [take_eq_sub_A, take_eq_sub_A] at h
  rw [A_sub, sub_eq_zero]
  exact (sub_right_inj.mp h)

theorem A_sum_range (o : Op K) (n : Nat) (g : Nat → Stencil.Field K) (i j : Nat) :
    A o (fun a b => ∑ s ∈ range n, g s a b) i j = ∑ s ∈ range n, A o (g s) i j := by
  induction n with
  | zero => simpa using A_zero o i j
  | succ n ih =>
    simp only [sum_range_succ]
    rw [← ih]
    exact A_add o (fun a b => ∑ s ∈ range n, g s a b) (g n) i j

theorem A_congr_grid (o : Op K) (x x' : Stencil.Field K) (hnr : 2 ≤ o.nr) (hnt : 0 < o.nt)
    (h : ∀ a b, a < o.nr → b < o.nt → x a b = x' a b) (i j : Nat) (hi : i < o.nr) (hj : j < o.nt) :
    A o x i j = A o x' i j := by
  unfold A
  rw [Smoother.take_congr_grid o _ x x' hnr hnt h i j hi hj]

theorem oneHot_expand (nr nt : Nat) (x : Stencil.Field K) (a b : Nat) (ha : a < nr) (hb : b < nt) :
    ∑ s ∈ range nr, ∑ t ∈ range nt, x s t * oneHot s t a b = x a b := by
  have e : ∀ s t, x s t * oneHot s t a b = if s = a ∧ t = b then x s t else 0 := by
    intro s t
    unfold oneHot
    by_cases h : a = s ∧ b = t
    · obtain ⟨rfl, rfl⟩ := h; simp
    · rw [if_neg h, if_neg (by rintro ⟨rfl, rfl⟩; exact h ⟨rfl, rfl⟩)]; simp
  simp only [e]
  exact sum_pick nr nt a b ha hb x

theorem A_expand (o : Op K) (hnr : 2 ≤ o.nr) (hnt : 0 < o.nt) (x : Stencil.Field K) (i j : Nat)
    (hi : i < o.nr) (hj : j < o.nt) :
    A o x i j = ∑ s ∈ range o.nr, ∑ t ∈ range o.nt, opEntry o i j s t * x s t := by
  rw [A_congr_grid o x (fun a b => ∑ s ∈ range o.nr, ∑ t ∈ range o.nt, x s t * oneHot s t a b) hnr hnt
    (fun a b ha hb => (oneHot_expand o.nr o.nt x a b ha hb).symm) i j hi hj]
  rw [A_sum_range o o.nr (fun s a b => ∑ t ∈ range o.nt, x s t * oneHot s t a b) i j]
  apply sum_congr rfl; intro s _
  rw [A_sum_range o o.nt (fun t a b => x s t * oneHot s t a b) i j]
  apply sum_congr rfl; intro t _
  rw [A_smul]; unfold opEntry; ring

theorem sum_range_mul (nr nt : Nat) (g : Nat → K) :
    ∑ k ∈ range (nr * nt), g k = ∑ s ∈ range nr, ∑ t ∈ range nt, g (s * nt + t) := by
  induction nr with
  | zero => simp
  | succ n ih => rw [Nat.succ_mul, sum_range_add, ih, sum_range_succ]

theorem sum_toDense_grid (o : Op K) (M : SparseLU.CSR K)
    (hM : ∀ i j s t, i < o.nr → j < o.nt → s < o.nr → t < o.nt →
      SparseLU.toDense M (i * o.nt + j) (s * o.nt + t) = opEntry o i j s t)
    {i j : Nat} (hi : i < o.nr) (hj : j < o.nt) (x : Nat → K) :
    ∑ q ∈ range (o.nr * o.nt), SparseLU.toDense M (i * o.nt + j) q * x q
      = ∑ s ∈ range o.nr, ∑ t ∈ range o.nt, opEntry o i j s t * x (s * o.nt + t) := by
  rw [sum_range_mul]
  refine sum_congr rfl fun s hs => sum_congr rfl fun t ht => ?_
  rw [hM i j s t hi hj (mem_range.mp hs) (mem_range.mp ht)]

section Ordered
variable {F : Type} [_root_.Field F] [LinearOrder F] [IsStrictOrderedRing F]

/-- Dirichlet inner boundary, elliptic data: every principal block of `A` is injective — if `e` vanishes
    on the grid off a node set `S` and `A e = 0` on `S`, then `e = 0` on the grid
    (the Dirichlet rows put the grid part of `e` into `V0`; then positive definiteness) -/
theorem A_injective_on (o : Op F) (hnr : 4 ≤ o.nr) (hnt : 2 ≤ o.nt) (heven : o.nt % 2 = 0)
    (hbc : o.bc = true) (he : Elliptic o) (S : Nat → Nat → Prop) (e : Stencil.Field F)
    (hoff : ∀ i j, i < o.nr → j < o.nt → ¬ S i j → e i j = 0)
    (hA : ∀ i j, i < o.nr → j < o.nt → S i j → A o e i j = 0) :
    ∀ i j, i < o.nr → j < o.nt → e i j = 0 := by
  -- restriction to the grid
  let e' : Stencil.Field F := fun i j => if i < o.nr ∧ j < o.nt then e i j else 0
  have hee' : ∀ a b, a < o.nr → b < o.nt → e' a b = e a b := by
    intro a b ha hb; simp only [e', if_pos (And.intro ha hb)]
  have hA' : ∀ i j, i < o.nr → j < o.nt → S i j → A o e' i j = 0 := by
    intro i j hi hj hS
    rw [A_congr_grid o e' e (by omega) (by omega) hee' i j hi hj]; exact hA i j hi hj hS
  -- on a Dirichlet row `A e' = e'`, so `e'` vanishes there whether the node is in `S` or not
  have hD : ∀ i j, i < o.nr → A o e' i j = e' i j → e' i j = 0 := by
    intro i j hi hrow
    by_cases hj : j < o.nt
    · by_cases hS : S i j
      · rw [← hrow]; exact hA' i j hi hj hS
      · rw [hee' i j hi hj]; exact hoff i j hi hj hS
    · exact if_neg fun h => hj h.2
  have hV : V0 o e' :=
    ⟨fun j => hD _ j (by omega) (by rw [A, take_outer o _ _ j (by omega) (by omega)]; simp),
     fun _ j => hD 0 j (by omega) (by rw [A, take_zero_dirichlet o _ _ hbc]; simp)⟩
  have hzero : inner o (A o e') e' = 0 :=
    Finset.sum_eq_zero fun i hi => Finset.sum_eq_zero fun j hj => by
      have hi' := mem_range.mp hi
      have hj' := mem_range.mp hj
      by_cases hS : S i j
      · rw [hA' i j hi' hj' hS, zero_mul]
      · rw [hee' i j hi' hj', hoff i j hi' hj' hS, mul_zero]
  intro i j hi hj
  by_contra hne
  have := A_pd_dirichlet o e' hnr hnt heven hbc he hV ⟨i, j, hi, hj, by rw [hee' i j hi hj]; exact hne⟩
  rw [hzero] at this
  exact lt_irrefl _ this

theorem A_injective_dirichlet (o : Op F) (hnr : 4 ≤ o.nr) (hnt : 2 ≤ o.nt) (heven : o.nt % 2 = 0)
    (hbc : o.bc = true) (he : Elliptic o) (e : Stencil.Field F)
    (hA : ∀ i j, i < o.nr → j < o.nt → A o e i j = 0) :
    ∀ i j, i < o.nr → j < o.nt → e i j = 0 :=
  A_injective_on o hnr hnt heven hbc he (fun _ _ => True) e (fun _ _ _ _ h => absurd trivial h)
    (fun i j hi hj _ => hA i j hi hj)

theorem lineInj_dirichlet (o : Op F) (hnr : 4 ≤ o.nr) (hnt : 2 ≤ o.nt) (heven : o.nt % 2 = 0)
    (hbc : o.bc = true) (he : Elliptic o) (nc : Nat) (f : Stencil.Field F) : Smoother.LineInj o nc f := by
  intro w w' i j _ _ hoff hon a b ha hb _
  have := A_injective_on o hnr hnt heven hbc he (fun c d => Smoother.sameLine nc i j c d)
    (fun c d => w c d - w' c d)
    (fun c d hc hd hS => by rw [hoff c d hc hd hS]; ring)
    (fun c d hc hd hS => A_sub_of_take_eq (hon c d hc hd hS)) a b ha hb
  exact sub_eq_zero.mp this

end Ordered

/-! ### a concrete assembled system (non-vacuity of C04) -/

/-- the matrix of the operator in CSR form, row-major numbering, zeros not stored -/
def csrOf (o : Op ℚ) : SparseLU.CSR ℚ :=
  SparseLU.CSR.ofTriplets (o.nr * o.nt) (o.nr * o.nt)
    ((List.range (o.nr * o.nt)).flatMap fun r => (List.range (o.nr * o.nt)).filterMap fun c =>
      let v := opEntry o (r / o.nt) (r % o.nt) (c / o.nt) (c % o.nt); if v = 0 then none else some (r, c, v))

def exB : List ℚ := (List.range 16).map fun r => (r : ℚ) + 1

end Direct
