import GMGProofs.Lemmas.SmootherCode2
/-! The row-major array state (C06c). -/
namespace SmootherCode
open Stencil
variable {K : Type} [_root_.Field K]

theorem fld_ofField (nr nt : Nat) (g : Stencil.Field K) (p q : Nat) (hp : p < nr) (hq : q < nt) :
    fld nt (ofField nr nt g) p q = g p q := by
  have hlt : p * nt + q < nr * nt := idx_lt hp hq
  unfold fld ofField
  simp only [Array.getD_eq_getD_getElem?, Array.getElem?_ofFn, hlt, dite_true, Option.getD_some, idx_div hq, idx_mod hq]

@[simp] theorem size_writeCircle (nt : Nat) (a : Array K) (i : Nat) (v : List K) :
    (writeCircle nt a i v).size = a.size := by simp [writeCircle]

@[simp] theorem size_writeRadial (nt nc : Nat) (a : Array K) (j : Nat) (v : List K) :
    (writeRadial nt nc a j v).size = a.size := by simp [writeRadial]

/-- the state after `std::move` of a circle, on grid nodes -/
theorem fld_writeCircle (nr nt : Nat) (a : Array K) (hs : a.size = nr * nt) (i : Nat) (v : List K)
    (p q : Nat) (hp : p < nr) (hq : q < nt) :
    fld nt (writeCircle nt a i v) p q = if p = i then v.getD q 0 else fld nt a p q := by
  have hlt : p * nt + q < a.size := by rw [hs]; exact idx_lt hp hq
  unfold fld writeCircle
  simp only [Array.getD_eq_getD_getElem?, Array.getElem?_ofFn, hlt, dite_true, Option.getD_some, idx_div hq,
    idx_mod hq, Scalar.n_zero, Fin.getElem_fin, Array.getElem?_eq_getElem hlt]

/-- the state after `std::move` of a radial line, on grid nodes -/
theorem fld_writeRadial (nr nt nc : Nat) (a : Array K) (hs : a.size = nr * nt) (j : Nat) (v : List K)
    (p q : Nat) (hp : p < nr) (hq : q < nt) :
    fld nt (writeRadial nt nc a j v) p q = if nc ≤ p ∧ q = j then v.getD (p - nc) 0 else fld nt a p q := by
  have hlt : p * nt + q < a.size := by rw [hs]; exact idx_lt hp hq
  unfold fld writeRadial
  simp only [Array.getD_eq_getD_getElem?, Array.getElem?_ofFn, hlt, dite_true, Option.getD_some, idx_div hq,
    idx_mod hq, Scalar.n_zero, Fin.getElem_fin, Array.getElem?_eq_getElem hlt]

theorem list_eq_map_range (vs : List K) (n : Nat) (h : vs.length = n) :
    vs = (List.range n).map (fun q => vs.getD q 0) := h ▸ SparseLU.eq_map_range_getD vs 0

theorem list_eq_map_range_shift (vs : List K) (n nc : Nat) (h : vs.length = n) :
    vs = (List.range n).map (fun t => (fun i => vs.getD (i - nc) 0) (nc + t)) := by
  simp only [Nat.add_sub_cancel_left]; exact list_eq_map_range vs n h

theorem length_of_mulC (a b : List K) (c : K) (x : List K) (h2 : b.length + 1 = a.length)
    (h : (Tridiag.mulC a b c x).length = a.length) : x.length = a.length := by
  unfold Tridiag.mulC at h
  simp only [Tridiag.setLast_length, Tridiag.setHead_length] at h
  exact length_of_mulT_length a b x _ h2 h

end SmootherCode
