import GMGModel.Setup
/-! Every instruction the cycle generators emit passes `instrOK`: it reads and writes only vectors `setup()` built (C20s). -/
namespace Setup
open MGCycle

/-- a writable work vector: existing level, not a right-hand side -/
def wref (c : Cfg) (r : Ref) : Prop := r.1 < c.levels ∧ r.2 ≠ Buf.rhs

/-- a readable work vector: existing level, a right-hand side only where `setup()` built it -/
def rref (c : Cfg) (r : Ref) : Prop := r.1 < c.levels ∧ (r.2 = Buf.rhs → r.1 < rhsLevels c)

theorem wref.rref {c : Cfg} {r : Ref} (h : wref c r) : rref c r := ⟨h.1, fun e => absurd e h.2⟩

theorem ops_residual (c : Cfg) (d : Nat) : (opsAt c d).residual = true := by
  unfold opsAt
  split
  · split <;> rfl
  · split <;> rfl

theorem ops_smoother_mid (c : Cfg) (d : Nat) (h0 : d ≠ 0) (h1 : d ≠ c.levels - 1) : (opsAt c d).smoother = true := by
  simp [opsAt, h0, h1]

theorem ops_direct_last (c : Cfg) (d : Nat) (h0 : d ≠ 0) (h1 : d = c.levels - 1) : (opsAt c d).direct = true := by
  simp [opsAt, h0, ← h1]

theorem rhsLevels_le (c : Cfg) (h2 : 2 ≤ c.levels) : rhsLevels c ≤ c.levels := by
  unfold rhsLevels; split
  · exact Nat.le_refl _
  · split <;> omega

theorem rhsLevels_pos (c : Cfg) (h2 : 2 ≤ c.levels) : 1 ≤ rhsLevels c := by
  unfold rhsLevels; split
  · omega
  · split <;> omega

theorem rhsLevels_two (c : Cfg) (h2 : 2 ≤ c.levels) (hm : c.extrapMode ≠ 0) : 2 ≤ rhsLevels c := by
  unfold rhsLevels; split
  · omega
  · simp

theorem rhsLevels_fmg (c : Cfg) (hf : c.fmg = true) : rhsLevels c = c.levels := by
  simp [rhsLevels, hf]

section instr
variable {c : Cfg}

/-- the test `instrOK` makes on every vector of an instruction is `rref` -/
theorem rref.ok {r : Ref} (h : rref c r) :
    (decide (r.1 < c.levels) && (r.2 != Buf.rhs || decide (r.1 < rhsLevels c))) = true := by
  by_cases e : r.2 = Buf.rhs
  · simp [h.1, h.2 e]
  · simp [h.1, e]

/- For a given instruction `instrOK` unfolds to its operator flag, `rref.ok` of every vector and `≠ .rhs` of the written ones. -/
attribute [local simp] instrOK needsOps refs writes

theorem ok_smooth {l : Nat} {x r t : Ref} (ho : (opsAt c l).smoother = true) (hx : wref c x) (hr : rref c r)
    (ht : wref c t) : instrOK c (.smooth l x r t) = true := by
  simp [ho, hx.rref.ok, hr.ok, ht.rref.ok, hx.2, ht.2]

theorem ok_exSmooth {l : Nat} {x r t : Ref} (ho : (opsAt c l).exSmoother = true) (hx : wref c x) (hr : rref c r)
    (ht : wref c t) : instrOK c (.exSmooth l x r t) = true := by
  simp [ho, hx.rref.ok, hr.ok, ht.rref.ok, hx.2, ht.2]

theorem ok_residual {l : Nat} {o r x : Ref} (ho : wref c o) (hr : rref c r) (hx : rref c x) :
    instrOK c (.residual l o r x) = true := by
  simp [ops_residual, ho.rref.ok, hr.ok, hx.ok, ho.2]

theorem ok_directSolve {l : Nat} {x : Ref} (ho : (opsAt c l).direct = true) (hx : wref c x) :
    instrOK c (.directSolve l x) = true := by
  simp [ho, hx.rref.ok, hx.2]

theorem ok_restrict {l : Nat} {o i : Ref} (ho : wref c o) (hi : rref c i) : instrOK c (.restrict l o i) = true := by
  simp [ho.rref.ok, hi.ok, ho.2]

theorem ok_exRestrict {l : Nat} {o i : Ref} (ho : wref c o) (hi : rref c i) : instrOK c (.exRestrict l o i) = true := by
  simp [ho.rref.ok, hi.ok, ho.2]

theorem ok_inject {l : Nat} {o i : Ref} (ho : wref c o) (hi : rref c i) : instrOK c (.inject l o i) = true := by
  simp [ho.rref.ok, hi.ok, ho.2]

theorem ok_prolong {l : Nat} {o i : Ref} (ho : wref c o) (hi : rref c i) : instrOK c (.prolong l o i) = true := by
  simp [ho.rref.ok, hi.ok, ho.2]

theorem ok_exProlong {l : Nat} {o i : Ref} (ho : wref c o) (hi : rref c i) : instrOK c (.exProlong l o i) = true := by
  simp [ho.rref.ok, hi.ok, ho.2]

theorem ok_fmgInterp {l : Nat} {o i : Ref} (ho : wref c o) (hi : rref c i) : instrOK c (.fmgInterp l o i) = true := by
  simp [ho.rref.ok, hi.ok, ho.2]

theorem ok_zero {x : Ref} (hx : wref c x) : instrOK c (.zero x) = true := by
  simp [hx.rref.ok, hx.2]

theorem ok_add {x y : Ref} (hx : wref c x) (hy : rref c y) : instrOK c (.add x y) = true := by
  simp [hx.rref.ok, hy.ok, hx.2]

theorem ok_lin43 {x y : Ref} (hx : wref c x) (hy : rref c y) : instrOK c (.lin43 x y) = true := by
  simp [hx.rref.ok, hy.ok, hx.2]

theorem ok_copy {x y : Ref} (hx : wref c x) (hy : rref c y) : instrOK c (.copy x y) = true := by
  simp [hx.rref.ok, hy.ok, hx.2]

theorem ok_exResidual {l : Nat} {r n : Ref} (hr : wref c r) (hn : rref c n) : instrOK c (.exResidual l r n) = true := by
  simp [hr.rref.ok, hn.ok, hr.2]

end instr

theorem progOK_nil (c : Cfg) : progOK c [] = true := rfl

theorem progOK_cons (c : Cfg) (i : Instr) (p : List Instr) : progOK c (i :: p) = (instrOK c i && progOK c p) := rfl

theorem progOK_append (c : Cfg) (p q : List Instr) : progOK c (p ++ q) = (progOK c p && progOK c q) := by
  simp [progOK, List.all_append]

theorem progOK_replicate (c : Cfg) (n : Nat) (i : Instr) (h : instrOK c i = true) :
    progOK c (List.replicate n i) = true := by
  induction n with
  | zero => rfl
  | succ n ih => rw [List.replicate_succ, progOK_cons, h, ih]; rfl

theorem progOK_replicate_flatten (c : Cfg) (n : Nat) (p : List Instr) (h : progOK c p = true) :
    progOK c (List.replicate n p).flatten = true := by
  induction n with
  | zero => rfl
  | succ n ih => rw [List.replicate_succ, List.flatten_cons, progOK_append, h, ih]; rfl

end Setup
