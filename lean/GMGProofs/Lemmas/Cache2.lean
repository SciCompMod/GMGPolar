import GMGProofs.Lemmas.Cache1
namespace Cache
variable {α : Type} [Scalar α]

theorem size_cond (gF gC : Grid) (hF : gF.Valid) (hnr : gF.nr = 2 * gC.nr - 1) :
    (if gF.numNodes > 0 then gC.numNodes else 0) = gC.numNodes := by
  unfold Grid.numNodes
  by_cases h : gC.nr = 0
  · simp [h]
  · have h1 : 0 < gF.nr := by omega
    have := Nat.mul_pos h1 hF.nt_pos
    simp [this]

theorem sample_fill (gF gC : Grid) (hF : gF.Valid) (hC : gC.Valid) (hnr : gF.nr = 2 * gC.nr - 1)
    (hnt : gF.nt = 2 * gC.nt) (vF vC : Nat → Nat → α) (z : α)
    (hvv : ∀ i j, i < gC.nr → j < gC.nt → vF (2 * i) (2 * j) = vC i j) :
    fillNodes gC (if (fillNodes gF gF.numNodes vF).size > 0 then gC.numNodes else 0)
        (fun i j => (fillNodes gF gF.numNodes vF).getD (gF.fastIndex (2 * i) (2 * j)) z)
      = fillNodes gC gC.numNodes vC := by
  rw [fillNodes_size, size_cond gF gC hF hnr]
  apply fillNodes_congr gC hC
  intro i j hi hj
  rw [fillNodes_getD gF hF vF z (2 * i) (2 * j) (by omega) (by omega)]
  exact hvv i j hi hj

omit [Scalar α] in
theorem sample_ofFn (n m : Nat) (f g : Nat → α) (z : α) (hnm : ∀ i, i < m → 2 * i < n)
    (hfg : ∀ i, i < m → f (2 * i) = g i) :
    (Array.ofFn (n := m) fun i => (Array.ofFn (n := n) fun k => f k.val).getD (2 * i.val) z)
      = Array.ofFn (n := m) fun i => g i.val := by
  congr 1; funext i
  rw [ofFn_getD n f (2 * i.val) z (hnm _ i.isLt)]
  exact hfg _ i.isLt

omit [Scalar α] in
theorem cond_ofFn (n m : Nat) (f : Fin n → α) (g : Fin m → α) (h : n = 0 → m = 0) :
    (if 0 < (Array.ofFn f).size then Array.ofFn g else #[]) = Array.ofFn g := by
  by_cases hn : 0 < n
  · simp [hn]
  · have hm : m = 0 := h (by omega)
    subst hm
    simp

end Cache
