import GMGModel.Objects
/-!
Definitions and lemmas for C15 (core Lean only, arbitrary `[Scalar α]`, no field axioms).

`BufOK b n`: the heap buffer `b` has exactly the advertised capacity `n` (`nullptr` only for `n = 0`).
Between two such buffers `std::copy` replaces the contents (`copyN_eq`); with no hypothesis at all, a
`std::copy` that stays in bounds keeps the identity of its destination (`copyN_id`).  Per class, `WF`
says that every buffer has the advertised capacity and `ids` lists the identities of the owned buffers.

In every class the copy constructor allocates and then copies the elements, and copy assignment either
does the same or copies the elements into the buffers the target has.  So a class states its element
copy `copyInto` and proves two facts about it, one from each of the two lemmas on `std::copy`;
`Members.Copies.of_into` turns them into what C15 says about the copy members, `Copies.lawful` into
`Members.Lawful`, and `Members.step_spec` with `runWith_spec` into the statements on operation sequences.
`Tri` adds `solveInPlace`, which keeps the array lengths (`Tridiag.solve_lengths`) and whose effect on
what a caller observes is a function of what the caller observed before (`Tri.solve_congr`).
-/

namespace Tridiag
variable {α : Type}

theorem setHead_length (xs : List α) (f : α → α) : (setHead xs f).length = xs.length := by
  cases xs <;> rfl

theorem setLast_length (f : α → α) : ∀ xs : List α, (setLast xs f).length = xs.length
  | [] => rfl
  | [_] => rfl
  | _ :: y :: ys => congrArg (· + 1) (setLast_length f (y :: ys))

variable [Scalar α]

theorem factorFrom_length : ∀ (d : α) (as bs : List α), as.length = bs.length →
    (factorFrom d as bs).1.length = as.length ∧ (factorFrom d as bs).2.length = bs.length
  | _, [], [], _ => ⟨rfl, rfl⟩
  | _, [], _ :: _, h => nomatch h
  | _, _ :: _, [], h => nomatch h
  | d, a :: as, b :: bs, h => by
    have ih := factorFrom_length (a - b / d * (b / d) * d) as bs (Nat.succ.inj h)
    simp only [factorFrom, List.length_cons, ih.1, ih.2, and_self]

theorem factor_length {m s : List α} {n : Nat} (hm : m.length = n) (h : s.length = n - 1) :
    (factor m s).1.length = n ∧ (factor m s).2.length = s.length := by
  subst hm
  cases m with
  | nil => exact ⟨rfl, h.symm⟩
  | cons a as =>
    have ih := factorFrom_length a as s h.symm
    simp only [factor, List.length_cons, ih.1, ih.2, and_self]

/-- `solveInPlace` overwrites `main` and `sub` by arrays of the same lengths -/
theorem solve_lengths (s : State α) (rhs : List α) (h : s.sub.length = s.main.length - 1) :
    (solve s rhs).1.main.length = s.main.length ∧ (solve s rhs).1.sub.length = s.sub.length := by
  have hcy (f g : α → α) :=
    factor_length (m := setLast (setHead s.main f) g) (by rw [setLast_length, setHead_length]) h
  have hpl := factor_length rfl h
  unfold solve solveCyclic solvePlain
  cases s.cyclic <;> cases s.factorized <;>
    simp only [Bool.false_eq_true, if_true, if_false, and_self, hcy, hpl]

end Tridiag

namespace Objects

/-! ## buffers -/

/-- the buffer has exactly the advertised capacity; `nullptr` only with capacity 0 -/
def BufOK {β : Type} (b : Option (Buf β)) (n : Nat) : Prop :=
  match b with
  | some x => x.data.length = n
  | none => n = 0

theorem BufOK.length {β : Type} {b : Option (Buf β)} {n : Nat} (h : BufOK b n) :
    (bufData b).length = n := by
  cases b with
  | none => exact h.symm
  | some x => exact h

theorem isSome_of_bufId {β : Type} {b c : Option (Buf β)} (h : bufId b = bufId c) : b.isSome = c.isSome :=
  match b, c, h with
  | none, none, _ => rfl
  | some _, some _, _ => rfl

/-- overwriting the contents of a buffer -/
def setData {β : Type} (b : Option (Buf β)) (l : List β) : Option (Buf β) := b.map fun x => { x with data := l }

section
variable {β : Type} {b dst src : Option (Buf β)} {n : Nat} {l : List β}

theorem BufOK.take (h : BufOK b n) : (bufData b).take n = bufData b :=
  List.take_of_length_le (Nat.le_of_eq h.length)

theorem BufOK.nil (h : BufOK b 0) : bufData b = [] :=
  List.eq_nil_of_length_eq_zero h.length

theorem BufOK.alloc (h n : Nat) (z : β) : BufOK (alloc h n z).2 n :=
  List.length_replicate

theorem BufOK.setData (h : BufOK b n) (hl : l.length = n) : BufOK (setData b l) n := by
  cases b with
  | none => exact h
  | some x => exact hl

theorem bufId_setData (b : Option (Buf β)) (l : List β) : bufId (setData b l) = bufId b := by
  cases b <;> rfl

theorem take_setData (l : List β) (h : BufOK b n) : (bufData (setData b l)).take n = l.take n := by
  cases b with
  | none => have : n = 0 := h; subst this; rfl
  | some x => rfl

/-- `std::copy` of `n` elements between two buffers of capacity `n` stays in bounds and replaces the
    contents of the destination by those of the source -/
theorem copyN_eq (hd : BufOK dst n) (hs : BufOK src n) :
    copyN dst src n = some (setData dst (bufData src)) := by
  unfold copyN
  by_cases hn : n = 0
  · subst hn
    rw [if_pos rfl, hs.nil]
    cases dst with
    | none => rfl
    | some d => obtain ⟨i, l⟩ := d; have e : l = [] := hd.nil; subst e; rfl
  · rw [if_neg hn]
    cases dst with
    | none => exact absurd hd hn
    | some d =>
      cases src with
      | none => exact absurd hs hn
      | some s =>
        have hd' : d.data.length = n := hd
        have hs' : s.data.length = n := hs
        show (if n ≤ d.data.length ∧ n ≤ s.data.length then _ else none) = _
        rw [if_pos ⟨Nat.le_of_eq hd'.symm, Nat.le_of_eq hs'.symm⟩, List.take_of_length_le (Nat.le_of_eq hs'),
          List.drop_eq_nil_of_le (Nat.le_of_eq hd'), List.append_nil]
        rfl

/-- whenever `std::copy` stays in bounds, the destination buffer keeps its identity (no hypothesis on sizes) -/
theorem copyN_id {d' : Option (Buf β)} (h : copyN dst src n = some d') : bufId d' = bufId dst := by
  unfold copyN at h
  split at h
  · injection h with e; rw [e]
  · split at h
    · split at h
      · injection h with e; rw [← e]; rfl
      · exact nomatch h
    · exact nomatch h

end

/-! ## identities: two owners, allocator counter `h` -/

/-- all identities were handed out before `h`, and the two owners share none -/
def SepL (h : Nat) (A B : List Nat) : Prop := (∀ i ∈ A, i < h) ∧ (∀ i ∈ B, i < h) ∧ ∀ i ∈ A, i ∉ B

theorem SepL.symm {h : Nat} {A B : List Nat} (s : SepL h A B) : SepL h B A :=
  ⟨s.2.1, s.1, fun i hb ha => s.2.2 i ha hb⟩

/-- the second owner is replaced by one holding old buffers of the second owner and/or fresh ones -/
theorem SepL.assign {h h' : Nat} {A B C : List Nat} (s : SepL h A B) (hh : h ≤ h')
    (hc : ∀ i ∈ C, i ∈ B ∨ (h ≤ i ∧ i < h')) : SepL h' A C := by
  refine ⟨fun i hi => Nat.lt_of_lt_of_le (s.1 i hi) hh, fun i hi => ?_, fun i ha hi => ?_⟩
  · cases hc i hi with
    | inl hb => exact Nat.lt_of_lt_of_le (s.2.1 i hb) hh
    | inr hf => exact hf.2
  · cases hc i hi with
    | inl hb => exact s.2.2 i ha hb
    | inr hf => exact Nat.not_le_of_lt (s.1 i ha) hf.1

theorem SepL.fresh {h h' : Nat} {A B C : List Nat} (s : SepL h A B) (hh : h ≤ h')
    (hc : ∀ i ∈ C, h ≤ i ∧ i < h') : SepL h' A C :=
  s.assign hh fun i hi => Or.inr (hc i hi)

/-- the first owner hands its buffers (`A' = A`) to the second and is left with none (`E = []`) -/
theorem SepL.move {h : Nat} {A B A' E : List Nat} (s : SepL h A B) (e1 : A' = A) (e2 : E = []) : SepL h E A' := by
  subst e1 e2; exact ⟨fun _ hi => (nomatch hi), s.1, fun _ hi => (nomatch hi)⟩

/-- `k` allocations from allocator state `h` hand out the identities `h, …, h + k - 1` -/
theorem fresh_range (h k : Nat) : h ≤ h + k ∧ ∀ i ∈ List.range' h k, h ≤ i ∧ i < h + k :=
  ⟨Nat.le_add_right h k, fun _ hi => List.mem_range'_1.mp hi⟩

/-! ## operation sequences -/

/-- two live objects of a class and the allocator state -/
structure Pair (T : Type) where
  h : Nat
  a : T
  b : T

/-- run a sequence of operations; `none` as soon as one of them reads or writes out of bounds -/
def runWith {op S : Type} (step : op → S → Option S) : List op → S → Option S
  | [], s => some s
  | o :: os, s => (step o s).bind (runWith step os)

section
variable {op S : Type} {step : op → S → Option S} {W Sp : S → Prop}
  (hstep : ∀ o s, W s → ∃ s', step o s = some s' ∧ W s' ∧ (Sp s → Sp s'))
include hstep

theorem runWith_spec :
    ∀ (ops : List op) (s : S), W s → ∃ s', runWith step ops s = some s' ∧ W s' ∧ (Sp s → Sp s')
  | [], s, hs => ⟨s, rfl, hs, id⟩
  | o :: os, s, hs => by
    obtain ⟨s1, h1, w1, p1⟩ := hstep o s hs
    obtain ⟨s2, h2, w2, p2⟩ := runWith_spec os s1 w1
    exact ⟨s2, by show (step o s).bind _ = _; rw [h1]; exact h2, w2, fun h => p2 (p1 h)⟩

theorem runWith_safe (ops : List op) (s : S) (hs : W s) : ∃ s', runWith step ops s = some s' ∧ W s' :=
  (runWith_spec hstep ops s hs).imp fun _ h => ⟨h.1, h.2.1⟩

theorem runWith_sep (ops : List op) (s : S) (hs : W s) (hsep : Sp s) : ∃ s', runWith step ops s = some s' ∧ W s' ∧ Sp s' :=
  (runWith_spec hstep ops s hs).imp fun _ h => ⟨h.1, h.2.1, h.2.2 hsep⟩

end

/-- the special members (and the sizing constructor) applied to a pair `(a, b)` of objects -/
inductive Op where
  /-- `b = a;` -/
  | copyAB
  /-- `a = b;` -/
  | copyBA
  /-- `b = std::move(a);` -/
  | moveAB
  /-- `a = std::move(b);` -/
  | moveBA
  /-- `b` goes out of scope; `T b(a);` -/
  | ctorCopyAB
  /-- `a` goes out of scope; `T a(b);` -/
  | ctorCopyBA
  /-- `b` goes out of scope; `T b(std::move(a));` -/
  | ctorMoveAB
  /-- `a` goes out of scope; `T a(std::move(b));` -/
  | ctorMoveBA
  /-- `a = T(n);` (the temporary is moved in, its buffers are the fresh ones) -/
  | resetA (n : Nat)
  /-- `b = T(n);` -/
  | resetB (n : Nat)

/-- `Op` plus `solveInPlace` on either object -/
inductive TriOp (α : Type) where
  | op (o : Op)
  | solveA (rhs : List α)
  | solveB (rhs : List α)

/-- the special members of a class, its sizing constructor, its invariant and its owned buffers -/
structure Members (T : Type) where
  copyCtor : Nat → T → Option (Nat × T)
  copyAssign : Nat → T → T → Option (Nat × T)
  moveCtor : T → T × T
  moveAssign : T → T → T × T
  ofSize : Nat → Nat → Nat × T
  WF : T → Prop
  ids : T → List Nat

namespace Members
variable {T O : Type} (M : Members T)

/-- the operations on a pair of objects -/
def step : Op → Pair T → Option (Pair T)
  | .copyAB, s => (M.copyAssign s.h s.b s.a).map fun r => ⟨r.1, s.a, r.2⟩
  | .copyBA, s => (M.copyAssign s.h s.a s.b).map fun r => ⟨r.1, r.2, s.b⟩
  | .moveAB, s => some ⟨s.h, (M.moveAssign s.b s.a).2, (M.moveAssign s.b s.a).1⟩
  | .moveBA, s => some ⟨s.h, (M.moveAssign s.a s.b).1, (M.moveAssign s.a s.b).2⟩
  | .ctorCopyAB, s => (M.copyCtor s.h s.a).map fun r => ⟨r.1, s.a, r.2⟩
  | .ctorCopyBA, s => (M.copyCtor s.h s.b).map fun r => ⟨r.1, r.2, s.b⟩
  | .ctorMoveAB, s => some ⟨s.h, (M.moveCtor s.a).2, (M.moveCtor s.a).1⟩
  | .ctorMoveBA, s => some ⟨s.h, (M.moveCtor s.b).1, (M.moveCtor s.b).2⟩
  | .resetA n, s => some ⟨(M.ofSize s.h n).1, (M.ofSize s.h n).2, s.b⟩
  | .resetB n, s => some ⟨(M.ofSize s.h n).1, s.a, (M.ofSize s.h n).2⟩

def PairWF (s : Pair T) : Prop := M.WF s.a ∧ M.WF s.b
/-- the two objects own distinct buffers, all handed out by the allocator before -/
def PairSep (s : Pair T) : Prop := SepL s.h (M.ids s.a) (M.ids s.b)

/-- what the per-class lemmas establish -/
structure Lawful : Prop where
  copyCtor : ∀ h o, M.WF o → ∃ h' c, M.copyCtor h o = some (h', c) ∧ M.WF c ∧ h ≤ h' ∧ ∀ i ∈ M.ids c, h ≤ i ∧ i < h'
  copyAssign : ∀ h t o, M.WF t → M.WF o → ∃ h' c, M.copyAssign h t o = some (h', c) ∧ M.WF c ∧ h ≤ h' ∧
    ∀ i ∈ M.ids c, i ∈ M.ids t ∨ (h ≤ i ∧ i < h')
  moveCtor : ∀ o, M.WF o → M.WF (M.moveCtor o).1 ∧ M.WF (M.moveCtor o).2 ∧
    M.ids (M.moveCtor o).1 = M.ids o ∧ M.ids (M.moveCtor o).2 = []
  moveAssign : ∀ t o, M.WF o → M.WF (M.moveAssign t o).1 ∧ M.WF (M.moveAssign t o).2 ∧
    M.ids (M.moveAssign t o).1 = M.ids o ∧ M.ids (M.moveAssign t o).2 = []
  ofSize : ∀ h n, M.WF (M.ofSize h n).2 ∧ h ≤ (M.ofSize h n).1 ∧ ∀ i ∈ M.ids (M.ofSize h n).2, h ≤ i ∧ i < (M.ofSize h n).1

/-- The copy members in terms of what a caller observes (`obs`): on well-formed objects they stay in bounds
    and the result is well formed and looks like the source.  Whenever they succeed at all, on any objects,
    the result owns buffers allocated by this call or (assignment) buffers of the target. -/
structure Copies (obs : T → O) : Prop where
  ctor : ∀ h {o}, M.WF o → ∃ h' c, M.copyCtor h o = some (h', c) ∧ obs c = obs o ∧ M.WF c
  ctor_ids : ∀ {h h' o c}, M.copyCtor h o = some (h', c) → h ≤ h' ∧ ∀ i ∈ M.ids c, h ≤ i ∧ i < h'
  assign : ∀ h {t o}, M.WF t → M.WF o → ∃ h' c, M.copyAssign h t o = some (h', c) ∧ obs c = obs o ∧ M.WF c
  assign_ids : ∀ {h h' t o c}, M.copyAssign h t o = some (h', c) →
    h ≤ h' ∧ ∀ i ∈ M.ids c, i ∈ M.ids t ∨ (h ≤ i ∧ i < h')

variable {M} {obs : T → O} {h h' : Nat} {t o c : T}

/-- A class whose copy constructor allocates (`blank`) and then copies the elements (`into`), and whose copy
    assignment does the same if target and source `differ` in size and otherwise copies the elements into
    the buffers the target has: what `into` does between objects that do not differ carries over to both. -/
theorem Copies.of_into {into : Nat → T → T → Option (Nat × T)} {blank : Nat → T → Nat × T}
    {differ : T → T → Prop} [∀ t o, Decidable (differ t o)]
    (ctor_eq : ∀ h o, M.copyCtor h o = into (blank h o).1 (blank h o).2 o)
    (assign_eq : ∀ h t o, M.copyAssign h t o = if differ t o then M.copyCtor h o else into h t o)
    (blank_ok : ∀ h {o}, M.WF o → M.WF (blank h o).2 ∧ ¬ differ (blank h o).2 o)
    (blank_ids : ∀ h o, ∃ k, (blank h o).1 = h + k ∧ M.ids (blank h o).2 = List.range' h k)
    (into_ok : ∀ h {t o}, M.WF t → M.WF o → ¬ differ t o → ∃ c, into h t o = some (h, c) ∧ obs c = obs o ∧ M.WF c)
    (into_ids : ∀ {h h' t o c}, into h t o = some (h', c) → h' = h ∧ M.ids c = M.ids t) : M.Copies obs := by
  have ctor : ∀ h {o}, M.WF o → ∃ h' c, M.copyCtor h o = some (h', c) ∧ obs c = obs o ∧ M.WF c := fun h o ho => by
    rw [ctor_eq]; exact ⟨_, into_ok _ (blank_ok h ho).1 ho (blank_ok h ho).2⟩
  have ctor_ids : ∀ {h h' o c}, M.copyCtor h o = some (h', c) → h ≤ h' ∧ ∀ i ∈ M.ids c, h ≤ i ∧ i < h' := by
    intro h h' o c hc
    rw [ctor_eq] at hc
    obtain ⟨k, e1, e2⟩ := blank_ids h o
    obtain ⟨rfl, e⟩ := into_ids hc
    rw [e, e1, e2]; exact fresh_range h k
  refine ⟨ctor, ctor_ids, fun h t o ht ho => ?_, fun {h h' t o c} hc => ?_⟩
  · rw [assign_eq]; split
    · exact ctor h ho
    · exact ⟨_, into_ok h ht ho ‹_›⟩
  · rw [assign_eq] at hc; split at hc
    · exact (ctor_ids hc).imp_right fun H i hi => .inr (H i hi)
    · obtain ⟨rfl, e⟩ := into_ids hc
      exact ⟨Nat.le_refl _, fun i hi => .inl (e ▸ hi)⟩

theorem Copies.ctor_fresh (C : M.Copies obs) (h : Nat) (ho : M.WF o) :
    ∃ h' c, M.copyCtor h o = some (h', c) ∧ obs c = obs o ∧ M.WF c ∧ h ≤ h' ∧ ∀ i ∈ M.ids c, h ≤ i ∧ i < h' :=
  let ⟨h', c, e, ob, w⟩ := C.ctor h ho
  ⟨h', c, e, ob, w, C.ctor_ids e⟩

theorem of_eq_some {P : T → Prop} {r : Option (Nat × T)} (H : ∃ h' c, r = some (h', c) ∧ P c)
    (hr : r = some (h', c)) : P c := by
  obtain ⟨_, _, e, p⟩ := H
  rw [hr] at e; injection e with e; injection e with _ e
  exact e ▸ p

/-- the copy's buffers are newer than every buffer of the source -/
theorem Copies.ctor_independent (C : M.Copies obs) (hold : ∀ i ∈ M.ids o, i < h)
    (hc : M.copyCtor h o = some (h', c)) : ∀ i ∈ M.ids c, i ∉ M.ids o :=
  fun i hi hio => Nat.not_le_of_lt (hold i hio) ((C.ctor_ids hc).2 i hi).1

theorem Copies.assign_independent (C : M.Copies obs) (hold : ∀ i ∈ M.ids o, i < h)
    (hdis : ∀ i ∈ M.ids t, i ∉ M.ids o) (hc : M.copyAssign h t o = some (h', c)) :
    ∀ i ∈ M.ids c, (i ∈ M.ids t ∨ h ≤ i) ∧ i ∉ M.ids o :=
  fun i hi => match (C.assign_ids hc).2 i hi with
    | .inl ht => ⟨.inl ht, hdis i ht⟩
    | .inr hf => ⟨.inr hf.1, fun hio => Nat.not_le_of_lt (hold i hio) hf.1⟩

/-- the moves hand the source over and leave the default-constructed object `d`, which owns nothing -/
theorem Copies.lawful (C : M.Copies obs) (d : T) (hd : M.WF d) (hi : M.ids d = [])
    (moveCtor : ∀ o, M.moveCtor o = (o, d)) (moveAssign : ∀ t o, M.moveAssign t o = (o, d))
    (ofSize : ∀ h n, M.WF (M.ofSize h n).2 ∧ ∃ k, (M.ofSize h n).1 = h + k ∧ M.ids (M.ofSize h n).2 = List.range' h k) :
    M.Lawful where
  copyCtor h _ ho := let ⟨h', c, e, _, w⟩ := C.ctor h ho; ⟨h', c, e, w, C.ctor_ids e⟩
  copyAssign h _ _ ht ho := let ⟨h', c, e, _, w⟩ := C.assign h ht ho; ⟨h', c, e, w, C.assign_ids e⟩
  moveCtor o ho := by rw [moveCtor]; exact ⟨ho, hd, rfl, hi⟩
  moveAssign t o ho := by rw [moveAssign]; exact ⟨ho, hd, rfl, hi⟩
  ofSize h n := by
    obtain ⟨w, k, e1, e2⟩ := ofSize h n
    rw [e1, e2]; exact ⟨w, fresh_range h k⟩

theorem step_spec (L : M.Lawful) (o : Op) (s : Pair T) (hw : M.PairWF s) :
    ∃ s', M.step o s = some s' ∧ M.PairWF s' ∧ (M.PairSep s → M.PairSep s') := by
  obtain ⟨ha, hb⟩ := hw
  cases o with
  | copyAB =>
    obtain ⟨_, _, e, w, hh, hc⟩ := L.copyAssign s.h s.b s.a hb ha
    exact ⟨_, congrArg (Option.map _) e, ⟨ha, w⟩, fun hs => hs.assign hh hc⟩
  | copyBA =>
    obtain ⟨_, _, e, w, hh, hc⟩ := L.copyAssign s.h s.a s.b ha hb
    exact ⟨_, congrArg (Option.map _) e, ⟨w, hb⟩, fun hs => (hs.symm.assign hh hc).symm⟩
  | moveAB =>
    obtain ⟨w1, w2, i1, i2⟩ := L.moveAssign s.b s.a ha
    exact ⟨_, rfl, ⟨w2, w1⟩, fun hs => hs.move i1 i2⟩
  | moveBA =>
    obtain ⟨w1, w2, i1, i2⟩ := L.moveAssign s.a s.b hb
    exact ⟨_, rfl, ⟨w1, w2⟩, fun hs => (hs.symm.move i1 i2).symm⟩
  | ctorCopyAB =>
    obtain ⟨_, _, e, w, hh, hc⟩ := L.copyCtor s.h s.a ha
    exact ⟨_, congrArg (Option.map _) e, ⟨ha, w⟩, fun hs => hs.fresh hh hc⟩
  | ctorCopyBA =>
    obtain ⟨_, _, e, w, hh, hc⟩ := L.copyCtor s.h s.b hb
    exact ⟨_, congrArg (Option.map _) e, ⟨w, hb⟩, fun hs => (hs.symm.fresh hh hc).symm⟩
  | ctorMoveAB =>
    obtain ⟨w1, w2, i1, i2⟩ := L.moveCtor s.a ha
    exact ⟨_, rfl, ⟨w2, w1⟩, fun hs => hs.move i1 i2⟩
  | ctorMoveBA =>
    obtain ⟨w1, w2, i1, i2⟩ := L.moveCtor s.b hb
    exact ⟨_, rfl, ⟨w1, w2⟩, fun hs => (hs.symm.move i1 i2).symm⟩
  | resetA n =>
    obtain ⟨w, hh, hc⟩ := L.ofSize s.h n
    exact ⟨_, rfl, ⟨w, hb⟩, fun hs => (hs.symm.fresh hh hc).symm⟩
  | resetB n =>
    obtain ⟨w, hh, hc⟩ := L.ofSize s.h n
    exact ⟨_, rfl, ⟨ha, w⟩, fun hs => hs.fresh hh hc⟩

end Members

variable {α : Type}

/-! ## Vec -/
namespace Vec
def WF (v : Vec α) : Prop := BufOK v.values v.size
def ids (v : Vec α) : List Nat := (bufId v.values).toList

/-- the `std::copy` of both copy members, into the buffer that `t` has -/
def copyInto (h : Nat) (t o : Vec α) : Option (Nat × Vec α) :=
  (copyN t.values o.values t.size).map fun b' => (h, ⟨t.size, b'⟩)

theorem copyInto_ok (h : Nat) {t o : Vec α} (ht : WF t) (ho : WF o) (he : ¬ t.size ≠ o.size) :
    ∃ c, copyInto h t o = some (h, c) ∧ obs c = obs o ∧ WF c := by
  have he := Decidable.of_not_not he
  have ho' : BufOK o.values t.size := he ▸ ho
  refine ⟨⟨t.size, setData t.values (bufData o.values)⟩, congrArg _ (copyN_eq ht ho'), ?_, ht.setData ho'.length⟩
  show (t.size, _) = (o.size, _)
  rw [take_setData _ ht, he]

theorem copyInto_ids {h h' : Nat} {t o c : Vec α} (hc : copyInto h t o = some (h', c)) :
    h' = h ∧ ids c = ids t := by
  obtain ⟨d, h1, h2⟩ := Option.map_eq_some_iff.mp hc
  injection h2 with e1 e2; subst e1 e2
  exact ⟨rfl, congrArg Option.toList (copyN_id h1)⟩

theorem WF_default : WF (default : Vec α) := rfl

variable [Scalar α]

theorem copyAssign_eq (h : Nat) (t o : Vec α) :
    copyAssign h t o = if t.size ≠ o.size then copyCtor h o else copyInto h t o := by
  unfold copyAssign
  by_cases he : t.size ≠ o.size
  · rw [if_pos he, if_pos he]; rfl
  · rw [if_neg he, if_neg he]; rfl

theorem ofSize_WF (h n : Nat) : WF (ofSize h n : Nat × Vec α).2 := BufOK.alloc h n _
theorem ofSize_fst (h n : Nat) : (ofSize h n : Nat × Vec α).1 = h + 1 := rfl
theorem ofSize_ids (h n : Nat) : ids (ofSize h n : Nat × Vec α).2 = [h] := rfl

def members : Members (Vec α) := ⟨copyCtor, copyAssign, moveCtor, moveAssign, ofSize, WF, ids⟩

theorem copies : (members : Members (Vec α)).Copies obs :=
  .of_into (blank := fun h o => ofSize h o.size) (fun _ _ => rfl) copyAssign_eq
    (fun h _ _ => ⟨ofSize_WF h _, fun h => h rfl⟩) (fun _ _ => ⟨1, rfl, rfl⟩) copyInto_ok copyInto_ids

theorem lawful : (members : Members (Vec α)).Lawful :=
  copies.lawful default WF_default rfl (fun _ => rfl) (fun _ _ => rfl)
    fun h n => ⟨ofSize_WF h n, 1, rfl, rfl⟩

def step : Op → Pair (Vec α) → Option (Pair (Vec α)) := members.step
def run : List Op → Pair (Vec α) → Option (Pair (Vec α)) := runWith step
def PairWF (s : Pair (Vec α)) : Prop := WF s.a ∧ WF s.b
def PairSep (s : Pair (Vec α)) : Prop := SepL s.h (ids s.a) (ids s.b)

end Vec

/-! ## Diag: a `Vec` under other field names -/
namespace Diag
def WF (v : Diag α) : Prop := BufOK v.diag v.n
def ids (v : Diag α) : List Nat := (bufId v.diag).toList

def toVec (d : Diag α) : Vec α := ⟨d.n, d.diag⟩
def ofVec (r : Nat × Vec α) : Nat × Diag α := (r.1, ⟨r.2.size, r.2.values⟩)

theorem WF_default : WF (default : Diag α) := rfl

variable [Scalar α]

theorem copyAssign_eq (h : Nat) (t o : Diag α) : copyAssign h t o =
    if t.n ≠ o.n then copyCtor h o else (Vec.copyInto h t.toVec o.toVec).map ofVec := by
  unfold copyAssign
  by_cases he : t.n ≠ o.n
  · rw [if_pos he, if_pos he]; rfl
  · rw [if_neg he, if_neg he]; exact (Option.map_map ofVec (fun b' => (h, ⟨t.n, b'⟩)) _).symm

theorem ofSize_WF (h n : Nat) : WF (ofSize h n : Nat × Diag α).2 := BufOK.alloc h n _
theorem ofSize_fst (h n : Nat) : (ofSize h n : Nat × Diag α).1 = h + 1 := rfl
theorem ofSize_ids (h n : Nat) : ids (ofSize h n : Nat × Diag α).2 = [h] := rfl

def members : Members (Diag α) := ⟨copyCtor, copyAssign, moveCtor, moveAssign, ofSize, WF, ids⟩

theorem copies : (members : Members (Diag α)).Copies obs :=
  .of_into (into := fun h t o => (Vec.copyInto h t.toVec o.toVec).map ofVec) (blank := fun h o => ofSize h o.n)
    (fun h o => (Option.map_map ofVec (fun b' => (h + 1, ⟨o.n, b'⟩)) _).symm) copyAssign_eq
    (fun h _ _ => ⟨ofSize_WF h _, fun h => h rfl⟩) (fun _ _ => ⟨1, rfl, rfl⟩)
    (fun h t o ht ho he =>
      let ⟨c, e, r⟩ := Vec.copyInto_ok h (t := t.toVec) (o := o.toVec) ht ho he
      ⟨(ofVec (h, c)).2, congrArg (Option.map ofVec) e, r⟩)
    fun hc => by
      obtain ⟨⟨_, _⟩, e, e'⟩ := Option.map_eq_some_iff.mp hc
      injection e' with e1 e2; subst e1 e2
      exact Vec.copyInto_ids e

theorem lawful : (members : Members (Diag α)).Lawful :=
  copies.lawful default WF_default rfl (fun _ => rfl) (fun _ _ => rfl)
    fun h n => ⟨ofSize_WF h n, 1, rfl, rfl⟩

def step : Op → Pair (Diag α) → Option (Pair (Diag α)) := members.step
def run : List Op → Pair (Diag α) → Option (Pair (Diag α)) := runWith step
def PairWF (s : Pair (Diag α)) : Prop := WF s.a ∧ WF s.b
def PairSep (s : Pair (Diag α)) : Prop := SepL s.h (ids s.a) (ids s.b)

end Diag

/-! ## COO -/
namespace COO
def WF (m : COO α) : Prop := BufOK m.rowIdx m.nnz ∧ BufOK m.colIdx m.nnz ∧ BufOK m.values m.nnz
def ids (m : COO α) : List Nat := (bufId m.rowIdx).toList ++ (bufId m.colIdx).toList ++ (bufId m.values).toList

/-- the three `std::copy` of both copy members, into the buffers that `t` has -/
def copyInto (h : Nat) (t o : COO α) : Option (Nat × COO α) :=
  (copyN t.rowIdx o.rowIdx o.nnz).bind fun r' => (copyN t.colIdx o.colIdx o.nnz).bind fun c' =>
  (copyN t.values o.values o.nnz).bind fun v' => some (h, ⟨o.rows, o.cols, o.nnz, r', c', v', o.symmetric⟩)

theorem copyInto_ok (h : Nat) {t o : COO α} (ht : WF t) (ho : WF o) (he : ¬ t.nnz ≠ o.nnz) :
    ∃ c, copyInto h t o = some (h, c) ∧ obs c = obs o ∧ WF c := by
  obtain ⟨tr, tc, tv⟩ := ht
  obtain ⟨hr, hc, hv⟩ := ho
  rw [Decidable.of_not_not he] at tr tc tv
  refine ⟨_, by rw [copyInto, copyN_eq tr hr, copyN_eq tc hc, copyN_eq tv hv]; rfl, ?_,
    tr.setData hr.length, tc.setData hc.length, tv.setData hv.length⟩
  simp only [obs, take_setData _ tr, take_setData _ tc, take_setData _ tv]

theorem copyInto_ids {h h' : Nat} {t o c : COO α} (hc : copyInto h t o = some (h', c)) :
    h' = h ∧ ids c = ids t := by
  simp only [copyInto, Option.bind_eq_some_iff] at hc
  obtain ⟨r, r1, c', c1, v, v1, h2⟩ := hc
  injection h2 with h2; injection h2 with e1 e2; subst e1 e2
  exact ⟨rfl, by show _ ++ _ ++ _ = _; rw [copyN_id r1, copyN_id c1, copyN_id v1]; rfl⟩

theorem WF_default : WF (default : COO α) := ⟨rfl, rfl, rfl⟩

variable [Scalar α]

theorem copyAssign_eq (h : Nat) (t o : COO α) :
    copyAssign h t o = if t.nnz ≠ o.nnz then copyCtor h o else copyInto h t o := by
  unfold copyAssign
  by_cases he : t.nnz ≠ o.nnz
  · rw [if_pos he, if_pos he]; rfl
  · rw [if_neg he, if_neg he]; rfl

theorem ofSize_WF (h r c n : Nat) : WF (ofSize h r c n : Nat × COO α).2 :=
  ⟨BufOK.alloc h n _, BufOK.alloc (h + 1) n _, BufOK.alloc (h + 1 + 1) n _⟩
theorem ofSize_fst (h r c n : Nat) : (ofSize h r c n : Nat × COO α).1 = h + 1 + 1 + 1 := rfl
theorem ofSize_ids (h r c n : Nat) : ids (ofSize h r c n : Nat × COO α).2 = [h, h + 1, h + 1 + 1] := rfl

/-- the sizing constructor used by `Op.resetA n`: an `n × n` matrix with `n` stored entries -/
def members : Members (COO α) := ⟨copyCtor, copyAssign, moveCtor, moveAssign, fun h n => ofSize h n n n, WF, ids⟩

theorem copies : (members : Members (COO α)).Copies obs :=
  .of_into (blank := fun h o => ofSize h o.rows o.cols o.nnz) (fun _ _ => rfl) copyAssign_eq
    (fun h _ _ => ⟨ofSize_WF h _ _ _, fun h => h rfl⟩) (fun _ _ => ⟨3, rfl, rfl⟩) copyInto_ok copyInto_ids

theorem lawful : (members : Members (COO α)).Lawful :=
  copies.lawful default WF_default rfl (fun _ => rfl) (fun _ _ => rfl)
    fun h n => ⟨ofSize_WF h n n n, 3, rfl, rfl⟩

def step : Op → Pair (COO α) → Option (Pair (COO α)) := members.step
def run : List Op → Pair (COO α) → Option (Pair (COO α)) := runWith step
def PairWF (s : Pair (COO α)) : Prop := WF s.a ∧ WF s.b
def PairSep (s : Pair (COO α)) : Prop := SepL s.h (ids s.a) (ids s.b)

end COO

/-! ## CSRo -/

/-- `row_start_indices_`: `rows + 1` entries, or `nullptr` in the default-constructed / moved-from matrix -/
def RowOK (b : Option (Buf Int)) (rows nnz : Nat) : Prop :=
  match b with
  | some x => x.data.length = rows + 1
  | none => rows = 0 ∧ nnz = 0

/-- the row-start array is copied only if the source has one; both present or both absent, the target's
    array ends up with the contents of the source's -/
theorem RowOK.copy {a b : Option (Buf Int)} {rows nnz : Nat} (ha : RowOK a rows nnz) (hb : RowOK b rows nnz)
    (e : a.isSome = b.isSome) :
    ∃ r, (if b.isSome then copyN a b (rows + 1) else some a) = some r ∧ RowOK r rows nnz ∧
      (if r.isSome then (bufData r).take (rows + 1) else []) = if b.isSome then (bufData b).take (rows + 1) else [] :=
  match a, b, ha, hb, e with
  | none, none, ha, _, _ => ⟨_, rfl, ha, rfl⟩
  | some x, some y, ha, hb, _ => ⟨_, copyN_eq (dst := some x) (src := some y) ha hb, hb, rfl⟩

namespace CSRo
def WF (m : CSRo α) : Prop := BufOK m.values m.nnz ∧ BufOK m.colIdx m.nnz ∧ RowOK m.rowStart m.rows m.nnz
def ids (m : CSRo α) : List Nat := (bufId m.values).toList ++ (bufId m.colIdx).toList ++ (bufId m.rowStart).toList

/-- the `std::copy` of both copy members, into the buffers that `t` has -/
def copyInto (h : Nat) (t o : CSRo α) : Option (Nat × CSRo α) :=
  (copyN t.values o.values o.nnz).bind fun v' => (copyN t.colIdx o.colIdx o.nnz).bind fun c' =>
  (if o.rowStart.isSome then copyN t.rowStart o.rowStart (o.rows + 1) else some t.rowStart).bind fun r' =>
  some (h, ⟨o.rows, o.cols, o.nnz, v', c', r'⟩)

/-- copy assignment re-allocates unless the target has arrays of the very sizes of the source's -/
abbrev differ (t o : CSRo α) : Prop :=
  t.nnz ≠ o.nnz ∨ t.rows ≠ o.rows ∨ t.rowStart.isSome ≠ o.rowStart.isSome

theorem not_differ {t o : CSRo α} :
    ¬ differ t o ↔ t.nnz = o.nnz ∧ t.rows = o.rows ∧ t.rowStart.isSome = o.rowStart.isSome := by
  simp only [not_or, ne_eq, Decidable.not_not]

theorem copyInto_ok (h : Nat) {t o : CSRo α} (ht : WF t) (ho : WF o) (he : ¬ differ t o) :
    ∃ c, copyInto h t o = some (h, c) ∧ obs c = obs o ∧ WF c := by
  obtain ⟨e1, e2, e3⟩ := not_differ.mp he
  obtain ⟨tv, tc, tr⟩ := ht
  obtain ⟨hv, hc, hr⟩ := ho
  rw [e1] at tv tc tr
  rw [e2] at tr
  obtain ⟨r, r1, r2, r3⟩ := tr.copy hr e3
  refine ⟨_, by rw [copyInto, copyN_eq tv hv, copyN_eq tc hc, r1]; rfl, ?_,
    tv.setData hv.length, tc.setData hc.length, r2⟩
  simp only [obs, take_setData _ tv, take_setData _ tc, r3]

theorem copyInto_ids {h h' : Nat} {t o c : CSRo α} (hc : copyInto h t o = some (h', c)) :
    h' = h ∧ ids c = ids t := by
  simp only [copyInto, Option.bind_eq_some_iff] at hc
  obtain ⟨v, v1, c', c1, r, r1, h2⟩ := hc
  injection h2 with h2; injection h2 with e1 e2; subst e1 e2
  have r4 : bufId r = bufId t.rowStart := by
    split at r1
    · exact copyN_id r1
    · injection r1 with e; rw [e]
  exact ⟨rfl, by show _ ++ _ ++ _ = _; rw [copyN_id v1, copyN_id c1, r4]; rfl⟩

theorem WF_default : WF (default : CSRo α) := ⟨rfl, rfl, rfl, rfl⟩

variable [Scalar α]

/-- what the copy members allocate for a copy of `o` -/
def blank (h : Nat) (o : CSRo α) : Nat × CSRo α :=
  if o.rowStart.isSome then
    (h + 1 + 1 + 1, ⟨o.rows, o.cols, o.nnz, (alloc h o.nnz (Scalar.n 0)).2, (alloc (h + 1) o.nnz 0).2,
      (alloc (h + 1 + 1) (o.rows + 1) 0).2⟩)
  else (h + 1 + 1, ⟨o.rows, o.cols, o.nnz, (alloc h o.nnz (Scalar.n 0)).2, (alloc (h + 1) o.nnz 0).2, none⟩)

theorem copyCtor_eq (h : Nat) (o : CSRo α) : copyCtor h o = copyInto (blank h o).1 (blank h o).2 o := by
  unfold copyCtor blank copyInto
  cases o.rowStart.isSome <;> rfl

theorem copyAssign_eq (h : Nat) (t o : CSRo α) :
    copyAssign h t o = if differ t o then copyCtor h o else copyInto h t o := by
  unfold copyAssign
  by_cases he : differ t o
  · rw [if_pos he, if_pos he]; rfl
  · rw [if_neg he, if_neg he]
    unfold copyInto
    cases o.rowStart.isSome <;> rfl

/-- the class has no sizing constructor in the model: `Op.resetA _` is `a = SparseMatrixCSR();` -/
def members : Members (CSRo α) := ⟨copyCtor, copyAssign, moveCtor, moveAssign, fun h _ => (h, default), WF, ids⟩

theorem copies : (members : Members (CSRo α)).Copies obs :=
  .of_into copyCtor_eq copyAssign_eq
    (fun h o ho => by
      show WF (blank h o).2 ∧ ¬ differ (blank h o).2 o
      unfold blank; split
      · next hs => exact ⟨⟨BufOK.alloc .., BufOK.alloc .., BufOK.alloc ..⟩, not_differ.mpr ⟨rfl, rfl, hs.symm⟩⟩
      · next hs =>
        exact ⟨⟨BufOK.alloc .., BufOK.alloc .., Option.not_isSome_iff_eq_none.mp hs ▸ ho.2.2⟩,
          not_differ.mpr ⟨rfl, rfl, ((Bool.not_eq_true _).mp hs).symm⟩⟩)
    (fun h o => by
      show ∃ k, (blank h o).1 = _ ∧ ids (blank h o).2 = _
      unfold blank; split
      · exact ⟨3, rfl, rfl⟩
      · exact ⟨2, rfl, rfl⟩)
    copyInto_ok copyInto_ids

theorem lawful : (members : Members (CSRo α)).Lawful :=
  copies.lawful default WF_default rfl (fun _ => rfl) (fun _ _ => rfl)
    fun _ _ => ⟨WF_default, 0, rfl, rfl⟩

def step : Op → Pair (CSRo α) → Option (Pair (CSRo α)) := members.step
def run : List Op → Pair (CSRo α) → Option (Pair (CSRo α)) := runWith step
def PairWF (s : Pair (CSRo α)) : Prop := WF s.a ∧ WF s.b
def PairSep (s : Pair (CSRo α)) : Prop := SepL s.h (ids s.a) (ids s.b)

end CSRo

/-! ## Tri -/
namespace Tri
def WF (t : Tri α) : Prop := BufOK t.main t.n ∧ BufOK t.sub (t.n - 1)
def ids (t : Tri α) : List Nat := (bufId t.main).toList ++ (bufId t.sub).toList

/-- the two `std::copy` of both copy members, into the buffers that `t` has -/
def copyInto (h : Nat) (t o : Tri α) : Option (Nat × Tri α) :=
  (copyN t.main o.main o.n).bind fun m' => (copyN t.sub o.sub (o.n - 1)).bind fun s' =>
  some (h, ⟨o.n, m', s', o.corner, o.cyclic, o.factorized, o.gamma⟩)

theorem copyInto_ok (h : Nat) {t o : Tri α} (ht : WF t) (ho : WF o) (he : ¬ t.n ≠ o.n) :
    ∃ c, copyInto h t o = some (h, c) ∧ obs c = obs o ∧ WF c := by
  obtain ⟨tm, ts⟩ := ht
  obtain ⟨hm, hs⟩ := ho
  rw [Decidable.of_not_not he] at tm ts
  refine ⟨_, by rw [copyInto, copyN_eq tm hm, copyN_eq ts hs]; rfl, ?_, tm.setData hm.length, ts.setData hs.length⟩
  simp only [obs, take_setData _ tm, take_setData _ ts]

theorem copyInto_ids {h h' : Nat} {t o c : Tri α} (hc : copyInto h t o = some (h', c)) :
    h' = h ∧ ids c = ids t := by
  simp only [copyInto, Option.bind_eq_some_iff] at hc
  obtain ⟨m, m1, s, s1, h2⟩ := hc
  injection h2 with h2; injection h2 with e1 e2; subst e1 e2
  exact ⟨rfl, by show _ ++ _ = _; rw [copyN_id m1, copyN_id s1]; rfl⟩

/-- the solver state is a function of the observation -/
def stateOfObs (x : Nat × List α × List α × α × Bool × Bool × α) : Tridiag.State α :=
  ⟨x.2.1, x.2.2.1, x.2.2.2.1, x.2.2.2.2.1, x.2.2.2.2.2.1, x.2.2.2.2.2.2⟩

theorem toState_lengths {t : Tri α} (ht : WF t) :
    t.toState.main.length = t.n ∧ t.toState.sub.length = t.n - 1 := by
  show ((bufData t.main).take t.n).length = t.n ∧ ((bufData t.sub).take (t.n - 1)).length = t.n - 1
  rw [ht.1.take, ht.2.take]; exact ⟨ht.1.length, ht.2.length⟩

variable [Scalar α]

theorem copyAssign_eq (h : Nat) (t o : Tri α) :
    copyAssign h t o = if t.n ≠ o.n then copyCtor h o else copyInto h t o := by
  unfold copyAssign
  by_cases he : t.n ≠ o.n
  · rw [if_pos he, if_pos he]; rfl
  · rw [if_neg he, if_neg he]; rfl

theorem WF_default : WF (default : Tri α) := ⟨rfl, rfl⟩
theorem ofSize_WF (h n : Nat) : WF (ofSize h n : Nat × Tri α).2 := ⟨BufOK.alloc h n _, BufOK.alloc (h + 1) (n - 1) _⟩
theorem ofSize_fst (h n : Nat) : (ofSize h n : Nat × Tri α).1 = h + 1 + 1 := rfl
theorem ofSize_ids (h n : Nat) : ids (ofSize h n : Nat × Tri α).2 = [h, h + 1] := rfl

def members : Members (Tri α) := ⟨copyCtor, copyAssign, moveCtor, moveAssign, ofSize, WF, ids⟩

theorem copies : (members : Members (Tri α)).Copies obs :=
  .of_into (blank := fun h o => ofSize h o.n) (fun _ _ => rfl) copyAssign_eq
    (fun h _ _ => ⟨ofSize_WF h _, fun h => h rfl⟩) (fun _ _ => ⟨2, rfl, rfl⟩) copyInto_ok copyInto_ids

theorem lawful : (members : Members (Tri α)).Lawful :=
  copies.lawful default WF_default rfl (fun _ => rfl) (fun _ _ => rfl)
    fun h n => ⟨ofSize_WF h n, 2, rfl, rfl⟩

/-! ### `solveInPlace` -/

theorem solve_WF {t : Tri α} (rhs : List α) (ht : WF t) : WF (solve t rhs).1 := by
  obtain ⟨l1, l2⟩ := toState_lengths ht
  obtain ⟨k1, k2⟩ := Tridiag.solve_lengths t.toState rhs (by rw [l1, l2])
  exact ⟨ht.1.setData (by rw [k1, l1]), ht.2.setData (by rw [k2, l2])⟩

theorem solve_ids (t : Tri α) (rhs : List α) : ids (solve t rhs).1 = ids t := by
  show (bufId (setData t.main _)).toList ++ (bufId (setData t.sub _)).toList = _
  rw [bufId_setData, bufId_setData]; rfl

/-- what is observable after `solveInPlace`, from what was observable before -/
def obsSolve (x : Nat × List α × List α × α × Bool × Bool × α) (rhs : List α) :
    Nat × List α × List α × α × Bool × Bool × α :=
  let r := (Tridiag.solve (stateOfObs x) rhs).1
  (x.1, r.main.take x.1, r.sub.take (x.1 - 1), x.2.2.2.1, x.2.2.2.2.1, r.factorized, r.gamma)

theorem solve_obs {t : Tri α} (rhs : List α) (ht : WF t) : obs (solve t rhs).1 = obsSolve (obs t) rhs := by
  show (t.n, (bufData (setData t.main _)).take t.n, (bufData (setData t.sub _)).take (t.n - 1), _) = _
  rw [take_setData _ ht.1, take_setData _ ht.2]; rfl

theorem solve_congr {c o : Tri α} (rhs : List α) (hc : WF c) (ho : WF o) (h : obs c = obs o) :
    (solve c rhs).2 = (solve o rhs).2 ∧ obs (solve c rhs).1 = obs (solve o rhs).1 :=
  ⟨congrArg (fun x => (Tridiag.solve (stateOfObs x) rhs).2) h, by rw [solve_obs rhs hc, solve_obs rhs ho, h]⟩

/-- `main = [4,4,4]`, `sub = [1,1]`, not cyclic, not yet factorised -/
def example3 : Tri Rat := ⟨3, some ⟨0, [4, 4, 4]⟩, some ⟨1, [1, 1]⟩, 0, false, false, 0⟩

/-- the special members, the sizing constructor, and `solveInPlace` on a pair of solvers -/
def step : TriOp α → Pair (Tri α) → Option (Pair (Tri α))
  | .op o, s => members.step o s
  | .solveA rhs, s => some ⟨s.h, (solve s.a rhs).1, s.b⟩
  | .solveB rhs, s => some ⟨s.h, s.a, (solve s.b rhs).1⟩
def run : List (TriOp α) → Pair (Tri α) → Option (Pair (Tri α)) := runWith step
def PairWF (s : Pair (Tri α)) : Prop := WF s.a ∧ WF s.b
def PairSep (s : Pair (Tri α)) : Prop := SepL s.h (ids s.a) (ids s.b)

theorem step_spec (o : TriOp α) (s : Pair (Tri α)) (hw : PairWF s) :
    ∃ s', step o s = some s' ∧ PairWF s' ∧ (PairSep s → PairSep s') := by
  cases o with
  | op o => exact Members.step_spec lawful o s hw
  | solveA rhs =>
    exact ⟨_, rfl, ⟨solve_WF rhs hw.1, hw.2⟩, fun hs => by rw [PairSep, solve_ids]; exact hs⟩
  | solveB rhs =>
    exact ⟨_, rfl, ⟨hw.1, solve_WF rhs hw.2⟩, fun hs => by rw [PairSep, solve_ids]; exact hs⟩

end Tri

end Objects
