import GMGProofs.Lemmas.GridGenLevels
/-!
# The coarsening chain: the other unfolding, and the sizes on every level of an accepted hierarchy

`coarsenR` / `coarsenT` are defined by peeling the FINEST coarsening step.  Here: the unfolding that peels the COARSEST step,
monotonicity in the level, and the arithmetic facts about every level of a chain of accepted length
(`chooseLevels nr nt maxLevels = .ok L`) that the whole-cycle theorems use.
-/
namespace GridGenL
open GridGen

theorem coarsenR_succ' (l : Nat) : ∀ n, coarsenR (l + 1) n = (coarsenR l n + 1) / 2 := fun n => by
  rw [coarsenR_eq_iterate, coarsenR_eq_iterate, Function.iterate_succ_apply']

theorem coarsenT_succ' (l : Nat) : ∀ n, coarsenT (l + 1) n = coarsenT l n / 2 := fun n => by
  rw [coarsenT_eq_iterate, coarsenT_eq_iterate, Function.iterate_succ_apply']

theorem coarsenT_succ_le (l n : Nat) : coarsenT (l + 1) n ≤ coarsenT l n := by
  rw [coarsenT_succ']; omega

theorem coarsenR_succ_le (l n : Nat) : coarsenR (l + 1) n ≤ coarsenR l n ∨ coarsenR l n = 0 := by
  rw [coarsenR_succ']; omega

theorem coarsenT_antitone (n : Nat) {l l' : Nat} (h : l ≤ l') : coarsenT l' n ≤ coarsenT l n := by
  induction h with
  | refl => exact Nat.le_refl _
  | step _ ih => exact Nat.le_trans (coarsenT_succ_le _ n) ih

theorem coarsenR_antitone (n : Nat) (hn : 1 ≤ n) {l l' : Nat} (h : l ≤ l') :
    coarsenR l' n ≤ coarsenR l n ∧ 1 ≤ coarsenR l' n := by
  have pos : ∀ k, 1 ≤ coarsenR k n := by
    intro k
    induction k with
    | zero => exact hn
    | succ k ih => rw [coarsenR_succ']; omega
  refine ⟨?_, pos _⟩
  induction h with
  | refl => exact Nat.le_refl _
  | step _ ih =>
    refine Nat.le_trans ?_ ih
    rw [coarsenR_succ']
    have := pos ‹_›
    omega

theorem chain_sizes {nr nt : Nat} {maxLevels : Int} {L : Nat} (h : chooseLevels nr nt maxLevels = .ok L) :
    2 ≤ L ∧ ∀ l, l + 1 < L →
      coarsenR l nr % 2 = 1 ∧ 9 ≤ coarsenR l nr ∧ coarsenT l nt % 4 = 0 ∧ 8 ≤ coarsenT l nt ∧
      coarsenR (l + 1) nr = (coarsenR l nr + 1) / 2 ∧ coarsenT (l + 1) nt = coarsenT l nt / 2 ∧
      5 ≤ coarsenR (l + 1) nr ∧ 4 ≤ coarsenT (l + 1) nt ∧ coarsenT (l + 1) nt % 2 = 0 := by
  obtain ⟨h2, hr, ht⟩ := chooseLevels_ok h
  refine ⟨h2, fun l hl => ?_⟩
  obtain ⟨hR1, hR2⟩ := radialMax_spec nr nr L hr l hl
  obtain ⟨hT1, hT2⟩ := angularMax_spec nt nt L ht l hl
  have eR := coarsenR_succ' l nr
  have eT := coarsenT_succ' l nt
  refine ⟨hR1, by omega, hT1, by omega, eR, eT, hR2, hT2, by omega⟩

end GridGenL
