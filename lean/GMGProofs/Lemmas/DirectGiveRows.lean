import GMGProofs.Lemmas.DirectGiveNode
import GMGProofs.Lemmas.DirectLemmas
/-!
# Code-level direct solver (give) — the assembled rows in closed form, their dense meaning, the operator's entries

Slot `q` of row `(i, j)` holds the column of the node its position refers to (`slotCol`) and the sum of all values addressed to
it (`slotSum`), in whatever order the stores are executed.  The columns of a row in storage order are those the TAKE assembly
stores (`DirectCode.writes`), hence pairwise distinct (`4 ≤ nt`, `nt` even), so an entry of the assembled matrix is the sum of
the values of all stores with that row and that column.  The stores of one block all go to one row; each multiplied with `x`
at its column, they add up to the value the corresponding update of `applyAGive` (`Stencil.fillC …`) subtracts from that entry
of `result`.  Hence the stores of a node applied to `x` are the node's vector updates, and, summed over the sequential node
order (= over the grid, any `nc`), the assembled matrix has the operator's entries (through `give_eq_take'`, C03).
-/
namespace DirectGiveCode
open Stencil SparseLU DirectCode
variable {K : Type} [_root_.Field K]

section
variable (T : Tables) (o : Op K)

def slotCol (i j q : Nat) : Nat :=
  (posNode o (i, j) (slotPos o i q)).1 * o.nt + (posNode o (i, j) (slotPos o i q)).2

def slotSum (nc r q : Nat) : K :=
  ((allUpdates o nc).map fun u => if addr T o u = some (r, q) then val u else 0).sum

def finalRows (nc : Nat) : State K :=
  (List.range (o.nr * o.nt)).map fun r =>
    (List.range (rowSize o (r / o.nt))).map fun q => (slotCol o (r / o.nt) (r % o.nt) q, slotSum T o nc r q)

omit [_root_.Field K] in
theorem colIdx_of_addr (hT : GoodTables T) (hnr : 4 ≤ o.nr) (u : MUpd K) (hin : InB o u) (hc : Cons o u) {r q : Nat}
    (h : addr T o u = some (r, q)) : colIdx o u = slotCol o (r / o.nt) (r % o.nt) q := by
  obtain ⟨q', ha, _, hs⟩ := addr_valid T o hT hnr u hin
  obtain ⟨rfl, rfl⟩ := Prod.mk.inj (Option.some.inj (ha.symm.trans h))
  rw [rowIdx_div o hin.2.1, rowIdx_mod o hin.2.1]
  unfold slotCol colIdx
  rw [hs, ← hc]

/-- **the assembled rows do not depend on the order of the stores**: slot `q` of row `r` ends with the column its position
    refers to (every store into it writes that column, and there is one) and the total of the values addressed to it -/
theorem run_perm (hT : GoodTables T) (hnr : 4 ≤ o.nr) (hev : o.bc = false → o.nt % 2 = 0) (nc : Nat)
    (us : List (MUpd K)) (hp : us.Perm (allUpdates o nc)) :
    run (addr T o) (colIdx o) val (init o) us = some (finalRows T o nc) := by
  have hok := fun u hu => allUpdates_ok o hnr nc u (hp.mem_iff.mp hu)
  obtain ⟨rsf, h1, h2, h3, h4⟩ := run_init T o hT hnr us fun u hu => (hok u hu).1
  rw [h1, state_eq_tab rsf, h2]
  congr 1
  apply List.map_congr_left
  intro r hr
  have hr' : r < o.nr * o.nt := List.mem_range.mp hr
  rw [h3, if_pos hr']
  apply List.map_congr_left
  intro q hq
  rw [h4]
  apply Prod.ext
  · apply Scatter.cellFold_fst
    · exact fun u hu ha => colIdx_of_addr T o hT hnr u (hok u hu).1 ((hok u hu).2 hev) ha
    · have hpos : 0 < o.nt := Nat.pos_of_ne_zero fun h => by rw [h] at hr'; exact Nat.not_lt_zero _ hr'
      obtain ⟨u, hu, ha⟩ := hit_slot T o hT hnr nc (Nat.div_lt_of_lt_mul (by rwa [Nat.mul_comm]))
        (Nat.mod_lt r hpos) (List.mem_range.mp hq)
      rw [Nat.div_add_mod'] at ha
      exact .inl ⟨u, hp.mem_iff.mpr hu, ha⟩
  · rw [Scatter.cellFold_snd, Scalar.n_zero, zero_add]
    exact (hp.map _).sum_eq

theorem rows_closed (hT : GoodTables T) (hnr : 4 ≤ o.nr) (hev : o.bc = false → o.nt % 2 = 0) (nc : Nat) :
    rows T o nc = some (finalRows T o nc) := by
  rw [rows_eq_run T o nc (init o) (initRows_eq o hnr)]
  exact run_perm T o hT hnr hev nc _ (.refl _)

theorem finalRows_length (nc : Nat) : (finalRows T o nc).length = o.nr * o.nt := by simp [finalRows]

theorem finalRows_getD (nc : Nat) {i j : Nat} (hi : i < o.nr) (hj : j < o.nt) :
    (finalRows T o nc).getD (i * o.nt + j) [] =
      (List.range (rowSize o i)).map fun q => (slotCol o i j q, slotSum T o nc (i * o.nt + j) q) := by
  unfold finalRows
  rw [SparseLU.getD_map_range, if_pos (idx_lt hi hj), idx_div hj, idx_mod hj]

theorem range9 : List.range 9 = [0, 1, 2, 3, 4, 5, 6, 7, 8] := by decide
theorem range7 : List.range 7 = [0, 1, 2, 3, 4, 5, 6] := by decide
theorem range1 : List.range 1 = [0] := by decide

/-- **the give assembly stores, slot by slot, the columns the take assembly stores** -/
theorem slotCols_eq {i : Nat} (hi : i < o.nr) (j : Nat) :
    (List.range (rowSize o i)).map (slotCol o i j) = (nodes (writes o i j)).map fun c => c.1 * o.nt + c.2 := by
  by_cases hint : 0 < i ∧ i + 1 < o.nr
  · have h0 : i ≠ 0 := by omega
    rw [rowSize_int o hint, writes_int o j hint, range9]
    simp [slotCol, slotPos_int o hint, pos9, posNode, nodes, h0]
  · by_cases hz : i = 0
    · subst hz
      by_cases hb : o.bc = true
      · have h2 : ¬ ((0 : Nat) = 0 ∧ o.bc = false) := by rw [hb]; simp
        rw [rowSize_db o hint h2, writes_inner_db o j hb, range1]
        simp [slotCol, slotPos_db o hint h2, posNode, nodes]
      · have hb' : o.bc = false := by simpa using hb
        rw [rowSize_origin o hb', writes_origin o j hb', range7]
        simp [slotCol, slotPos_origin o hb', pos7, posNode, nodes]
    · have h2 : ¬ (i = 0 ∧ o.bc = false) := fun h => hz h.1
      rw [rowSize_db o hint h2, writes_outer o j (by omega) (by omega), range1]
      simp [slotCol, slotPos_db o hint h2, posNode, nodes]

theorem uniq_finalRow (hnt : 4 ≤ o.nt) (heven : o.nt % 2 = 0) (nc : Nat) {i j : Nat}
    (hi : i < o.nr) (hj : j < o.nt) :
    Uniq ((List.range (rowSize o i)).map fun q => (slotCol o i j q, slotSum T o nc (i * o.nt + j) q)) := by
  have hu := uniq_nodeRow o (writes o i j) (writes_nodes o hnt heven hi hj).1 (writes_nodes o hnt heven hi hj).2
  unfold Uniq keys at hu ⊢
  have e1 : ((List.range (rowSize o i)).map fun q => (slotCol o i j q, slotSum T o nc (i * o.nt + j) q)).map (·.1)
      = (List.range (rowSize o i)).map (slotCol o i j) := by
    rw [List.map_map]; rfl
  have e2 : (nodeRow o (writes o i j)).map (·.1) = (nodes (writes o i j)).map fun c => c.1 * o.nt + c.2 := by
    unfold nodeRow nodes
    rw [List.map_map, List.map_map]; rfl
  rw [e1, slotCols_eq o hi j, ← e2]
  exact hu

theorem toDense_give (hT : GoodTables T) (hnr : 4 ≤ o.nr) (hnt : 4 ≤ o.nt) (heven : o.nt % 2 = 0) (nc : Nat)
    (M : CSR K) (hM : assemble T o nc = some M) {i j : Nat} (hi : i < o.nr) (hj : j < o.nt) (k : Nat) :
    toDense M (i * o.nt + j) k
      = ((allUpdates o nc).map fun u => if rowIdx o u = i * o.nt + j ∧ colIdx o u = k then val u else 0).sum := by
  have hrows := rows_closed T o hT hnr (fun _ => heven) nc
  have hM' : M = csrRows (o.nr * o.nt) (o.nr * o.nt) (finalRows T o nc) := by
    unfold assemble at hM
    rw [hrows] at hM
    exact (Option.some.inj hM).symm
  subst hM'
  have hlen : i * o.nt + j < (finalRows T o nc).length := by
    rw [finalRows_length]; exact idx_lt hi hj
  have hrow := finalRows_getD T o nc hi hj
  have hU := uniq_finalRow T o hnt heven nc hi hj
  rw [toDense_csrRows _ _ _ _ hlen (by rw [hrow]; exact hU), hrow, den_eq_sum _ hU, List.map_map]
  have hok := allUpdates_ok o hnr nc
  refine (sum_slots_eq (addr T o) (colIdx o) val (i * o.nt + j) (rowSize o i) k (slotCol o i j) (allUpdates o nc) ?_).trans ?_
  · intro u hu
    obtain ⟨q, ha, hq, hs⟩ := addr_valid T o hT hnr u (hok u hu).1
    refine ⟨_, ha, fun hr => ?_⟩
    obtain ⟨hi', hj'⟩ := idx_inj (hok u hu).1.2.1 hj hr
    have := colIdx_of_addr T o hT hnr u (hok u hu).1 ((hok u hu).2 fun _ => heven) ha
    rw [rowIdx_div o (hok u hu).1.2.1, rowIdx_mod o (hok u hu).1.2.1, hi', hj'] at this
    exact ⟨hi' ▸ hq, this⟩
  · refine congrArg List.sum (List.map_congr_left fun u hu => ?_)
    obtain ⟨q, ha, _, _⟩ := addr_valid T o hT hnr u (hok u hu).1
    simp only [ha, Option.map_some, Option.some.injEq]

end

open Direct Finset

section
variable (o : Op K) (x : Stencil.Field K)

/-- what the stores of a list contribute to `(A x)(i, j)` -/
def contrib (i j : Nat) (l : List (MUpd K)) : K :=
  (l.map fun u => if (i, j) = u.1 then val u * x u.2.2.1.1 u.2.2.1.2 else 0).sum

theorem contrib_append (i j : Nat) (l l' : List (MUpd K)) :
    contrib x i j (l ++ l') = contrib x i j l + contrib x i j l' := by
  simp [contrib]

theorem contrib_nil (i j : Nat) : contrib x i j ([] : List (MUpd K)) = 0 := rfl

theorem h1_pos {a : Nat} (h : a ≠ 0) : SmootherCode.h1 o a = o.h (a - 1) := by
  unfold SmootherCode.h1; rw [if_neg h]

theorem h1_zero : SmootherCode.h1 o 0 = Scalar.n 2 * o.r0 := by
  unfold SmootherCode.h1; rw [if_pos rfl]

theorem contrib_block {l : List (MUpd K)} (r : Nat × Nat) {w : K} (hr : ∀ u ∈ l, u.1 = r)
    (hw : (l.map fun u => val u * x u.2.2.1.1 u.2.2.1.2).sum = w) (i j : Nat) :
    contrib x i j l = if i = r.1 ∧ j = r.2 then w else 0 := by
  split
  · next hc =>
    rw [← hw]
    refine congrArg List.sum (List.map_congr_left fun u hu => if_pos ?_)
    rw [hr u hu]
    exact Prod.ext hc.1 hc.2
  · next hc =>
    refine Scatter.total_eq_zero _ _ fun u hu hh => hc ?_
    rw [hr u hu] at hh
    exact Prod.mk.inj hh

/- the blocks, with the spacing `h1` of the giving node as `NODE_BUILD_SOLVER_MATRIX_GIVE` computes it -/

theorem blkC (a b : Nat) (l : Nat × Nat) (i j : Nat) : contrib x i j (fillC o a b l) =
    if i = a ∧ j = b then (Stencil.fillC o x a b (SmootherCode.h1 o a) l.1 l.2).v else 0 := by
  refine contrib_block x (a, b) (by simp [fillC]) ?_ i j
  simp only [fillC, List.map_cons, List.map_nil, List.sum_cons, List.sum_nil, val, Stencil.fillC, Stencil.coeffs, massValue,
    diagValue, SmootherCode.coeff1, SmootherCode.coeff2, SmootherCode.coeff3, SmootherCode.coeff4]
  ring

theorem blkL (a b i j : Nat) : contrib x i j (fillL o a b) =
    if i = a - 1 ∧ j = b then (Stencil.fillL o x a b (SmootherCode.h1 o a)).v else 0 := by
  refine contrib_block x (a - 1, b) (by simp [fillL]) ?_ i j
  simp only [fillL, List.map_cons, List.map_nil, List.sum_cons, List.sum_nil, val, Stencil.fillL, Stencil.coeffs,
    SmootherCode.coeff1]
  ring

theorem blkR (a b i j : Nat) : contrib x i j (fillR o a b) =
    if i = a + 1 ∧ j = b then (Stencil.fillR o x a b (SmootherCode.h1 o a)).v else 0 := by
  refine contrib_block x (a + 1, b) (by simp [fillR]) ?_ i j
  simp only [fillR, List.map_cons, List.map_nil, List.sum_cons, List.sum_nil, val, Stencil.fillR, Stencil.coeffs,
    SmootherCode.coeff2]
  ring

theorem blkB (a b i j : Nat) : contrib x i j (fillB o a b) =
    if i = a ∧ j = jm o b then (Stencil.fillB o x a b (SmootherCode.h1 o a)).v else 0 := by
  refine contrib_block x (a, jm o b) (by simp [fillB]) ?_ i j
  simp only [fillB, List.map_cons, List.map_nil, List.sum_cons, List.sum_nil, val, Stencil.fillB, Stencil.coeffs,
    SmootherCode.coeff3]
  ring

theorem blkT (a b i j : Nat) : contrib x i j (fillT o a b) =
    if i = a ∧ j = jp o b then (Stencil.fillT o x a b (SmootherCode.h1 o a)).v else 0 := by
  refine contrib_block x (a, jp o b) (by simp [fillT]) ?_ i j
  simp only [fillT, List.map_cons, List.map_nil, List.sum_cons, List.sum_nil, val, Stencil.fillT, Stencil.coeffs,
    SmootherCode.coeff4]
  ring

theorem blkLAcross (b i j : Nat) : contrib x i j (fillLAcross o b) =
    if i = 0 ∧ j = ja o b then (Stencil.fillLAcross o x b (SmootherCode.h1 o 0)).v else 0 := by
  refine contrib_block x (0, ja o b) (by simp [fillLAcross]) ?_ i j
  simp only [fillLAcross, List.map_cons, List.map_nil, List.sum_cons, List.sum_nil, val, Stencil.fillLAcross,
    Stencil.coeffs, SmootherCode.coeff1]
  ring

theorem blkBAcross (b i j : Nat) : contrib x i j (fillBAcross o b) =
    if i = 0 ∧ j = jm o b then (Stencil.fillBAcross o x b (SmootherCode.h1 o 0)).v else 0 := by
  refine contrib_block x (0, jm o b) (by simp [fillBAcross]) ?_ i j
  simp only [fillBAcross, List.map_cons, List.map_nil, List.sum_cons, List.sum_nil, val, Stencil.fillBAcross,
    Stencil.coeffs, SmootherCode.coeff3]
  ring

theorem blkTAcross (b i j : Nat) : contrib x i j (fillTAcross o b) =
    if i = 0 ∧ j = jp o b then (Stencil.fillTAcross o x b (SmootherCode.h1 o 0)).v else 0 := by
  refine contrib_block x (0, jp o b) (by simp [fillTAcross]) ?_ i j
  simp only [fillTAcross, List.map_cons, List.map_nil, List.sum_cons, List.sum_nil, val, Stencil.fillTAcross,
    Stencil.coeffs, SmootherCode.coeff4]
  ring

theorem blkD (a b i j : Nat) :
    contrib x i j (fillDirichlet (α := K) a b) = if i = a ∧ j = b then x a b else 0 := by
  refine contrib_block x (a, b) (by simp [fillDirichlet]) ?_ i j
  simp only [fillDirichlet, List.map_cons, List.map_nil, List.sum_cons, List.sum_nil, val, Scalar.n_one, one_mul, add_zero]

theorem giveNode_out {a : Nat} (b : Nat) (hnr : 4 ≤ o.nr) (h : o.nr ≤ a) : giveNode o x a b = [] := by
  unfold giveNode
  rw [if_neg (by omega), if_neg (by omega), if_neg (by omega), if_neg (by omega), if_neg (by omega)]

/-- **the matrix stores of a node, applied to `x`, are the node's vector updates**: block by block, once the spacing the
    vector code passes on is written as `h1` -/
theorem node_recv (hnr : 4 ≤ o.nr) (a b i j : Nat) :
    contrib x i j (nodeUpdates o a b) = recv (giveNode o x a b) i j := by
  rw [nodeUpdates_eq o hnr]
  rcases classes o hnr a with h | rfl | rfl | ⟨h1, h2⟩ | ⟨h1, h2⟩ | h
  · rw [giveNode_int o x b h, ← h1_pos o (by omega : a ≠ 0), posNode_left o b (by omega)]
    simp (disch := omega) only [if_pos, if_neg, contrib_append, contrib_nil, recv_mk, recv_nil, blkC, blkL, blkR, blkB, blkT]
    ring
  · cases hbc : o.bc
    · rw [giveNode_zero_across o x b (by simp [hbc]), ← h1_zero o]
      simp (disch := omega) only [posNode, if_pos, if_neg, if_true, Bool.false_eq_true, reduceCtorEq, and_false,
        and_true, false_or, and_self, implies_true, contrib_append, contrib_nil, recv_mk, recv_nil, blkC, blkLAcross, blkR,
        blkBAcross, blkTAcross]
      ring
    · rw [giveNode_zero_bc o x b hbc, fillR_h1 o x 0 b _ (SmootherCode.h1 o 0)]
      simp (disch := omega) only [if_pos, if_neg, if_true, if_false, reduceCtorEq, and_false, true_or, and_self,
        imp_false, not_true_eq_false, contrib_append, contrib_nil, recv_mk, recv_nil, blkD, blkR]
      ring
  · cases hbc : o.bc
    · rw [giveNode_one_across o x b (by simp [hbc]), ← h1_pos o (by omega : 1 ≠ 0), posNode_left o b (by omega)]
      simp (disch := omega) only [if_pos, if_neg, if_false, Bool.false_eq_true, reduceCtorEq, and_true, false_or,
        and_self, implies_true, contrib_append, contrib_nil, recv_mk, recv_nil, blkC, blkL, blkR, blkB, blkT]
      ring
    · rw [giveNode_one_bc o x b hbc, ← h1_pos o (by omega : 1 ≠ 0), posNode_left o b (by omega)]
      simp (disch := omega) only [if_pos, if_neg, if_false, reduceCtorEq, and_false, and_true, false_or, and_self,
        imp_false, not_true_eq_false, not_false_eq_true, contrib_append, contrib_nil, recv_mk, recv_nil, blkC, blkR, blkB, blkT]
      ring
  · rw [giveNode_penult o x b h1 h2, ← h1_pos o (by omega : a ≠ 0), posNode_left o b (by omega)]
    simp (disch := omega) only [if_pos, if_neg, contrib_append, contrib_nil, recv_mk, recv_nil, blkC, blkL, blkB, blkT]
    ring
  · rw [giveNode_last o x b h1 h2, ← h1_pos o (by omega : a ≠ 0)]
    simp (disch := omega) only [if_pos, if_neg, contrib_append, contrib_nil, recv_mk, recv_nil, blkD, blkL]
    ring
  · rw [giveNode_out o x b hnr h]
    simp (disch := omega) only [if_neg, contrib_append, contrib_nil, recv_nil, add_zero]

theorem nodeOrder_sum (nc : Nat) (G : Nat → Nat → K) (hG : ∀ a b, o.nr ≤ a → G a b = 0) :
    ((nodeOrder o nc).map fun p => G p.1 p.2).sum = ∑ a ∈ range o.nr, ∑ b ∈ range o.nt, G a b := by
  unfold nodeOrder
  rw [List.map_append, List.sum_append, sum_map_flatMap, sum_map_flatMap, list_range_sum, list_range_sum]
  have e1 : ∀ a, (((List.range o.nt).map fun b => (a, b)).map fun p => G p.1 p.2).sum = ∑ b ∈ range o.nt, G a b := by
    intro a; rw [List.map_map, list_range_sum]; rfl
  have e2 : ∀ b, (((List.range (o.nr - nc)).map fun t => (nc + t, b)).map fun p => G p.1 p.2).sum
      = ∑ t ∈ range (o.nr - nc), G (nc + t) b := by
    intro b; rw [List.map_map, list_range_sum]; rfl
  simp only [e1, e2]
  rw [Finset.sum_comm (s := range o.nt)]
  rcases Nat.le_total nc o.nr with h | h
  · have : o.nr = nc + (o.nr - nc) := by omega
    conv_rhs => rw [this, Finset.sum_range_add]
  · have h0 : o.nr - nc = 0 := by omega
    rw [h0, Finset.range_zero, Finset.sum_empty, add_zero]
    have : nc = o.nr + (nc - o.nr) := by omega
    rw [this, Finset.sum_range_add]
    have hz : ∑ t ∈ range (nc - o.nr), ∑ b ∈ range o.nt, G (o.nr + t) b = 0 := by
      apply Finset.sum_eq_zero; intro t _
      apply Finset.sum_eq_zero; intro b _
      exact hG _ _ (by omega)
    rw [hz, add_zero]

end

section
variable (T : Tables) (o : Op K)

/-- **the matrix assembled by the scatter code has exactly the operator's entries** -/
theorem give_entries (hT : GoodTables T) (hnr : 4 ≤ o.nr) (hnt : 4 ≤ o.nt) (heven : o.nt % 2 = 0)
    (hk : o.bc = false → ∀ j, j < o.nt → o.k (ja o j) = o.k j) (nc : Nat)
    (M : CSR K) (hM : assemble T o nc = some M) {i j s t : Nat} (hi : i < o.nr) (hj : j < o.nt) (ht : t < o.nt) :
    toDense M (i * o.nt + j) (s * o.nt + t) = opEntry o i j s t := by
  rw [toDense_give T o hT hnr hnt heven nc M hM hi hj]
  -- every store as a contribution to `(A x)(i, j)` with `x` the unit field of `(s, t)`
  have step1 : ((allUpdates o nc).map fun u =>
        if rowIdx o u = i * o.nt + j ∧ colIdx o u = s * o.nt + t then val u else 0).sum
      = contrib (oneHot s t) i j (allUpdates o nc) := by
    refine congrArg List.sum (List.map_congr_left fun u hu => ?_)
    obtain ⟨hin, hc⟩ := allUpdates_ok o hnr nc u hu
    unfold oneHot
    rw [mul_ite, mul_one, mul_zero, ← ite_and]
    exact if_congr (and_congr ((idx_eq_iff hin.2.1 hj).trans ⟨fun h => Prod.ext h.1.symm h.2.symm, fun h => h ▸ ⟨rfl, rfl⟩⟩)
      (idx_eq_iff (hc (fun _ => heven) ▸ posNode_snd_lt o hin.2.1 _) ht)) rfl rfl
  -- node by node, then scatter = gather
  rw [step1, contrib, allUpdates, sum_map_flatMap]
  refine (nodeOrder_sum o nc (fun a b => contrib (oneHot s t) i j (nodeUpdates o a b)) fun a b ha => by
    rw [node_recv o _ hnr, giveNode_out o _ b hnr ha]; rfl).trans ?_
  simp only [node_recv o (oneHot s t) hnr]
  have hg := give_eq_sum o (fun _ _ => (0 : K)) (oneHot s t) i j
  rw [give_eq_take' o (fun _ _ => 0) (oneHot s t) hnr (by omega) heven hk i j hi hj] at hg
  unfold opEntry A
  rw [hg]
  ring

end
end DirectGiveCode
