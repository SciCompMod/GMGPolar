import GMGModel.Stencil
import GMGProofs.Lemmas.FieldScalar
import GMGProofs.Lemmas.Scatter
import Mathlib.Algebra.BigOperators.Group.Finset.Basic
import Mathlib.Algebra.BigOperators.Intervals
import Mathlib.Algebra.BigOperators.Ring.Finset
import Mathlib.Tactic.Ring
/-!
# Rows of `take`, periodic indices, single-giver sums, and the scatter fold

Folding `applyUpd` over any list subtracts, at every target, the sum of the values addressed to it (`recv`), so
`give o f x a b = f a b - Σ_{i<nr} Σ_{j<nt} recv (giveNode o x i j) a b`.  `jp`, `jm` are mutually inverse on `range nt` and
`ja` is an involution for even `nt`, so in each direction a target has one giver (`sum_ite_of_inv`).
-/
namespace Stencil
open Finset
variable {K : Type} [_root_.Field K]

theorem half_eq : (half : K) = 1 / 2 := by simp [half]
theorem quarter_eq : (quarter : K) = 1 / 4 := by simp [quarter]

theorem four_ne_zero_of_two (h2 : (2 : K) ≠ 0) : (4 : K) ≠ 0 := by
  rw [show (4 : K) = 2 * 2 by ring]; exact mul_ne_zero h2 h2

theorem quarter_ne_zero (h2 : (2 : K) ≠ 0) : (quarter : K) ≠ 0 := by
  rw [quarter_eq]; exact one_div_ne_zero (four_ne_zero_of_two h2)

omit [_root_.Field K] in
/-- with a Dirichlet inner boundary every hypothesis on the across-the-origin mode is void -/
theorem not_across {o : Op K} {P : Prop} (hbc : o.bc = true) (h : o.bc = false) : P :=
  Bool.noConfusion (hbc.symm.trans h)

/-! ### row-major numbering of the nodes: `(p, q) ↦ p * nt + q` with `q < nt` -/

theorem idx_lt {nr nt p q : Nat} (hp : p < nr) (hq : q < nt) : p * nt + q < nr * nt :=
  calc p * nt + q < (p + 1) * nt := by rw [Nat.succ_mul]; omega
    _ ≤ nr * nt := Nat.mul_le_mul_right _ hp

theorem idx_div {nt p q : Nat} (hq : q < nt) : (p * nt + q) / nt = p := by
  rw [Nat.mul_comm, Nat.mul_add_div (by omega), Nat.div_eq_of_lt hq, Nat.add_zero]

theorem idx_mod {nt p q : Nat} (hq : q < nt) : (p * nt + q) % nt = q := by
  rw [Nat.mul_comm, Nat.mul_add_mod, Nat.mod_eq_of_lt hq]

theorem idx_inj {nt p q p' q' : Nat} (hq : q < nt) (hq' : q' < nt) (h : p * nt + q = p' * nt + q') : p = p' ∧ q = q' :=
  ⟨(idx_div hq).symm.trans (h ▸ idx_div hq'), (idx_mod hq).symm.trans (h ▸ idx_mod hq')⟩

theorem idx_decomp {nr nt k : Nat} (hk : k < nr * nt) : k / nt < nr ∧ k % nt < nt :=
  have hnt : 0 < nt := Nat.pos_of_ne_zero fun h => by rw [h, Nat.mul_zero] at hk; omega
  ⟨Nat.div_lt_of_lt_mul (Nat.mul_comm nr nt ▸ hk), Nat.mod_lt _ hnt⟩

/-! ### the rows of the gather form -/
section rows
variable (o : Op K) (f x : Field K)

theorem take_interior {i : Nat} (j : Nat) (h0 : 0 < i) (h1 : i + 1 < o.nr) :
    take o f x i j = takeInterior o f x i j := if_pos ⟨h0, h1⟩

theorem take_origin (hbc : o.bc = false) (j : Nat) : take o f x 0 j = takeOrigin o f x j := by
  unfold take; rw [if_neg (by omega), if_pos rfl, hbc]; rfl

theorem take_zero_dirichlet (hbc : o.bc = true) (j : Nat) : take o f x 0 j = f 0 j - x 0 j := by
  unfold take; rw [if_neg (by omega), if_pos rfl, if_pos hbc]

theorem take_outer {i : Nat} (j : Nat) (h0 : 0 < i) (h1 : o.nr ≤ i + 1) : take o f x i j = f i j - x i j := by
  unfold take; rw [if_neg (by omega), if_neg (by omega)]

/-- every row has the form `f i j - (a row of x)` -/
theorem take_sub (g : Field K) (i j : Nat) : take o f x i j - take o g x i j = f i j - g i j := by
  rcases Nat.eq_zero_or_pos i with rfl | h0
  · cases hbc : o.bc
    · rw [take_origin o f x hbc, take_origin o g x hbc]; exact sub_sub_sub_cancel_right _ _ _
    · rw [take_zero_dirichlet o f x hbc, take_zero_dirichlet o g x hbc]; exact sub_sub_sub_cancel_right _ _ _
  · by_cases h1 : i + 1 < o.nr
    · rw [take_interior o f x j h0 h1, take_interior o g x j h0 h1]; exact sub_sub_sub_cancel_right _ _ _
    · rw [take_outer o f x j h0 (by omega), take_outer o g x j h0 (by omega)]; exact sub_sub_sub_cancel_right _ _ _

end rows

/-! ### periodic successor / predecessor / antipode -/
section idx
variable (o : Op K)
omit [_root_.Field K]

theorem jp_lt (hn : 0 < o.nt) (j : Nat) : jp o j < o.nt := Nat.mod_lt _ hn
theorem jm_lt (hn : 0 < o.nt) (j : Nat) : jm o j < o.nt := Nat.mod_lt _ hn
theorem ja_lt (hn : 0 < o.nt) (j : Nat) : ja o j < o.nt := Nat.mod_lt _ hn

theorem jp_eq {j : Nat} (hj : j < o.nt) : jp o j = if j + 1 = o.nt then 0 else j + 1 := by
  unfold jp; split
  · rename_i h; rw [h]; exact Nat.mod_self _
  · exact Nat.mod_eq_of_lt (by omega)

theorem jm_eq {j : Nat} (hj : j < o.nt) : jm o j = if j = 0 then o.nt - 1 else j - 1 := by
  unfold jm; split
  · rename_i h; subst h; rw [Nat.zero_add]; exact Nat.mod_eq_of_lt (by omega)
  · have : j + o.nt - 1 = (j - 1) + o.nt := by omega
    rw [this, Nat.add_mod_right]; exact Nat.mod_eq_of_lt (by omega)

theorem ja_eq (heven : o.nt % 2 = 0) {j : Nat} (hj : j < o.nt) :
    ja o j = if j < o.nt / 2 then j + o.nt / 2 else j - o.nt / 2 := by
  unfold ja; split
  · exact Nat.mod_eq_of_lt (by omega)
  · have : j + o.nt / 2 = (j - o.nt / 2) + o.nt := by omega
    rw [this, Nat.add_mod_right]; exact Nat.mod_eq_of_lt (by omega)

theorem jm_ne_self (hnt : 2 ≤ o.nt) (j : Nat) : jm o j ≠ j := by
  by_cases hj : j < o.nt
  · rw [jm_eq o hj]; split <;> omega
  · have := jm_lt o (by omega : 0 < o.nt) j; omega

theorem jp_ne_self (hnt : 2 ≤ o.nt) (j : Nat) : jp o j ≠ j := by
  by_cases hj : j < o.nt
  · rw [jp_eq o hj]; split <;> omega
  · have := jp_lt o (by omega : 0 < o.nt) j; omega

theorem jm_parity (heven : o.nt % 2 = 0) {j : Nat} (hj : j < o.nt) : jm o j % 2 = (j + 1) % 2 := by
  rw [jm_eq o hj]; split <;> omega

theorem jp_parity (heven : o.nt % 2 = 0) {j : Nat} (hj : j < o.nt) : jp o j % 2 = (j + 1) % 2 := by
  rw [jp_eq o hj]; split <;> omega

theorem jp_jm {j : Nat} (hj : j < o.nt) : jp o (jm o j) = j := by
  unfold jp jm
  rw [Nat.mod_add_mod, show j + o.nt - 1 + 1 = j + o.nt by omega, Nat.add_mod_right, Nat.mod_eq_of_lt hj]

theorem jm_jp {j : Nat} (hj : j < o.nt) : jm o (jp o j) = j := by
  unfold jp jm
  rw [Nat.add_sub_assoc (by omega), Nat.mod_add_mod, show j + 1 + (o.nt - 1) = j + o.nt by omega, Nat.add_mod_right,
    Nat.mod_eq_of_lt hj]

theorem ja_ja (heven : o.nt % 2 = 0) {j : Nat} (hj : j < o.nt) : ja o (ja o j) = j := by
  unfold ja
  rw [Nat.mod_add_mod, show j + o.nt / 2 + o.nt / 2 = j + o.nt by omega, Nat.add_mod_right, Nat.mod_eq_of_lt hj]

/-- the antipode commutes with the predecessor: both add a constant modulo `nt` -/
theorem jm_ja (hnt : 2 ≤ o.nt) (_heven : o.nt % 2 = 0) {j : Nat} (_hj : j < o.nt) :
    jm o (ja o j) = ja o (jm o j) := by
  unfold jm ja
  rw [Nat.add_sub_assoc (by omega), Nat.add_sub_assoc (by omega), Nat.mod_add_mod, Nat.mod_add_mod,
    Nat.add_right_comm]

end idx

theorem sum_ite_of_inv (n t : Nat) (φ ψ : Nat → Nat) (hψ : ψ t < n)
    (h1 : φ (ψ t) = t) (h2 : ∀ s, s < n → ψ (φ s) = s) (v : Nat → K) :
    ∑ s ∈ range n, (if t = φ s then v s else 0) = v (ψ t) := by
  rw [Finset.sum_eq_single (ψ t)]
  · rw [if_pos h1.symm]
  · intro s hs hne
    rw [if_neg]
    intro h; apply hne; rw [h, h2 s (by simpa using hs)]
  · intro h; exact absurd (by simpa using hψ) h

section sums
variable (o : Op K)

theorem sum_ite_jp {t : Nat} (ht : t < o.nt) (v : Nat → K) :
    ∑ s ∈ range o.nt, (if t = jp o s then v s else 0) = v (jm o t) :=
  sum_ite_of_inv o.nt t (jp o) (jm o) (jm_lt o (by omega) t) (jp_jm o ht) (fun _ hs => jm_jp o hs) v

theorem sum_ite_jm {t : Nat} (ht : t < o.nt) (v : Nat → K) :
    ∑ s ∈ range o.nt, (if t = jm o s then v s else 0) = v (jp o t) :=
  sum_ite_of_inv o.nt t (jm o) (jp o) (jp_lt o (by omega) t) (jm_jp o ht) (fun _ hs => jp_jm o hs) v

theorem sum_ite_ja (heven : o.nt % 2 = 0) {t : Nat} (ht : t < o.nt) (v : Nat → K) :
    ∑ s ∈ range o.nt, (if t = ja o s then v s else 0) = v (ja o t) :=
  sum_ite_of_inv o.nt t (ja o) (ja o) (ja_lt o (by omega) t) (ja_ja o heven ht)
    (fun _ hs => ja_ja o heven hs) v

theorem sum_ite_self {n t : Nat} (ht : t < n) (v : Nat → K) :
    ∑ s ∈ range n, (if t = s then v s else 0) = v t := by
  rw [Finset.sum_ite_eq (range n) t v, if_pos (by simpa using ht)]

end sums

theorem sum_row (nr nt r : Nat) (Q : Nat → Prop) [DecidablePred Q] (g : Nat → Nat → K) :
    ∑ i ∈ range nr, ∑ j ∈ range nt, (if r = i ∧ Q j then g i j else 0)
      = if r < nr then ∑ j ∈ range nt, (if Q j then g r j else 0) else 0 := by
  simp only [ite_and, Finset.sum_ite_irrel, Finset.sum_const_zero, Finset.sum_ite_eq, mem_range]

theorem sum_row_succ (nr nt a : Nat) (ha : a ≤ nr) (Q : Nat → Prop) [DecidablePred Q] (g : Nat → Nat → K) :
    ∑ i ∈ range nr, ∑ j ∈ range nt, (if a = i + 1 ∧ Q j then g i j else 0)
      = if 0 < a then ∑ j ∈ range nt, (if Q j then g (a - 1) j else 0) else 0 := by
  cases a with
  | zero => simp
  | succ a' =>
    have := sum_row nr nt a' Q g
    simp only [Nat.add_right_cancel_iff, Nat.add_sub_cancel, Nat.zero_lt_succ, if_true]
    rw [this, if_pos (by omega)]

theorem sum_row_pred (nr nt a : Nat) (Q : Nat → Prop) [DecidablePred Q] (g : Nat → Nat → K) (hg : ∀ j, g 0 j = 0) :
    ∑ i ∈ range nr, ∑ j ∈ range nt, (if a = i - 1 ∧ Q j then g i j else 0)
      = if a + 1 < nr then ∑ j ∈ range nt, (if Q j then g (a + 1) j else 0) else 0 := by
  rw [← sum_row nr nt (a + 1) Q g]
  refine Finset.sum_congr rfl fun i _ => Finset.sum_congr rfl fun j _ => ?_
  cases i with
  | zero => rw [hg, ite_self, ite_self]
  | succ i => exact if_congr (and_congr (by omega) Iff.rfl) rfl rfl

theorem sum_grid_congr {nr nt : Nat} {F G : Nat → Nat → K} (h : ∀ i, i < nr → ∀ j, j < nt → F i j = G i j) :
    ∑ i ∈ range nr, ∑ j ∈ range nt, F i j = ∑ i ∈ range nr, ∑ j ∈ range nt, G i j :=
  Finset.sum_congr rfl fun i hi => Finset.sum_congr rfl fun j hj => h i (mem_range.mp hi) j (mem_range.mp hj)

theorem sum_grid_comm (s t u v : Finset Nat) (G : Nat → Nat → Nat → Nat → K) :
    ∑ a ∈ s, ∑ b ∈ t, ∑ i ∈ u, ∑ j ∈ v, G a b i j = ∑ i ∈ u, ∑ j ∈ v, ∑ a ∈ s, ∑ b ∈ t, G a b i j := by
  calc ∑ a ∈ s, ∑ b ∈ t, ∑ i ∈ u, ∑ j ∈ v, G a b i j
      = ∑ a ∈ s, ∑ i ∈ u, ∑ b ∈ t, ∑ j ∈ v, G a b i j :=
        Finset.sum_congr rfl (fun a _ => Finset.sum_comm)
    _ = ∑ i ∈ u, ∑ a ∈ s, ∑ b ∈ t, ∑ j ∈ v, G a b i j := Finset.sum_comm
    _ = ∑ i ∈ u, ∑ a ∈ s, ∑ j ∈ v, ∑ b ∈ t, G a b i j :=
        Finset.sum_congr rfl (fun i _ => Finset.sum_congr rfl (fun a _ => Finset.sum_comm))
    _ = ∑ i ∈ u, ∑ j ∈ v, ∑ a ∈ s, ∑ b ∈ t, G a b i j :=
        Finset.sum_congr rfl (fun i _ => Finset.sum_comm)

theorem sum_pick' (nr nt r c : Nat) (g : Nat → Nat → K) :
    ∑ a ∈ range nr, ∑ b ∈ range nt, (if a = r ∧ b = c then g a b else 0) = if r < nr ∧ c < nt then g r c else 0 := by
  simp only [ite_and, Finset.sum_ite_irrel, Finset.sum_const_zero, Finset.sum_ite_eq', mem_range]

theorem sum_pick (nr nt r c : Nat) (hr : r < nr) (hc : c < nt) (g : Nat → Nat → K) :
    ∑ a ∈ range nr, ∑ b ∈ range nt, (if a = r ∧ b = c then g a b else 0) = g r c := by
  rw [sum_pick', if_pos ⟨hr, hc⟩]

/-! ### the scatter fold -/

/-- total value the updates of `l` address to target `(a, b)`: `Scatter.total` of the updates that hit `(a, b)` -/
def recv (l : List (Upd K)) (a b : Nat) : K :=
  (l.map fun u => if a = u.ti ∧ b = u.tj then u.v else 0).sum

@[simp] theorem recv_nil (a b : Nat) : recv ([] : List (Upd K)) a b = 0 := rfl
@[simp] theorem recv_cons (u : Upd K) (l : List (Upd K)) (a b : Nat) :
    recv (u :: l) a b = (if a = u.ti ∧ b = u.tj then u.v else 0) + recv l a b :=
  Scatter.total_cons (fun u : Upd K => a = u.ti ∧ b = u.tj) (·.v) u l
theorem recv_mk (ti tj : Nat) (v : K) (l : List (Upd K)) (a b : Nat) :
    recv (⟨ti, tj, v⟩ :: l) a b = (if a = ti ∧ b = tj then v else 0) + recv l a b :=
  recv_cons _ _ _ _
theorem recv_append (l l' : List (Upd K)) (a b : Nat) :
    recv (l ++ l') a b = recv l a b + recv l' a b :=
  Scatter.total_append (fun u : Upd K => a = u.ti ∧ b = u.tj) (·.v) l l'

/-- `fold_scatter`: the fold subtracts at each target exactly what was addressed to it -/
theorem foldl_applyUpd (l : List (Upd K)) (f : Field K) (a b : Nat) :
    (l.foldl applyUpd f) a b = f a b - recv l a b := by
  induction l generalizing f with
  | nil => simp
  | cons u l ih =>
    rw [List.foldl_cons, ih, recv_cons]
    unfold applyUpd
    split <;> ring

theorem list_range_sum (n : Nat) (g : Nat → K) :
    ((List.range n).map g).sum = ∑ i ∈ range n, g i := by
  induction n with
  | zero => simp
  | succ n ih => simp [List.range_succ, Finset.sum_range_succ, ih]

theorem sum_map_flatMap {β γ : Type} (l : List β) (g : β → List γ) (h : γ → K) :
    ((l.flatMap g).map h).sum = (l.map fun i => ((g i).map h).sum).sum := by
  induction l with
  | nil => simp
  | cons p l ih => simp [List.flatMap_cons, ih]

theorem recv_flatMap {β : Type} (l : List β) (g : β → List (Upd K)) (a b : Nat) :
    recv (l.flatMap g) a b = (l.map fun p => recv (g p) a b).sum :=
  Scatter.total_flatMap (fun u : Upd K => a = u.ti ∧ b = u.tj) (·.v) l g

theorem give_eq_sum (o : Op K) (f x : Field K) (a b : Nat) :
    give o f x a b = f a b - ∑ i ∈ range o.nr, ∑ j ∈ range o.nt, recv (giveNode o x i j) a b := by
  unfold give
  rw [foldl_applyUpd, recv_flatMap]
  congr 1
  unfold allNodes
  rw [sum_map_flatMap, list_range_sum]
  apply Finset.sum_congr rfl
  intro i _
  rw [List.map_map, list_range_sum]
  rfl

end Stencil
