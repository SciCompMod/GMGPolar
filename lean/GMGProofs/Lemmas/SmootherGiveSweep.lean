import GMGProofs.Lemmas.SmootherGiveArrays
import GMGProofs.Lemmas.SmootherGiveKernels
/-!
# The four phases of `smoothingSequential` (give) against `SmootherCode.sweep`

`rhs - A_sc^ortho x` of a line reads the iterate only off that line's colour, so the line solves of one colour are compared
give against take one after the other (`GiveCommon.fold_sim`; same matrices by `circleSolver_eq`, `radialSolver_eq`,
`innerCSR_eq`).  The give sweep returns the iterate of the take sweep, or both take the sparse LU's exit.
-/
namespace SmootherGiveCode
open Stencil SmootherCode Finset GiveCommon
variable {K : Type} [_root_.Field K]

section
variable (o : Op K) (nc : Nat)

theorem orthoCircle_congr (f u u' : Stencil.Field K) (i j : Nat) (hj : j < o.nt)
    (h : ∀ a b, (a + 1 = i ∨ a = i + 1) → b < o.nt → u a b = u' a b) :
    orthoCircle o nc f u i j = orthoCircle o nc f u' i j := by
  have hm := jm_lt o (by omega) j
  have hp := jp_lt o (by omega) j
  unfold orthoCircle diagTerms
  by_cases h1 : 0 < i ∧ i < nc
  · have e1 := fun b hb => h (i - 1) b (Or.inl (by omega)) hb
    have e2 := fun b hb => h (i + 1) b (Or.inr rfl) hb
    simp only [if_pos h1, e1 _ hj, e2 _ hj, e1 _ hm, e2 _ hm, e1 _ hp, e2 _ hp]
  · by_cases h0 : i = 0
    · subst h0
      have e2 := fun b hb => h 1 b (Or.inr rfl) hb
      simp only [if_neg h1, if_true, e2 _ hj, e2 _ hm, e2 _ hp]
    · simp only [if_neg h1, if_neg h0]

theorem orthoRadial_congr (hnc : 1 ≤ nc) (hnr : nc + 3 ≤ o.nr) (f u u' : Stencil.Field K) (i j : Nat) (hi : nc ≤ i)
    (h : ∀ a b, a < o.nr → (b = jm o j ∨ b = jp o j) → u a b = u' a b)
    (h' : u (nc - 1) j = u' (nc - 1) j) :
    orthoRadial o nc f u i j = orthoRadial o nc f u' i j := by
  unfold orthoRadial diagTerms
  by_cases h1 : nc < i ∧ i + 2 < o.nr
  · simp only [if_pos h1, h (i - 1) _ (by omega) (Or.inl rfl), h (i - 1) _ (by omega) (Or.inr rfl),
      h i _ (by omega) (Or.inl rfl), h i _ (by omega) (Or.inr rfl), h (i + 1) _ (by omega) (Or.inl rfl),
      h (i + 1) _ (by omega) (Or.inr rfl)]
  · by_cases h2 : i = nc
    · subst h2
      simp only [if_neg h1, if_true, h (i - 1) _ (by omega) (Or.inl rfl), h (i - 1) _ (by omega) (Or.inr rfl),
        h i _ (by omega) (Or.inl rfl), h i _ (by omega) (Or.inr rfl), h (i + 1) _ (by omega) (Or.inl rfl),
        h (i + 1) _ (by omega) (Or.inr rfl), h']
    · by_cases h3 : i + 2 = o.nr
      · simp only [if_neg h1, if_neg h2, if_pos h3, h (i - 1) _ (by omega) (Or.inl rfl), h (i - 1) _ (by omega) (Or.inr rfl),
          h i _ (by omega) (Or.inl rfl), h i _ (by omega) (Or.inr rfl), h (i + 1) _ (by omega) (Or.inl rfl),
          h (i + 1) _ (by omega) (Or.inr rfl)]
      · simp only [if_neg h1, if_neg h2, if_neg h3]

/-! ### the line solves of one colour -/

/-- the solve inside `circleSolveStep`, on the slice of `temp` -/
def circleSolveG (tiny : K → Bool) (tg : Array K) (i : Nat) : Option (List K) :=
  if i = 0 then SparseLU.solve tiny (SparseLU.factorRows (innerCSROf (allUpdates o nc) o.bc o.nt)) (circleSeg o.nt tg i)
  else some (Tridiag.solve (circleSolverOf (allUpdates o nc) o.nt i) (circleSeg o.nt tg i)).2

/-- the solve inside `radialSolveStep` -/
def radialSolveG (tg : Array K) (j : Nat) : List K :=
  (Tridiag.solve (radialSolverOf (allUpdates o nc) (o.nr - nc) j) (radialSeg o.nr o.nt nc tg j)).2

theorem circleSolveG_eq (hnc : 2 ≤ nc) (hnr : nc + 3 ≤ o.nr) (hnt : 3 ≤ o.nt) (heven : o.nt % 2 = 0)
    (hk : o.bc = false → ∀ j, j < o.nt → o.k (ja o j) = o.k j) (tiny : K → Bool) (f : Stencil.Field K)
    (a tg : Array K) (i : Nat) (hi : i < nc)
    (hT : ∀ q, q < o.nt → fld o.nt tg i q = orthoCircle o nc f (fld o.nt a) i q) :
    circleSolveG o nc tiny tg i = solveCircle o tiny nc f (fld o.nt a) i := by
  have hseg : circleSeg o.nt tg i = circleTemp o nc f (fld o.nt a) i :=
    List.map_congr_left fun q hq => hT q (List.mem_range.mp hq)
  unfold circleSolveG solveCircle
  rw [hseg]
  by_cases h0 : i = 0
  · rw [if_pos h0, if_pos h0, ← innerCSR_eq o nc hnc hnr hnt heven hk, h0]
    rfl
  · rw [if_neg h0, if_neg h0, circleSolver_eq o nc hnc hnr hnt i (by omega) hi]

theorem radialSolveG_eq (hnc : 2 ≤ nc) (hnr : nc + 3 ≤ o.nr) (f : Stencil.Field K)
    (a tg : Array K) (j : Nat) (hj : j < o.nt)
    (hT : ∀ s, s < o.nr - nc → fld o.nt tg (nc + s) j = orthoRadial o nc f (fld o.nt a) (nc + s) j) :
    radialSolveG o nc tg j = solveRadial o nc f (fld o.nt a) j := by
  have hseg : radialSeg o.nr o.nt nc tg j = radialTemp o nc f (fld o.nt a) j :=
    List.map_congr_left fun s hs => hT s (List.mem_range.mp hs)
  unfold radialSolveG solveRadial
  rw [hseg, radialSolver_eq o nc hnc hnr j hj]

/-- both arrays of the sweep state have the size of the grid -/
def Sized (a tg : Array K) : Prop := a.size = o.nr * o.nt ∧ tg.size = o.nr * o.nt

/-- **the circle solves of one colour**: if every circle of `l` finds `rhs - A_sc^ortho x` of the current iterate in its
    slice of `temp`, the give solves update the iterate exactly as `SmootherCode.circleStep` does and leave `temp` off the
    solved circles alone (circles of one colour do not read each other) -/
theorem circle_fold (hnc : 2 ≤ nc) (hnr : nc + 3 ≤ o.nr) (hnt : 3 ≤ o.nt) (heven : o.nt % 2 = 0)
    (hk : o.bc = false → ∀ j, j < o.nt → o.k (ja o j) = o.k j) (tiny : K → Bool) (f : Stencil.Field K)
    (l : List Nat) (hp : l.Pairwise Apart) (hl : ∀ i ∈ l, i < nc) (a tg : Array K) (hs : Sized o a tg)
    (hT : ∀ i ∈ l, ∀ q, q < o.nt → fld o.nt tg i q = orthoCircle o nc f (fld o.nt a) i q) :
    Sim (fld o.nt) (fld o.nt) (writeCircle o.nt) (writeCircle o.nt) (circleSolveG o nc tiny) (solveCircle o tiny nc f)
      (Sized o) (fun i p _ => p = i) (fun p q => p < o.nr ∧ q < o.nt) l a tg :=
  fold_sim _ _ _ _ _ _ _ _ _
    (fun tg a i => i < nc ∧ ∀ q, q < o.nt → fld o.nt tg i q = orthoCircle o nc f (fld o.nt a) i q) Apart
    (fun tg a i _ h => circleSolveG_eq o nc hnc hnr hnt heven hk tiny f a tg i h.1 h.2)
    (fun a tg i v hg => ⟨(size_writeCircle ..).trans hg.1, (size_writeCircle ..).trans hg.2⟩)
    (fun a tg i v p q hg hr hpi => by
      rw [fld_writeCircle o.nr o.nt tg hg.2 i v p q hr.1 hr.2, fld_writeCircle o.nr o.nt a hg.1 i v p q hr.1 hr.2,
        if_neg hpi, if_neg hpi]
      exact ⟨rfl, rfl⟩)
    (fun a tg i v i' hg hok h => ⟨h.1, fun q hq => by
      rw [fld_writeCircle o.nr o.nt tg hg.2 i v i' q (by omega) hq, if_neg (Ne.symm hok.1), h.2 q hq]
      refine orthoCircle_congr o nc f _ _ i' q hq fun c d hc hd => ?_
      rw [fld_writeCircle o.nr o.nt a hg.1 i v c d (by omega) hd, if_neg (by have := hok.2; omega)]⟩)
    l hp a tg hs fun i hi => ⟨hl i hi, hT i hi⟩

/-- **the radial solves of one colour** (`nt` even: lines of one colour do not read each other) -/
theorem radial_fold (hnc : 2 ≤ nc) (hnr : nc + 3 ≤ o.nr) (hnt : 3 ≤ o.nt) (f : Stencil.Field K)
    (l : List Nat) (hp : l.Pairwise (ApartAng o)) (hl : ∀ j ∈ l, j < o.nt) (a tg : Array K) (hs : Sized o a tg)
    (hT : ∀ j ∈ l, ∀ s, s < o.nr - nc → fld o.nt tg (nc + s) j = orthoRadial o nc f (fld o.nt a) (nc + s) j) :
    ∃ tg', l.foldl (radialSolveStep o nc (allUpdates o nc)) (a, tg) = (l.foldl (radialStep o nc f) a, tg') ∧
      Sized o (l.foldl (radialStep o nc f) a) tg' ∧
      ∀ p q, p < o.nr ∧ q < o.nt → (∀ j ∈ l, ¬ (nc ≤ p ∧ q = j)) →
        fld o.nt tg' p q = fld o.nt tg p q ∧ fld o.nt (l.foldl (radialStep o nc f) a) p q = fld o.nt a p q :=
  Sim.total (fld o.nt) (fld o.nt) (writeRadial o.nt nc) (writeRadial o.nt nc) (sG := radialSolveG o nc)
    (sT := solveRadial o nc f) <| fold_sim _ _ _ _ _ _ _ _ _
    (fun tg a j => j < o.nt ∧
      ∀ s, s < o.nr - nc → fld o.nt tg (nc + s) j = orthoRadial o nc f (fld o.nt a) (nc + s) j) (ApartAng o)
    (fun tg a j _ h => congrArg some (radialSolveG_eq o nc hnc hnr f a tg j h.1 h.2))
    (fun a tg j v hg => ⟨(size_writeRadial ..).trans hg.1, (size_writeRadial ..).trans hg.2⟩)
    (fun a tg j v p q hg hr hc => by
      rw [fld_writeRadial o.nr o.nt nc tg hg.2 j v p q hr.1 hr.2, fld_writeRadial o.nr o.nt nc a hg.1 j v p q hr.1 hr.2,
        if_neg hc, if_neg hc]
      exact ⟨rfl, rfl⟩)
    (fun a tg j v j' hg hok h => ⟨h.1, fun s hs' => by
      rw [fld_writeRadial o.nr o.nt nc tg hg.2 j v (nc + s) j' (by omega) h.1, if_neg fun hc => hok.1 hc.2.symm, h.2 s hs']
      refine orthoRadial_congr o nc (by omega) hnr f _ _ (nc + s) j' (by omega) (fun c d hc hd => ?_) ?_
      · have hd' : d ≠ j ∧ d < o.nt := by
          rcases hd with rfl | rfl
          · exact ⟨hok.2.1, jm_lt o (by omega) j'⟩
          · exact ⟨hok.2.2, jp_lt o (by omega) j'⟩
        rw [fld_writeRadial o.nr o.nt nc a hg.1 j v c d hc hd'.2, if_neg fun hc' => hd'.1 hc'.2]
      · rw [fld_writeRadial o.nr o.nt nc a hg.1 j v (nc - 1) j' (by omega) h.1, if_neg (by omega)]⟩)
    l hp a tg hs fun j hj => ⟨hl j hj, hT j hj⟩

end

section
variable (o : Op K) (nc : Nat)

theorem black_colour {i : Nat} (h : i ∈ blackCircles nc) : circleColour nc i = .black := by
  have := mem_blackCircles.mp h
  rw [circleColour_black_iff]; omega
theorem white_colour {i : Nat} (h : i ∈ whiteCircles nc) : circleColour nc i = .white := by
  have := mem_whiteCircles.mp h
  rw [circleColour_white_iff]; omega
theorem colour_black {i : Nat} (hi : i < nc) (h : circleColour nc i = .black) : i ∈ blackCircles nc := by
  rw [circleColour_black_iff] at h
  exact mem_blackCircles.mpr ⟨hi, by omega⟩
theorem colour_white {i : Nat} (hi : i < nc) (h : circleColour nc i = .white) : i ∈ whiteCircles nc := by
  rw [circleColour_white_iff] at h
  exact mem_whiteCircles.mpr ⟨hi, by omega⟩

/-! ### the four scatter passes -/

theorem orthoBlackCircles_size (x t : Array K) : (orthoBlackCircles o nc x t).size = t.size := applyAll_size _ _ _
theorem orthoWhiteCircles_size (x t : Array K) : (orthoWhiteCircles o nc x t).size = t.size := applyAll_size _ _ _
theorem orthoBlackRadials_size (f : Stencil.Field K) (x t : Array K) : (orthoBlackRadials o nc f x t).size = t.size :=
  applyAll_size _ _ _
theorem orthoWhiteRadials_size (f : Stencil.Field K) (x t : Array K) : (orthoWhiteRadials o nc f x t).size = t.size :=
  applyAll_size _ _ _

theorem orthoBlackCircles_on (hnc : 2 ≤ nc) (hnr : nc + 3 ≤ o.nr) (hnt : 0 < o.nt) (f : Stencil.Field K) (x t : Array K)
    (ht : t.size = o.nr * o.nt) (p q : Nat) (hp : p ∈ blackCircles nc) (hq : q < o.nt) (hf : fld o.nt t p q = f p q) :
    fld o.nt (orthoBlackCircles o nc x t) p q = orthoCircle o nc f (fld o.nt x) p q := by
  have hp' := (mem_blackCircles.mp hp).1
  unfold orthoBlackCircles
  rw [← black_colour nc hp]
  exact circlePass_on o nc hnc hnt f _ t p q hp' hq (by rw [ht]; exact idx_lt (by omega) hq) hf

theorem orthoBlackCircles_off (hnc : 2 ≤ nc) (hnt : 0 < o.nt) (x t : Array K)
    (ht : t.size = o.nr * o.nt) (p q : Nat) (hp : p < o.nr) (hq : q < o.nt) (hoff : p ∉ blackCircles nc) :
    fld o.nt (orthoBlackCircles o nc x t) p q = fld o.nt t p q := by
  unfold orthoBlackCircles
  exact circlePass_off o nc hnc hnt .black _ (nc + 1) (le_refl _) t p q hq (by rw [ht]; exact idx_lt hp hq)
    (fun h => hoff (colour_black nc h.1 h.2))

theorem orthoWhiteCircles_on (hnc : 2 ≤ nc) (hnr : nc + 3 ≤ o.nr) (hnt : 0 < o.nt) (f : Stencil.Field K) (x t : Array K)
    (ht : t.size = o.nr * o.nt) (p q : Nat) (hp : p ∈ whiteCircles nc) (hq : q < o.nt) (hf : fld o.nt t p q = f p q) :
    fld o.nt (orthoWhiteCircles o nc x t) p q = orthoCircle o nc f (fld o.nt x) p q := by
  have hp' := (mem_whiteCircles.mp hp).1
  unfold orthoWhiteCircles
  rw [whitePass_range o nc hnc, ← white_colour nc hp]
  exact circlePass_on o nc hnc hnt f _ t p q hp' hq (by rw [ht]; exact idx_lt (by omega) hq) hf

theorem orthoWhiteCircles_off (hnc : 2 ≤ nc) (hnt : 0 < o.nt) (x t : Array K)
    (ht : t.size = o.nr * o.nt) (p q : Nat) (hp : p < o.nr) (hq : q < o.nt) (hoff : p ∉ whiteCircles nc) :
    fld o.nt (orthoWhiteCircles o nc x t) p q = fld o.nt t p q := by
  unfold orthoWhiteCircles
  exact circlePass_off o nc hnc hnt .white _ nc (by omega) t p q hq (by rw [ht]; exact idx_lt hp hq)
    (fun h => hoff (colour_white nc h.1 h.2))

theorem orthoBlackRadials_on (hnc : 2 ≤ nc) (hnr : nc + 3 ≤ o.nr) (heven : o.nt % 2 = 0) (f : Stencil.Field K)
    (x t : Array K) (ht : t.size = o.nr * o.nt) (p q : Nat) (hp : nc ≤ p) (hp' : p < o.nr) (hq : q ∈ blackRadials o.nt)
    (hf : fld o.nt t p q = f p q) :
    fld o.nt (orthoBlackRadials o nc f x t) p q = orthoRadial o nc f (fld o.nt x) p q := by
  have hq' := mem_blackRadials.mp hq
  unfold orthoBlackRadials
  rw [← (radialColour_black_iff q).mpr hq'.2]
  exact radialPass_on o nc hnc hnr heven f _ t p q hp hp' hq'.1 (by rw [ht]; exact idx_lt hp' hq'.1) hf

theorem orthoBlackRadials_off (hnc : 2 ≤ nc) (hnr : nc + 3 ≤ o.nr) (heven : o.nt % 2 = 0) (f : Stencil.Field K)
    (x t : Array K) (ht : t.size = o.nr * o.nt) (p q : Nat) (hp : p < o.nr) (hq : q < o.nt)
    (hoff : ¬ (nc ≤ p ∧ q ∈ blackRadials o.nt)) :
    fld o.nt (orthoBlackRadials o nc f x t) p q = fld o.nt t p q := by
  unfold orthoBlackRadials
  exact radialPass_off o nc hnc hnr heven .black f _ t p q hq (by rw [ht]; exact idx_lt hp hq)
    (fun h => hoff ⟨h.1, mem_blackRadials.mpr ⟨hq, (radialColour_black_iff q).mp h.2⟩⟩)

theorem orthoWhiteRadials_on (hnc : 2 ≤ nc) (hnr : nc + 3 ≤ o.nr) (heven : o.nt % 2 = 0) (f : Stencil.Field K)
    (x t : Array K) (ht : t.size = o.nr * o.nt) (p q : Nat) (hp : nc ≤ p) (hp' : p < o.nr) (hq : q ∈ whiteRadials o.nt)
    (hf : fld o.nt t p q = f p q) :
    fld o.nt (orthoWhiteRadials o nc f x t) p q = orthoRadial o nc f (fld o.nt x) p q := by
  have hq' := mem_whiteRadials.mp hq
  unfold orthoWhiteRadials
  rw [← (radialColour_white_iff q).mpr hq'.2]
  exact radialPass_on o nc hnc hnr heven f _ t p q hp hp' hq'.1 (by rw [ht]; exact idx_lt hp' hq'.1) hf

/-! ### the sweep -/

/-- **`smoothingSequential` of the give strategy returns the iterate of the take strategy** (or both reach the sparse LU's
    exit): `sweepState` in terms of the folds of `SmootherCode.sweep` -/
theorem sweepState_spec (hnc : 2 ≤ nc) (hnr : nc + 3 ≤ o.nr) (hnt : 3 ≤ o.nt) (heven : o.nt % 2 = 0)
    (hk : o.bc = false → ∀ j, j < o.nt → o.k (ja o j) = o.k j) (tiny : K → Bool) (f : Stencil.Field K) (x : Array K)
    (hx : x.size = o.nr * o.nt) :
    (sweepState o nc tiny f x).map (·.1) = SmootherCode.sweep o tiny nc f x := by
  have hnt0 : 0 < o.nt := by omega
  unfold sweepState SmootherCode.sweep
  simp only
  rw [show circleSolveStep o (allUpdates o nc) tiny
      = stepG (writeCircle o.nt) (writeCircle o.nt) (circleSolveG o nc tiny) from rfl,
    show circleStep o tiny nc f = stepT (fld o.nt) (writeCircle o.nt) (solveCircle o tiny nc f) from rfl]
  -- phase 1: black circles
  have ht0 : (ofField o.nr o.nt f).size = o.nr * o.nt := Array.size_ofFn
  have hf0 : ∀ p q, p < o.nr → q < o.nt → fld o.nt (ofField o.nr o.nt f) p q = f p q := fld_ofField o.nr o.nt f
  rcases circle_fold o nc hnc hnr hnt heven hk tiny f (blackCircles nc) (circles_pairwise nc 0)
      (fun i hi => (mem_blackCircles.mp hi).1) x (orthoBlackCircles o nc x (ofField o.nr o.nt f))
      ⟨hx, (orthoBlackCircles_size ..).trans ht0⟩
      (fun i hi q hq => orthoBlackCircles_on o nc hnc hnr hnt0 f x _ ht0 i q hi hq
        (hf0 i q (by have := mem_blackCircles.mp hi; omega) hq))
    with ⟨a1, t1, h1, h2, ⟨ha1, ht1⟩, hoff1⟩ | ⟨h1, h2⟩
  swap
  · rw [h1, h2, stepT_none]; rfl
  rw [h1, h2]
  simp only [Option.bind_some]
  -- phase 2: white circles
  have hf1 : ∀ p q, p < o.nr → q < o.nt → p ∉ blackCircles nc → fld o.nt t1 p q = f p q := by
    intro p q hp hq hpb
    rw [(hoff1 p q ⟨hp, hq⟩ fun i hi h => hpb (h ▸ hi)).1, orthoBlackCircles_off o nc hnc hnt0 x _ ht0 p q hp hq hpb,
      hf0 p q hp hq]
  have hbw : ∀ p, p ∈ whiteCircles nc → p ∉ blackCircles nc := by
    intro p hw hb
    have h1 := mem_whiteCircles.mp hw
    have h2 := mem_blackCircles.mp hb
    omega
  rcases circle_fold o nc hnc hnr hnt heven hk tiny f (whiteCircles nc) (circles_pairwise nc 1)
      (fun i hi => (mem_whiteCircles.mp hi).1) a1 (orthoWhiteCircles o nc a1 t1) ⟨ha1, (orthoWhiteCircles_size ..).trans ht1⟩
      (fun i hi q hq => orthoWhiteCircles_on o nc hnc hnr hnt0 f a1 t1 ht1 i q hi hq
        (hf1 i q (by have := mem_whiteCircles.mp hi; omega) hq (hbw i hi)))
    with ⟨a2, t2, h3, h4, ⟨ha2, ht2⟩, hoff2⟩ | ⟨h3, h4⟩
  swap
  · rw [h3, h4]; rfl
  rw [h3, h4]
  simp only [Option.map_some, Option.some.injEq]
  -- phase 3: black radial lines
  have hf2 : ∀ p q, nc ≤ p → p < o.nr → q < o.nt → fld o.nt t2 p q = f p q := by
    intro p q hpc hp hq
    have hnw : p ∉ whiteCircles nc := fun h => by have := mem_whiteCircles.mp h; omega
    have hnb : p ∉ blackCircles nc := fun h => by have := mem_blackCircles.mp h; omega
    rw [(hoff2 p q ⟨hp, hq⟩ fun i hi h => hnw (h ▸ hi)).1, orthoWhiteCircles_off o nc hnc hnt0 a1 t1 ht1 p q hp hq hnw,
      hf1 p q hp hq hnb]
  obtain ⟨t3, h5, ⟨ha3, ht3⟩, hoff3⟩ := radial_fold o nc hnc hnr hnt f (blackRadials o.nt) (radials_pairwise o heven 0)
    (fun j hj => (mem_blackRadials.mp hj).1) a2 (orthoBlackRadials o nc f a2 t2) ⟨ha2, (orthoBlackRadials_size ..).trans ht2⟩
    (fun j hj s hs => orthoBlackRadials_on o nc hnc hnr heven f a2 t2 ht2 (nc + s) j (by omega) (by omega) hj
      (hf2 (nc + s) j (by omega) (by omega) (mem_blackRadials.mp hj).1))
  rw [h5]
  simp only
  -- phase 4: white radial lines
  have hf3 : ∀ p q, nc ≤ p → p < o.nr → q ∈ whiteRadials o.nt → fld o.nt t3 p q = f p q := by
    intro p q hpc hp hq
    have hq' := mem_whiteRadials.mp hq
    have hnb : ¬ (nc ≤ p ∧ q ∈ blackRadials o.nt) := fun h => by have := mem_blackRadials.mp h.2; omega
    rw [(hoff3 p q ⟨hp, hq'.1⟩ fun j hj h => hnb ⟨h.1, h.2 ▸ hj⟩).1,
      orthoBlackRadials_off o nc hnc hnr heven f a2 t2 ht2 p q hp hq'.1 hnb, hf2 p q hpc hp hq'.1]
  obtain ⟨t4, h6, _, _⟩ := radial_fold o nc hnc hnr hnt f (whiteRadials o.nt) (radials_pairwise o heven 1)
    (fun j hj => (mem_whiteRadials.mp hj).1) _ (orthoWhiteRadials o nc f ((blackRadials o.nt).foldl (radialStep o nc f) a2) t3)
    ⟨ha3, (orthoWhiteRadials_size ..).trans ht3⟩
    (fun j hj s hs => orthoWhiteRadials_on o nc hnc hnr heven f _ t3 ht3 (nc + s) j (by omega) (by omega) hj
      (hf3 (nc + s) j (by omega) (by omega) hj))
  rw [h6]

end
end SmootherGiveCode
