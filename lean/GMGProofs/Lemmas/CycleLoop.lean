import GMGProofs.Lemmas.CycleFmg
/-!
# The `solve()` loop: unfolding, stop test, independence of stale object state
-/
namespace MGCycle
variable {V R : Type}

/-- references read before being written -/
def exposed : List Instr → List Ref
  | [] => []
  | i :: p => reads i ++ (exposed p).filter (fun r => !(writes i).contains r)

def written (p : List Instr) (r : Ref) : Prop := ∃ i ∈ p, r ∈ writes i

theorem writesIn_written (p : List Instr) : WritesIn p (written p) := fun i hi _ hw => ⟨i, hi, hw⟩

theorem exec_congr_exposed (o : Ops V) : ∀ (p : List Instr) (m m' : Mem V),
    (∀ r ∈ exposed p, m r = m' r) → ∀ r, written p r → exec o p m r = exec o p m' r
  | [], _, _, _, r, h => by obtain ⟨i, hi, _⟩ := h; cases hi
  | i :: p, m, m', h, r, hw => by
      have hr : ∀ q ∈ reads i, m q = m' q := fun q hq => h q (by simp [exposed, hq])
      have hnext : ∀ q ∈ exposed p, stepI o m i q = stepI o m' i q := by
        intro q hq
        by_cases hqw : q ∈ writes i
        · exact stepI_congr o m m' i hr q hqw
        · rw [stepI_unwritten o m i q hqw, stepI_unwritten o m' i q hqw]
          exact h q (by simp [exposed, hq, hqw])
      simp only [exec_cons]
      by_cases hp : written p r
      · exact exec_congr_exposed o p _ _ hnext r hp
      · rw [exec_frame o p _ r (writesIn_written p) hp, exec_frame o p _ r (writesIn_written p) hp]
        obtain ⟨j, hj, hjw⟩ := hw
        rcases List.mem_cons.1 hj with e | e
        · subst e; exact stepI_congr o m m' j hr r hjw
        · exact absurd ⟨j, e, hjw⟩ hp

/-! ## the residual evaluation of the stop test -/

theorem stopResidual_exposed (ex : Bool) :
    ∀ r ∈ exposed (stopResidual ex), r ∈ [((0, .rhs) : Ref), (0, .sol), (1, .rhs)] := by
  cases ex <;> decide

theorem stopResidual_writes (ex : Bool) :
    WritesIn (stopResidual ex) (fun w => w ∈ [((0, .res) : Ref), (1, .sol), (1, .res)]) := by
  cases ex <;> simp [WritesIn, stopResidual, writes]

theorem stopResidual_written_res (ex : Bool) : written (stopResidual ex) (0, .res) := by
  cases ex <;> exact ⟨.residual 0 (0, .res) (0, .rhs) (0, .sol), by simp [stopResidual], by simp [writes]⟩

theorem stopResidual_frame (o : Ops V) (ex : Bool) (m : Mem V) (r : Ref)
    (h : r ∉ [((0, .res) : Ref), (1, .sol), (1, .res)]) : exec o (stopResidual ex) m r = m r :=
  exec_frame o _ m r (stopResidual_writes ex) h

theorem stopResidual_congr (o : Ops V) (ex : Bool) (m m' : Mem V) (h0 : m (0, .rhs) = m' (0, .rhs))
    (h1 : m (0, .sol) = m' (0, .sol)) (h2 : m (1, .rhs) = m' (1, .rhs)) :
    exec o (stopResidual ex) m (0, .res) = exec o (stopResidual ex) m' (0, .res) := by
  refine exec_congr_exposed o _ m m' ?_ _ (stopResidual_written_res ex)
  intro r hr
  have := stopResidual_exposed ex r hr
  simp at this
  rcases this with e | e | e <;> rw [e] <;> assumption

/-! ## the loop, one iteration unfolded -/

/-- the relative residual of a test: `1` at the first test, `cur / initial` later -/
def relOf (n : NormOps V R) (pre : List R) (cur : R) : R :=
  match pre.head? with | none => n.one | some initial => n.div cur initial

def tested (c : SolveCfg R) : Bool := c.absTol.isSome || c.relTol.isSome

def testMem (o : Ops V) (c : SolveCfg R) (s : Obj V R) : Mem V := exec o (stopResidual (c.extrapMode != 0)) s.mem

def testCur (o : Ops V) (n : NormOps V R) (c : SolveCfg R) (s : Obj V R) : R := n.norm (testMem o c s (0, .res))

def testFgs (o : Ops V) (n : NormOps V R) (c : SolveCfg R) (s : Obj V R) : Bool :=
  if (match s.norms.getLast? with
      | some prev => n.ratioGt07 (testCur o n c s) prev && c.extrapMode == 3 && s.fgs
      | none => false) then false else s.fgs

def stopState (o : Ops V) (n : NormOps V R) (c : SolveCfg R) (s : Obj V R) : Obj V R :=
  { s with mem := testMem o c s, fgs := testFgs o n c s, norms := s.norms ++ [testCur o n c s], stoppedEarly := true }

def contState (o : Ops V) (n : NormOps V R) (c : SolveCfg R) (s : Obj V R) : Obj V R :=
  { mem := exec o (cycleAt c.cyc c.kind (c.extrapMode != 0) (testFgs o n c s) 0) (testMem o c s),
    fgs := testFgs o n c s, norms := s.norms ++ [testCur o n c s], iters := s.iters + 1, stoppedEarly := false }

def blindState (o : Ops V) (c : SolveCfg R) (s : Obj V R) : Obj V R :=
  { s with mem := exec o (cycleAt c.cyc c.kind (c.extrapMode != 0) s.fgs 0) s.mem, iters := s.iters + 1,
           stoppedEarly := false }

@[simp] theorem stopState_iters (o : Ops V) (n : NormOps V R) (c : SolveCfg R) (s : Obj V R) :
    (stopState o n c s).iters = s.iters := rfl
@[simp] theorem stopState_norms (o : Ops V) (n : NormOps V R) (c : SolveCfg R) (s : Obj V R) :
    (stopState o n c s).norms = s.norms ++ [testCur o n c s] := rfl
@[simp] theorem stopState_stopped (o : Ops V) (n : NormOps V R) (c : SolveCfg R) (s : Obj V R) :
    (stopState o n c s).stoppedEarly = true := rfl
@[simp] theorem stopState_mem (o : Ops V) (n : NormOps V R) (c : SolveCfg R) (s : Obj V R) :
    (stopState o n c s).mem = testMem o c s := rfl
@[simp] theorem contState_norms (o : Ops V) (n : NormOps V R) (c : SolveCfg R) (s : Obj V R) :
    (contState o n c s).norms = s.norms ++ [testCur o n c s] := rfl

@[simp] theorem loop_zero (o : Ops V) (n : NormOps V R) (c : SolveCfg R) (s : Obj V R) : loop o n c 0 s = s := rfl

variable (o : Ops V) (n : NormOps V R) (c : SolveCfg R)

@[simp] theorem contState_iters (s : Obj V R) : (contState o n c s).iters = s.iters + 1 := rfl
@[simp] theorem blindState_iters (s : Obj V R) : (blindState o c s).iters = s.iters + 1 := rfl
@[simp] theorem blindState_norms (s : Obj V R) : (blindState o c s).norms = s.norms := rfl

theorem loop_succ (fuel : Nat) (s : Obj V R) :
    loop o n c (fuel + 1) s =
      if tested c then
        if converged n c (testCur o n c s) (relOf n s.norms (testCur o n c s)) then stopState o n c s
        else loop o n c fuel (contState o n c s)
      else loop o n c fuel (blindState o c s) := rfl

def startState (o : Ops V) (c : SolveCfg R) (s : Obj V R) : Obj V R :=
  { mem := exec o (initSolution c.cyc c.fmg c.fmgKind c.fmgIters (c.extrapMode != 0)
              (if c.extrapMode == 3 then true else s.fgs) (c.cyc.levels - 1)) s.mem,
    fgs := if c.extrapMode == 3 then true else s.fgs, norms := [], iters := 0, stoppedEarly := false }

theorem solve_eq (s : Obj V R) :
    solve o n c s = loop o n c c.maxit (startState o c s) := rfl

theorem loop_inv (P : Obj V R → Prop)
    (h1 : ∀ s, P s → P (stopState o n c s)) (h2 : ∀ s, P s → P (contState o n c s))
    (h3 : ∀ s, P s → P (blindState o c s)) : ∀ (fuel : Nat) (s : Obj V R), P s → P (loop o n c fuel s)
  | 0, _, h => h
  | fuel + 1, s, h => by
      rw [loop_succ]
      split
      · split
        · exact h1 s h
        · exact loop_inv P h1 h2 h3 fuel _ (h2 s h)
      · exact loop_inv P h1 h2 h3 fuel _ (h3 s h)

/-! ## the stop test -/

/-- every test recorded in `l` failed: each entry, with the relative residual computed from the entries before it -/
def AllFail (n : NormOps V R) (c : SolveCfg R) (l : List R) : Prop :=
  ∀ pre cur suf, l = pre ++ cur :: suf → converged n c cur (relOf n pre cur) = false

theorem AllFail.nil : AllFail n c [] := by
  intro pre cur suf h; simp at h

theorem append_singleton_split {α : Type} {l pre suf : List α} {x cur : α} (h : l ++ [x] = pre ++ cur :: suf) :
    (suf = [] ∧ pre = l ∧ cur = x) ∨ ∃ suf', suf = suf' ++ [x] ∧ l = pre ++ cur :: suf' := by
  rcases List.eq_nil_or_concat suf with e | ⟨suf', y, e⟩
  · subst e
    have h' : l ++ [x] = pre ++ [cur] := h
    have := List.append_inj' h' rfl
    exact Or.inl ⟨rfl, this.1.symm, by simpa using this.2.symm⟩
  · subst e
    have h' : l ++ [x] = (pre ++ cur :: suf') ++ [y] := by simpa using h
    have := List.append_inj' h' rfl
    have hy : x = y := by simpa using this.2
    exact Or.inr ⟨suf', by rw [hy, List.concat_eq_append], this.1⟩

variable {n c} in
theorem AllFail.snoc {l : List R} {x : R} (hl : AllFail n c l)
    (hx : converged n c x (relOf n l x) = false) : AllFail n c (l ++ [x]) := by
  intro pre cur suf h
  rcases append_singleton_split h with ⟨_, e2, e3⟩ | ⟨suf', _, e2⟩
  · subst e2; subst e3; exact hx
  · exact hl pre cur suf' e2

/-- what the loop returns: either the whole fuel was used and every test (if any was made) failed, or the loop left
    from a state `s'` whose test succeeded, all earlier ones having failed -/
theorem loop_shape :
    ∀ (fuel : Nat) (s : Obj V R), s.stoppedEarly = false → AllFail n c s.norms →
      ((loop o n c fuel s).stoppedEarly = false ∧ AllFail n c (loop o n c fuel s).norms ∧
        (loop o n c fuel s).iters = s.iters + fuel ∧
        (loop o n c fuel s).norms.length = s.norms.length + if tested c then fuel else 0) ∨
      ∃ s', loop o n c fuel s = stopState o n c s' ∧
        converged n c (testCur o n c s') (relOf n s'.norms (testCur o n c s')) = true ∧ AllFail n c s'.norms ∧
        s'.iters + s.norms.length = s'.norms.length + s.iters ∧ s'.iters < s.iters + fuel ∧ tested c = true
  | 0, s, hs, ha => Or.inl ⟨hs, ha, rfl, by simp⟩
  | fuel + 1, s, hs, ha => by
      rw [loop_succ]
      cases ht : tested c
      · rw [if_neg Bool.false_ne_true]
        rcases loop_shape fuel (blindState o c s) rfl ha with ⟨h1, h2, h3, h4⟩ | ⟨_, _, _, _, _, _, h⟩
        · exact Or.inl ⟨h1, h2, by rw [h3, blindState_iters]; omega, by simpa [ht] using h4⟩
        · rw [ht] at h; cases h
      · rw [if_pos rfl]
        split
        · rename_i hc
          exact Or.inr ⟨s, rfl, hc, ha, Nat.add_comm _ _, by omega, rfl⟩
        · rename_i hc
          rcases loop_shape fuel (contState o n c s) rfl (ha.snoc (by simpa using hc)) with
            ⟨h1, h2, h3, h4⟩ | ⟨s', h1, h2, h3, h4, h5, _⟩
          · refine Or.inl ⟨h1, h2, by rw [h3, contState_iters]; omega, ?_⟩
            rw [h4, contState_norms, ht]; simp; omega
          · refine Or.inr ⟨s', h1, h2, h3, ?_, by rw [contState_iters] at h5; omega, rfl⟩
            rw [contState_norms, contState_iters] at h4; simp at h4; omega

/-! ## simulation: two object states that agree on `(0,sol)` and all right-hand sides -/

/-- the part of the object state the loop depends on -/
structure Sim (s s' : Obj V R) : Prop where
  fgs : s.fgs = s'.fgs
  norms : s.norms = s'.norms
  iters : s.iters = s'.iters
  stopped : s.stoppedEarly = s'.stoppedEarly
  sol : s.mem (0, .sol) = s'.mem (0, .sol)
  rhs : ∀ l, s.mem (l, .rhs) = s'.mem (l, .rhs)

theorem testMem_sol (s : Obj V R) : testMem o c s (0, .sol) = s.mem (0, .sol) :=
  stopResidual_frame o _ _ _ (by decide)

theorem testMem_rhs (s : Obj V R) (l : Nat) : testMem o c s (l, .rhs) = s.mem (l, .rhs) :=
  stopResidual_frame o _ _ _ (by simp)

theorem cycle_sim (c : Cfg) (k : Kind) (ex fgs : Bool) (m m' : Mem V)
    (hs : m (0, .sol) = m' (0, .sol)) (hr : ∀ l, m (l, .rhs) = m' (l, .rhs)) :
    exec o (cycleAt c k ex fgs 0) m (0, .sol) = exec o (cycleAt c k ex fgs 0) m' (0, .sol) ∧
    ∀ l, exec o (cycleAt c k ex fgs 0) m (l, .rhs) = exec o (cycleAt c k ex fgs 0) m' (l, .rhs) :=
  ⟨by rw [cycleAt_val_of o c k ex fgs 0 (fun _ => rfl) m _ hr, cycleAt_val o c k ex fgs 0 (fun _ => rfl) m', hs],
   fun l => by rw [cycleAt_rhs, cycleAt_rhs, hr]⟩

section
variable {s s' : Obj V R} (h : Sim s s')
include h

theorem testCur_sim : testCur o n c s = testCur o n c s' :=
  congrArg n.norm (stopResidual_congr o _ _ _ (h.rhs 0) h.sol (h.rhs 1))

theorem testFgs_sim : testFgs o n c s = testFgs o n c s' := by
  unfold testFgs; rw [testCur_sim o n c h, h.norms, h.fgs]

theorem stopState_sim : Sim (stopState o n c s) (stopState o n c s') where
  fgs := testFgs_sim o n c h
  norms := by rw [stopState_norms, stopState_norms, testCur_sim o n c h, h.norms]
  iters := h.iters
  stopped := rfl
  sol := by rw [stopState_mem, stopState_mem, testMem_sol, testMem_sol, h.sol]
  rhs l := by rw [stopState_mem, stopState_mem, testMem_rhs, testMem_rhs, h.rhs]

theorem contState_sim : Sim (contState o n c s) (contState o n c s') := by
  have hc := cycle_sim o c.cyc c.kind (c.extrapMode != 0) (testFgs o n c s') (testMem o c s) (testMem o c s')
    (by rw [testMem_sol, testMem_sol, h.sol]) (fun l => by rw [testMem_rhs, testMem_rhs, h.rhs])
  unfold contState
  rw [testFgs_sim o n c h, testCur_sim o n c h, h.norms, h.iters]
  exact ⟨rfl, rfl, rfl, rfl, hc.1, hc.2⟩

theorem blindState_sim : Sim (blindState o c s) (blindState o c s') := by
  have hc := cycle_sim o c.cyc c.kind (c.extrapMode != 0) s'.fgs s.mem s'.mem h.sol h.rhs
  unfold blindState
  rw [h.fgs]
  exact ⟨rfl, h.norms, congrArg (· + 1) h.iters, rfl, hc.1, hc.2⟩

end

theorem loop_sim :
    ∀ (fuel : Nat) (s s' : Obj V R), Sim s s' → Sim (loop o n c fuel s) (loop o n c fuel s')
  | 0, _, _, h => h
  | fuel + 1, s, s', h => by
      rw [loop_succ, loop_succ, testCur_sim o n c h, h.norms]
      split
      · split
        · exact stopState_sim o n c h
        · exact loop_sim fuel _ _ (contState_sim o n c h)
      · exact loop_sim fuel _ _ (blindState_sim o c h)

theorem testFgs_of_ne3 (s : Obj V R) (h : c.extrapMode ≠ 3) :
    testFgs o n c s = s.fgs := by
  unfold testFgs
  cases s.norms.getLast? <;> simp [h]

theorem solve_rhs (s : Obj V R) (l : Nat) :
    (solve o n c s).mem (l, .rhs) = s.mem (l, .rhs) :=
  loop_inv o n c (fun s' => s'.mem (l, .rhs) = s.mem (l, .rhs))
    (fun s' h => (testMem_rhs o c s' l).trans h)
    (fun s' h => (cycleAt_rhs o _ _ _ _ 0 _ l).trans ((testMem_rhs o c s' l).trans h))
    (fun _ h => (cycleAt_rhs o _ _ _ _ 0 _ l).trans h) c.maxit _ (initSolution_rhs o _ _ _ _ _ _ _ s.mem l)

theorem solve_fgs (s : Obj V R) (h : c.extrapMode ≠ 3) :
    (solve o n c s).fgs = s.fgs :=
  loop_inv o n c (fun s' => s'.fgs = s.fgs) (fun s' h' => (testFgs_of_ne3 o n c s' h).trans h')
    (fun s' h' => (testFgs_of_ne3 o n c s' h).trans h') (fun _ h' => h') c.maxit _ (by simp [h])

theorem solve_shape (s : Obj V R) :
    ((solve o n c s).stoppedEarly = false ∧ AllFail n c (solve o n c s).norms ∧ (solve o n c s).iters = c.maxit ∧
      (solve o n c s).norms.length = if tested c then c.maxit else 0) ∨
    ∃ s', solve o n c s = stopState o n c s' ∧
      converged n c (testCur o n c s') (relOf n s'.norms (testCur o n c s')) = true ∧ AllFail n c s'.norms ∧
      s'.iters = s'.norms.length ∧ s'.iters < c.maxit := by
  rcases loop_shape o n c c.maxit (startState o c s) rfl (AllFail.nil n c) with
    ⟨h1, h2, h3, h4⟩ | ⟨s', h1, h2, h3, h4, h5, _⟩
  · exact Or.inl ⟨h1, h2, h3.trans (Nat.zero_add _), h4.trans (Nat.zero_add _)⟩
  · exact Or.inr ⟨s', h1, h2, h3, h4, Nat.lt_of_lt_of_eq h5 (Nat.zero_add _)⟩

/-- the start-up makes the loop's entry state depend on the right-hand sides (and the smoother switch) only -/
theorem startState_sim (s s' : Obj V R)
    (hr : ∀ l, s.mem (l, .rhs) = s'.mem (l, .rhs)) (hf : c.extrapMode ≠ 3 → s.fgs = s'.fgs) :
    Sim (startState o c s) (startState o c s') := by
  have hfgs : (if c.extrapMode == 3 then true else s.fgs) = (if c.extrapMode == 3 then true else s'.fgs) := by
    by_cases h : c.extrapMode = 3
    · simp [h]
    · simp [h, hf h]
  refine ⟨hfgs, rfl, rfl, rfl, ?_, fun l => (initSolution_rhs o ..).trans ((hr l).trans (initSolution_rhs o ..).symm)⟩
  show exec o _ s.mem _ = exec o _ s'.mem _
  rw [hfgs]
  cases c.fmg
  · rw [initSolution_nofmg, initSolution_nofmg]
  · rw [initSolution_val o _ _ _ _ _ s.mem _ hr, initSolution_val o _ _ _ _ _ s'.mem _ fun _ => rfl]

end MGCycle
