import GMGProofs.Lemmas.ConcreteArr
import GMGProofs.Props.C07c
/-!
# The two code-level sweeps as functions on arrays (Dirichlet inner boundary, elliptic data)
Both sweeps are total in that mode (the only sparse LU inside a sweep then has pivots 1), what they return satisfies the sweep
equations (`IsSweep`, `IsExSweep`), and those equations have exactly one solution on the grid (`SweepLaw`, with the instances
`sweepLaw`, `exSweepLaw`).  Hence any right-sized array whose field satisfies the equations IS the value of the sweep
(`SweepLaw.eq_of_is`).  Two uses:
* an exact discrete solution is returned unchanged (`SweepLaw.fixed_arr`);
* the sweep equations are translation invariant — if `A w = g` on the grid then `y + w` solves them for `(f + g, x + w)` when
  `y` solves them for `(f, x)` — so the sweeps commute with the shift as ARRAY functions (`SweepLaw.shift_arr`).
For the extrapolated sweep this needs `C07c.ExLinesOK` and uniqueness of `IsExSweep`, both proved here for that mode: phase by
phase, the fine nodes of one phase form a principal block of the positive definite operator (`Direct.A_injective_on`), the coarse
nodes keep their values; the tridiagonal blocks are those of the standard smoother, the stored diagonal entries are positive.
-/
namespace Concrete
open Stencil Scalar Smoother

section AnyField
variable {K : Type} [_root_.Field K]

theorem mix_shift (nc p : Nat) (x y w X Y : Stencil.Field K) (a b : Nat) (hX : X a b = x a b + w a b)
    (hY : Y a b = y a b + w a b) : mix nc p X Y a b = mix nc p x y a b + w a b := by
  unfold mix
  split
  · exact hY
  · exact hX

/-- the sweep equations are translation invariant: fields `F`, `X`, `Y` that agree ON THE GRID with `f + g`, `x + w`, `y + w`,
    where `A w = g` on the grid -/
theorem isSweep_shift (o : Op K) (nc : Nat) (hnr : 2 ≤ o.nr) (f g x y w F X Y : Stencil.Field K)
    (hF : ∀ i j, i < o.nr → j < o.nt → F i j = f i j + g i j)
    (hX : ∀ i j, i < o.nr → j < o.nt → X i j = x i j + w i j)
    (hY : ∀ i j, i < o.nr → j < o.nt → Y i j = y i j + w i j)
    (hAw : ∀ i j, i < o.nr → j < o.nt → take o g w i j = 0)
    (h : IsSweep o nc f x y) : IsSweep o nc F X Y := by
  intro i j hi hj
  show take o F (mix nc (phase nc i j) X Y) i j = 0
  rw [take_shift o (Or.inr hnr) f g (mix nc (phase nc i j) x y) w F _ i j hi hj (hF i j hi hj)
    (fun a b ha hb => mix_shift nc _ x y w X Y a b (hX a b ha hb) (hY a b ha hb)) (hAw i j hi hj)]
  exact h i j hi hj

/-- the same for the extrapolated sweep (a coarse node keeps its value on both sides; `A w = g` at the relaxed nodes) -/
theorem isExSweep_shift (o : Op K) (nc : Nat) (hnr : 2 ≤ o.nr) (f g x y w F X Y : Stencil.Field K)
    (hF : ∀ i j, i < o.nr → j < o.nt → F i j = f i j + g i j)
    (hX : ∀ i j, i < o.nr → j < o.nt → X i j = x i j + w i j)
    (hY : ∀ i j, i < o.nr → j < o.nt → Y i j = y i j + w i j)
    (hAw : ∀ i j, i < o.nr → j < o.nt → coarseNode i j = false → take o g w i j = 0)
    (h : IsExSweep o nc f x y) : IsExSweep o nc F X Y := by
  intro i j hi hj
  have h0 := h i j hi hj
  unfold exDefect at h0 ⊢
  by_cases hc : coarseNode i j = true
  · rw [if_pos hc] at h0 ⊢
    rw [hY i j hi hj, hX i j hi hj]
    linear_combination h0
  · rw [if_neg hc] at h0 ⊢
    rw [take_shift o (Or.inr hnr) f g (mix nc (phase nc i j) x y) w F _ i j hi hj (hF i j hi hj)
      (fun a b ha hb => mix_shift nc _ x y w X Y a b (hX a b ha hb) (hY a b ha hb)) (hAw i j hi hj (by simpa using hc))]
    exact h0

/-- the innermost circle's matrix of the extrapolated smoother is the identity in Dirichlet mode: all LU pivots are 1 -/
theorem ex_inner_pivots_dirichlet (o : Op K) (hbc : o.bc = true) (i : Nat) (hi : i < o.nt) :
    SparseLU.den ((SparseLU.factorRows (ExSmootherCode.innerCSR o)).2.getD i []) i = 1 := by
  refine SparseLU.pivot_of_diag_row _ (show i < (ExSmootherCode.innerCSR o).rows from hi) ?_
  rw [ExSmootherCode.rowEntries_innerCSR o i hi, ExSmootherCode.innerRow, if_pos hbc, Scalar.n_one]

/-- in Dirichlet mode the extrapolated sweep returns (no `std::exit`) for every `tiny` test that does not fire on 1 -/
theorem exsweep_total_dirichlet (o : Op K) (nc : Nat) (tiny : K → Bool) (ht : tiny 1 = false) (f : Stencil.Field K)
    (x : Array K) (hbc : o.bc = true) : ∃ y, ExSmootherCode.sweep o tiny nc f x = some y :=
  C07c.code_exsweep_total o nc tiny f x (fun i hi => by rw [ex_inner_pivots_dirichlet o hbc i hi]; exact ht)

/-- what the two code-level sweeps share in Dirichlet mode, as functions `sw f x` on arrays: they return, keep the size, and
    what they return solves equations `Is f x y` between node fields that have one solution on the grid, hold for `y = x` when
    `x` is exact at the relaxed nodes `R`, and are translation invariant -/
structure SweepLaw (o : Op K) (sw : Stencil.Field K → Array K → Option (Array K))
    (Is : Stencil.Field K → Stencil.Field K → Stencil.Field K → Prop) (R : Nat → Nat → Prop) : Prop where
  total : ∀ f x, ∃ y, sw f x = some y
  size : ∀ f x y, sw f x = some y → y.size = x.size
  spec : ∀ f x y, x.size = o.nr * o.nt → sw f x = some y → Is f (SmootherCode.fld o.nt x) (SmootherCode.fld o.nt y)
  unique : ∀ f x y y', Is f x y → Is f x y' → ∀ i j, i < o.nr → j < o.nt → y i j = y' i j
  fixed : ∀ f u, (∀ i j, i < o.nr → j < o.nt → R i j → take o f u i j = 0) → Is f u u
  shift : ∀ f g x y w F X Y, (∀ i j, i < o.nr → j < o.nt → F i j = f i j + g i j) →
    (∀ i j, i < o.nr → j < o.nt → X i j = x i j + w i j) → (∀ i j, i < o.nr → j < o.nt → Y i j = y i j + w i j) →
    (∀ i j, i < o.nr → j < o.nt → R i j → take o g w i j = 0) → Is f x y → Is F X Y

namespace SweepLaw
variable {o : Op K} {sw : Stencil.Field K → Array K → Option (Array K)}
  {Is : Stencil.Field K → Stencil.Field K → Stencil.Field K → Prop} {R : Nat → Nat → Prop} (S : SweepLaw o sw Is R)
include S

theorem eq_of_is (f : Stencil.Field K) (x z : Array K) (hx : x.size = o.nr * o.nt) (hz : z.size = o.nr * o.nt)
    (hs : Is f (SmootherCode.fld o.nt x) (SmootherCode.fld o.nt z)) : sw f x = some z := by
  obtain ⟨y, hy⟩ := S.total f x
  rw [hy, array_eq_of_fld o.nr o.nt y z (by rw [S.size f x y hy, hx]) hz (S.unique f _ _ _ (S.spec f x y hx hy) hs)]

theorem fixed_arr (f : Stencil.Field K) (u : Array K) (hu : u.size = o.nr * o.nt)
    (hsol : ∀ i j, i < o.nr → j < o.nt → R i j → take o f (SmootherCode.fld o.nt u) i j = 0) : sw f u = some u :=
  S.eq_of_is f u u hu hu (S.fixed f _ hsol)

theorem shift_arr (f g F : Stencil.Field K) (hF : ∀ i j, i < o.nr → j < o.nt → F i j = f i j + g i j)
    (x w y : Array K) (hx : x.size = o.nr * o.nt)
    (hAw : ∀ i j, i < o.nr → j < o.nt → R i j → take o g (SmootherCode.fld o.nt w) i j = 0) (hy : sw f x = some y) :
    sw F (addArr x w) = some (addArr y w) := by
  have hysz : y.size = o.nr * o.nt := by rw [S.size f x y hy, hx]
  exact S.eq_of_is F _ _ (by rw [addArr_size, hx]) (by rw [addArr_size, hysz])
    (S.shift f g _ _ (SmootherCode.fld o.nt w) F _ _ hF
      (fun i j hi hj => fld_addArr_grid _ _ x w (Nat.le_of_eq hx.symm) i j hi hj)
      (fun i j hi hj => fld_addArr_grid _ _ y w (Nat.le_of_eq hysz.symm) i j hi hj) hAw (S.spec f x y hx hy))

end SweepLaw

end AnyField

section Ordered
variable {K : Type} [_root_.Field K] [LinearOrder K] [IsStrictOrderedRing K]

/-- what a smoothing level has to satisfy (Dirichlet inner boundary, elliptic data, admissible sizes) -/
def LevelHyp (D : LevelData K) : Prop :=
  4 ≤ D.op.nt ∧ D.op.nt % 2 = 0 ∧ 2 ≤ D.nc ∧ D.nc + 3 ≤ D.op.nr ∧ D.op.bc = true ∧ Elliptic D.op

theorem exsweep_unique_dirichlet (o : Op K) (nc : Nat) (hnr : 4 ≤ o.nr) (hnt : 2 ≤ o.nt) (heven : o.nt % 2 = 0)
    (hbc : o.bc = true) (he : Elliptic o) (f x y y' : Stencil.Field K)
    (hy : IsExSweep o nc f x y) (hy' : IsExSweep o nc f x y') :
    ∀ i j, i < o.nr → j < o.nt → y i j = y' i j := by
  have key : ∀ p, ∀ i j, i < o.nr → j < o.nt → phase nc i j = p → y i j = y' i j := by
    intro p
    induction p using Nat.strong_induction_on with
    | _ p ih =>
      intro i j hi hj hp
      -- the difference of the two phase-`p` mixtures vanishes off the fine nodes of phase `p` …
      have hoff : ∀ c d, c < o.nr → d < o.nt → ¬ (phase nc c d = p ∧ coarseNode c d = false) →
          (fun a b => mix nc p x y a b - mix nc p x y' a b) c d = 0 := by
        intro c d hc hd hS
        show mix nc p x y c d - mix nc p x y' c d = 0
        by_cases hcn : coarseNode c d = true
        · have e1 := C07.coarse_fixed o nc f x y hy c d hc hd hcn
          have e2 := C07.coarse_fixed o nc f x y' hy' c d hc hd hcn
          unfold mix
          split
          · rw [e1, e2, sub_self]
          · exact sub_self _
        · have hne : phase nc c d ≠ p := fun h => hS ⟨h, by simpa using hcn⟩
          rcases Nat.lt_or_ge p (phase nc c d) with hlt | hge
          · rw [mix_of_lt hlt, mix_of_lt hlt, sub_self]
          · rw [mix_of_le hge, mix_of_le hge, ih (phase nc c d) (by omega) c d hc hd rfl, sub_self]
      -- … and `A` of it vanishes on them
      have hA : ∀ c d, c < o.nr → d < o.nt → (phase nc c d = p ∧ coarseNode c d = false) →
          A o (fun a b => mix nc p x y a b - mix nc p x y' a b) c d = 0 := by
        intro c d hc hd hS
        obtain ⟨hpc, hcn⟩ := hS
        have e1 := C07.ex_phase_colour o nc f x y hy p c d hc hd hpc hcn
        have e2 := C07.ex_phase_colour o nc f x y' hy' p c d hc hd hpc hcn
        rw [take_eq_sub_A] at e1 e2
        rw [Direct.A_sub]
        linear_combination e2 - e1
      have h0 : mix nc p x y i j - mix nc p x y' i j = 0 :=
        Direct.A_injective_on o hnr hnt heven hbc he (fun c d => phase nc c d = p ∧ coarseNode c d = false) _
          hoff hA i j hi hj
      rw [mix_of_le (by omega), mix_of_le (by omega)] at h0
      exact sub_eq_zero.mp h0
  intro i j hi hj
  exact key _ i j hi hj rfl

/-- the diagonal entry of an interior row is positive for elliptic data -/
theorem centerValue_pos (o : Op K) (he : Elliptic o) (i j : Nat) (h0 : 0 < i) (h1 : i + 1 < o.nr) (hj : j < o.nt) :
    0 < SmootherCode.centerValue o i j (i - 1) j := by
  have hnt : 0 < o.nt := by omega
  have hh1 : 0 < o.h (i - 1) := he.h_pos (i - 1) (by omega)
  have hh2 : 0 < o.h i := he.h_pos i h1
  have hk1 : 0 < o.k (jm o j) := he.k_pos _ (jm_lt o hnt j)
  have hk2 : 0 < o.k j := he.k_pos j hj
  have ha : 0 < o.arr i j := he.arr_pos i j (by omega) hj
  have ha1 : 0 < o.arr (i - 1) j := he.arr_pos (i - 1) j (by omega) hj
  have ha2 : 0 < o.arr (i + 1) j := he.arr_pos (i + 1) j h1 hj
  have ht : 0 < o.att i j := he.att_pos i j (by omega) hj
  have ht1 : 0 < o.att i (jm o j) := he.att_pos i _ (by omega) (jm_lt o hnt j)
  have ht2 : 0 < o.att i (jp o j) := he.att_pos i _ (by omega) (jp_lt o hnt j)
  have hb : 0 ≤ o.beta i := he.beta_nonneg i (by omega)
  have hd : 0 ≤ o.det i j := he.det_nonneg i j (by omega) hj
  have hi0 : i ≠ 0 := by omega
  unfold SmootherCode.centerValue SmootherCode.coeff1 SmootherCode.coeff2 SmootherCode.coeff3 SmootherCode.coeff4
    SmootherCode.h1
  simp only [if_neg hi0, Stencil.half, Stencil.quarter, Scalar.n_eq, Nat.cast_one, Nat.cast_ofNat]
  positivity

/-- **`ExLinesOK` is a theorem in Dirichlet mode** -/
theorem exLinesOK_dirichlet (o : Op K) (nc : Nat) (hnr : nc + 3 ≤ o.nr) (hnc : 2 ≤ nc) (hnt : 4 ≤ o.nt)
    (heven : o.nt % 2 = 0) (hbc : o.bc = true) (he : Elliptic o) : C07c.ExLinesOK o nc := by
  refine C07c.exLinesOK_of_spd_pos o nc hnt hnr ?_ ?_ ?_ ?_
  · intro i hi0 hi _
    exact C06d.circle_matrix_spd_dirichlet o nc (by omega) hnt heven hbc he i hi0 hi (by omega)
  · intro j hj _
    rw [ExSmootherCode.radialTriMain_eq o nc j hnr, ExSmootherCode.radialTriSub_eq o nc j hnr]
    exact C06d.radial_matrix_spd_dirichlet o nc hnr hnc hnt heven hbc he j hj
  · intro i j h0 h1 hj
    exact centerValue_pos o he i j h0 h1 hj
  · intro i hi
    rw [ex_inner_pivots_dirichlet o hbc i hi]
    exact one_ne_zero

theorem sweepLaw (D : LevelData K) (h : LevelHyp D) (tiny : K → Bool) (ht : tiny 1 = false) :
    SweepLaw D.op (SmootherCode.sweep D.op tiny D.nc) (IsSweep D.op D.nc) (fun _ _ => True) := by
  obtain ⟨hnt, heven, hnc, hnr, hbc, he⟩ := h
  exact ⟨fun f x => C06d.code_sweep_total_dirichlet D.op D.nc tiny ht f x hbc, C06c.sweep_size D.op D.nc tiny,
    fun f x y hx hy => C06d.code_sweep_isSweep_dirichlet D.op D.nc tiny f x y hnr hnc hnt heven hbc he hx hy,
    C06.sweep_unique_dirichlet D.op D.nc (by omega) (by omega) heven hbc he,
    fun f u hu => C06.fixed_point D.op D.nc f u fun i j hi hj => hu i j hi hj trivial,
    fun f g x y w F X Y hF hX hY hAw =>
      isSweep_shift D.op D.nc (by omega) f g x y w F X Y hF hX hY fun i j hi hj => hAw i j hi hj trivial⟩

/-- the extrapolated sweep (`nr` odd as it requires); the coarse nodes are not relaxed -/
theorem exSweepLaw (D : LevelData K) (h : LevelHyp D) (hodd : D.op.nr % 2 = 1) (tiny : K → Bool) (ht : tiny 1 = false) :
    SweepLaw D.op (ExSmootherCode.sweep D.op tiny D.nc) (IsExSweep D.op D.nc) (fun i j => coarseNode i j = false) := by
  obtain ⟨hnt, heven, hnc, hnr, hbc, he⟩ := h
  exact ⟨fun f x => exsweep_total_dirichlet D.op D.nc tiny ht f x hbc, C07c.sweep_size D.op D.nc tiny,
    fun f x y hx hy => C07c.code_exsweep_isExSweep D.op D.nc tiny f x y hnt heven hnc hnr hodd hx
      (exLinesOK_dirichlet D.op D.nc hnr hnc hnt heven hbc he) hy,
    exsweep_unique_dirichlet D.op D.nc (by omega) (by omega) heven hbc he, C07.ex_fixed_point D.op D.nc,
    isExSweep_shift D.op D.nc (by omega)⟩

end Ordered
end Concrete
