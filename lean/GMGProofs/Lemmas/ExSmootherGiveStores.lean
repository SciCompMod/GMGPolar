import GMGModel.ExSmootherGiveCode
import GMGProofs.Lemmas.GiveCommon
import GMGProofs.Lemmas.ExSmootherCodeLemmas
import GMGProofs.Lemmas.Scatter
/-!
# Code-level extrapolated smoother (give): the stores of the assembly and the memory they go to

Memory maps arrays (`Arr`) to slots `(column, value)`; a store hits no branch of its macro (`skip`), addresses a slot (column
overwritten, value accumulated), or is out of bounds.  If every store fits the allocated shape the fold succeeds and every
slot evolves on its own as a `Scatter.cellFold`, so its value is the `Scatter.total` of the stores addressed to it.  A store
into the inner matrix carries the column index its slot is meant for (`Center`: the row itself, `Left`: the antipode).
-/
namespace ExSmootherGiveCode
open Stencil SparseLU SmootherCode Scalar Finset GiveCommon
open DirectCode (Pos)
open DirectGiveCode (massValue diagValue nodeOrder)
open ExSmootherCode (innerNnz)
variable {K : Type} [_root_.Field K]

/-- decide a linear-arithmetic proposition in the current leaf (as a hypothesis for `simp [*]`), if `omega` can -/
macro "harvest " t:term : tactic =>
  `(tactic| first | (have : $t := by omega) | (have : ¬ $t := by omega) | skip)

/-- the main, sub-diagonal and corner slot of `UPDATE_TRIDIAGONAL_ELEMENT`, seen through any function of the target -/
theorem apply_triTarget {β : Sort _} (F : Tgt → β) (m s c : Arr) (n r col : Nat) :
    F (triTarget m s c n r col) = if r = col then F (.slot m r) else if r + 1 = col then F (.slot s r)
      else if r = 0 ∧ col + 1 = n then F (.slot c 0) else F .skip := by
  unfold triTarget
  split_ifs <;> rfl

section mem
variable (o : Op K) (nc : Nat)

def runStores (m0 : Mem K) (us : List (Upd K)) : Option (Mem K) :=
  us.foldl (fun st u => st.bind fun m => applyUpd o nc m u) (some m0)

abbrev Hits (a : Arr) (q : Nat) (u : Upd K) : Prop := target o nc u = .slot a q

def slotSum (us : List (Upd K)) (a : Arr) (q : Nat) : K :=
  (us.map fun u => if target o nc u = .slot a q then u.val else 0).sum

theorem slotSum_eq_total (us : List (Upd K)) (a : Arr) (q : Nat) :
    slotSum o nc us a q = Scatter.total (Hits o nc a q) Upd.val us := rfl

/-- a target exists in a memory: no branch hit, or a slot that was allocated -/
def Tgt.In (m : Mem K) : Tgt → Prop
  | .skip => True
  | .oob => False
  | .slot a q => q < (m a).length

def Fits (m : Mem K) (u : Upd K) : Prop := (target o nc u).In m

theorem applyUpd_spec (m : Mem K) (u : Upd K) (h : Fits o nc m u) :
    ∃ m', applyUpd o nc m u = some m' ∧ (∀ a, (m' a).length = (m a).length) ∧
      ∀ a q, (m' a).getD q (0, Scalar.n 0)
        = if Hits o nc a q u then (u.col, ((m a).getD q (0, Scalar.n 0)).2 + u.val)
          else (m a).getD q (0, Scalar.n 0) := by
  unfold Fits at h
  unfold applyUpd Hits
  cases ht : target o nc u with
  | skip => exact ⟨m, rfl, fun _ => rfl, fun a q => (if_neg Tgt.noConfusion).symm⟩
  | oob => rw [ht] at h; exact h.elim
  | slot a0 q0 =>
    rw [ht] at h
    refine ⟨_, if_pos h, fun a => ?_, fun a q => ?_⟩
    · by_cases ha : a = a0
      · subst ha; simp
      · simp [ha]
    · by_cases ha : a = a0
      · subst ha
        rw [if_pos rfl, DirectGiveCode.getD_set']
        by_cases hqq : q0 = q
        · subst hqq
          rw [if_pos ⟨rfl, h⟩, if_pos rfl]
        · rw [if_neg fun hh => hqq hh.1, if_neg fun hh => hqq (Tgt.slot.inj hh).2]
      · rw [if_neg ha, if_neg fun hh => ha (Tgt.slot.inj hh).1.symm]

theorem run_spec : ∀ (us : List (Upd K)) (m0 : Mem K), (∀ u ∈ us, Fits o nc m0 u) →
    ∃ mf, runStores o nc m0 us = some mf ∧ (∀ a, (mf a).length = (m0 a).length) ∧
      ∀ a q, (mf a).getD q (0, Scalar.n 0)
        = Scatter.cellFold (Hits o nc a q) Upd.col Upd.val ((m0 a).getD q (0, Scalar.n 0)) us := by
  intro us
  induction us with
  | nil => intro m0 _; exact ⟨m0, rfl, fun _ => rfl, fun _ _ => rfl⟩
  | cons u us ih =>
    intro m0 hin
    obtain ⟨m1, h1, hl1, hd1⟩ := applyUpd_spec o nc m0 u (hin u List.mem_cons_self)
    obtain ⟨mf, h2, hl2, hd2⟩ := ih m1 fun w hw => by
      have := hin w (List.mem_cons_of_mem _ hw)
      unfold Fits at this ⊢
      cases ht : target o nc w with
      | slot a q =>
        rw [ht] at this
        show q < (m1 a).length
        rw [hl1]
        exact this

      | _ => rw [ht] at this; exact this
    refine ⟨mf, ?_, fun a => by rw [hl2, hl1], fun a q => ?_⟩
    · unfold runStores
      rw [List.foldl_cons]
      show List.foldl _ (applyUpd o nc m0 u) us = _
      rw [h1]
      exact h2
    · rw [hd2, hd1]
      rfl

theorem slotSum_flatMap {β : Type} (l : List β) (g : β → List (Upd K)) (a : Arr) (q : Nat) :
    slotSum o nc (l.flatMap g) a q = (l.map fun p => slotSum o nc (g p) a q).sum :=
  Scatter.total_flatMap ..

end mem

theorem vals_eq (m : Mem K) (a : Arr) :
    vals m a = (List.range (m a).length).map fun q => ((m a).getD q (0, Scalar.n 0)).2 := by
  unfold vals
  apply List.ext_getElem
  · simp
  · intro i h1 h2
    simp only [List.getElem_map, List.getElem_range]
    rw [List.getD_eq_getElem?_getD, List.getElem?_eq_getElem (by simpa using h1)]
    rfl

/-- the values of `stencil_center_`, `stencil_center_left_` in `extrapolatedSmootherGive.h` -/
structure GoodTables (T : Tables) : Prop where
  center : T.center = [-1, -1, -1, -1, 0, -1, -1, -1, -1]
  centerLeft : T.centerLeft = [-1, -1, -1, 1, 0, -1, -1, -1, -1]

section
variable (T : Tables) (o : Op K) (nc : Nat)

/-! ### the position classes of `NODE_BUILD_SMOOTHER_GIVE` -/

theorem nodeUpdates_circ {i : Nat} (j : Nat) (h : 0 < i ∧ i + 1 < nc) : nodeUpdates T o nc i j =
    if i % 2 = 1 then
      circleTriRows o i j ++
      (if j % 2 = 1 then
        (if i = 1 then (if o.bc = false then [.csr j (off T o j .Center) j (coeff1 o i j * o.arr i j)] else [])
         else [.cdiag ((i - 1) / 2) j (coeff1 o i j * o.arr i j)]) ++
        [.cdiag ((i + 1) / 2) j (coeff2 o i j * o.arr i j)]
       else [])
    else
      (if j % 2 = 1 then [.cdiag (i / 2) j (massValue o i j), .cdiag (i / 2) j (diagValue o i j)]
       else [.cdiag (i / 2) j (n 1), .cdiag (i / 2) (jm o j) (coeff3 o i j * o.att i j),
             .cdiag (i / 2) (jp o j) (coeff4 o i j * o.att i j)]) ++
      [.ctri ((i - 1) / 2) j j (coeff1 o i j * o.arr i j), .ctri ((i + 1) / 2) j j (coeff2 o i j * o.arr i j)] := by
  unfold nodeUpdates
  exact if_pos h

theorem nodeUpdates_rad {i : Nat} (j : Nat) (h : nc < i ∧ i + 2 < o.nr) : nodeUpdates T o nc i j =
    if j % 2 = 1 then
      [.rtri (j / 2) (i - nc) (i - nc) (massValue o i j),
       .rtri (j / 2) (i - nc) (i - nc - 1) (-coeff1 o i j * o.arr i j),
       .rtri (j / 2) (i - nc) (i - nc + 1) (-coeff2 o i j * o.arr i j),
       .rtri (j / 2) (i - nc) (i - nc) (diagValue o i j),
       .rtri (j / 2) (i - nc - 1) (i - nc) (-coeff1 o i j * o.arr i j),
       .rtri (j / 2) (i - nc - 1) (i - nc - 1) (coeff1 o i j * o.arr i j),
       .rtri (j / 2) (i - nc + 1) (i - nc) (-coeff2 o i j * o.arr i j),
       .rtri (j / 2) (i - nc + 1) (i - nc + 1) (coeff2 o i j * o.arr i j)] ++
      (if i % 2 = 1 then [.rdiag (jm o j / 2) (i - nc) (coeff3 o i j * o.att i j),
                          .rdiag (jp o j / 2) (i - nc) (coeff4 o i j * o.att i j)] else [])
    else
      (if i % 2 = 1 then [.rdiag (j / 2) (i - nc) (massValue o i j), .rdiag (j / 2) (i - nc) (diagValue o i j)]
       else [.rdiag (j / 2) (i - nc) (n 1), .rdiag (j / 2) (i - nc - 1) (coeff1 o i j * o.arr i j),
             .rdiag (j / 2) (i - nc + 1) (coeff2 o i j * o.arr i j)]) ++
      [.rtri (jm o j / 2) (i - nc) (i - nc) (coeff3 o i j * o.att i j),
       .rtri (jp o j / 2) (i - nc) (i - nc) (coeff4 o i j * o.att i j)] := by
  unfold nodeUpdates
  exact (if_neg (by omega)).trans (if_pos h)

theorem nodeUpdates_zero (j : Nat) (hnc : 3 ≤ nc) : nodeUpdates T o nc 0 j =
    if o.bc then [.csr j (off T o j .Center) j (n 1), .ctri ((0 + 1) / 2) j j (coeff2 o 0 j * o.arr 0 j)]
    else if j % 2 = 1 then
      [.csr j (off T o j .Center) j (massValue o 0 j),
       .csr j (off T o j .Left) (ja o j) (-coeff1 o 0 j * o.arr 0 j),
       .csr j (off T o j .Center) j (diagValue o 0 j),
       .csr (ja o j) (off T o j .Left) j (-coeff1 o 0 j * o.arr 0 j),
       .csr (ja o j) (off T o j .Center) (ja o j) (coeff1 o 0 j * o.arr 0 j),
       .ctri ((0 + 1) / 2) j j (coeff2 o 0 j * o.arr 0 j)]
    else
      [.csr j (off T o j .Center) j (n 1),
       .csr (jm o j) (off T o j .Center) (jm o j) (coeff3 o 0 j * o.att 0 j),
       .csr (jp o j) (off T o j .Center) (jp o j) (coeff4 o 0 j * o.att 0 j),
       .ctri ((0 + 1) / 2) j j (coeff2 o 0 j * o.arr 0 j)] := by
  unfold nodeUpdates
  exact (if_neg (by omega)).trans <| (if_neg (by omega)).trans <| if_pos rfl

theorem nodeUpdates_lastCirc {i : Nat} (j : Nat) (hnc : 3 ≤ nc) (h : i + 1 = nc) :
    nodeUpdates T o nc i j =
    if i % 2 = 1 then
      if j % 2 = 1 then
        circleTriRows o i j ++ [.cdiag ((i - 1) / 2) j (coeff1 o i j * o.arr i j), .rtri (j / 2) 0 0 (coeff2 o i j * o.arr i j)]
      else circleTriRows o i j
    else
      if j % 2 = 1 then
        [.cdiag (i / 2) j (massValue o i j), .cdiag (i / 2) j (diagValue o i j),
         .ctri ((i - 1) / 2) j j (coeff1 o i j * o.arr i j), .rtri (j / 2) 0 0 (coeff2 o i j * o.arr i j)]
      else
        [.cdiag (i / 2) j (n 1), .cdiag (i / 2) (jm o j) (coeff3 o i j * o.att i j),
         .cdiag (i / 2) (jp o j) (coeff4 o i j * o.att i j),
         .ctri ((i - 1) / 2) j j (coeff1 o i j * o.arr i j), .rdiag (j / 2) 0 (coeff2 o i j * o.arr i j)] := by
  unfold nodeUpdates
  exact (if_neg (by omega)).trans <| (if_neg (by omega)).trans <| (if_neg (by omega)).trans <| if_pos h

theorem nodeUpdates_firstRad (j : Nat) (hnc : 3 ≤ nc) : nodeUpdates T o nc nc j =
    if j % 2 = 1 then
      if nc % 2 = 1 then
        [.rtri (j / 2) 0 0 (massValue o nc j),
         .rtri (j / 2) 0 1 (-coeff2 o nc j * o.arr nc j),
         .rtri (j / 2) 0 0 (diagValue o nc j),
         .cdiag ((nc - 1) / 2) j (coeff1 o nc j * o.arr nc j),
         .rtri (j / 2) 1 0 (-coeff2 o nc j * o.arr nc j),
         .rtri (j / 2) 1 1 (coeff2 o nc j * o.arr nc j),
         .rdiag (jm o j / 2) 0 (coeff3 o nc j * o.att nc j),
         .rdiag (jp o j / 2) 0 (coeff4 o nc j * o.att nc j)]
      else
        [.rtri (j / 2) 0 0 (massValue o nc j),
         .rtri (j / 2) 0 1 (-coeff2 o nc j * o.arr nc j),
         .rtri (j / 2) 0 0 (diagValue o nc j),
         .ctri ((nc - 1) / 2) j j (coeff1 o nc j * o.arr nc j),
         .rtri (j / 2) 1 0 (-coeff2 o nc j * o.arr nc j),
         .rtri (j / 2) 1 1 (coeff2 o nc j * o.arr nc j)]
    else
      if nc % 2 = 1 then
        [.rdiag (j / 2) 0 (massValue o nc j), .rdiag (j / 2) 0 (diagValue o nc j),
         .rtri (jm o j / 2) 0 0 (coeff3 o nc j * o.att nc j), .rtri (jp o j / 2) 0 0 (coeff4 o nc j * o.att nc j)]
      else
        [.rdiag (j / 2) 0 (n 1),
         .ctri ((nc - 1) / 2) j j (coeff1 o nc j * o.arr nc j),
         .rdiag (j / 2) 1 (coeff2 o nc j * o.arr nc j),
         .rtri (jm o j / 2) 0 0 (coeff3 o nc j * o.att nc j), .rtri (jp o j / 2) 0 0 (coeff4 o nc j * o.att nc j)] := by
  unfold nodeUpdates
  exact (if_neg (by omega)).trans <| (if_neg (by omega)).trans <| (if_neg (by omega)).trans <| (if_neg (by omega)).trans <|
    if_pos rfl

theorem nodeUpdates_penult {i : Nat} (j : Nat) (hnc : 3 ≤ nc) (hnr : nc + 3 ≤ o.nr) (h : i + 2 = o.nr) :
    nodeUpdates T o nc i j =
    if j % 2 = 1 then
      [.rtri (j / 2) (i - nc) (i - nc) (massValue o i j),
       .rtri (j / 2) (i - nc) (i - nc - 1) (-coeff1 o i j * o.arr i j),
       .rtri (j / 2) (i - nc) (i - nc) (diagValue o i j),
       .rtri (j / 2) (i - nc - 1) (i - nc) (-coeff1 o i j * o.arr i j),
       .rtri (j / 2) (i - nc - 1) (i - nc - 1) (coeff1 o i j * o.arr i j),
       .rdiag (jm o j / 2) (i - nc) (coeff3 o i j * o.att i j),
       .rdiag (jp o j / 2) (i - nc) (coeff4 o i j * o.att i j)]
    else
      [.rdiag (j / 2) (i - nc) (massValue o i j), .rdiag (j / 2) (i - nc) (diagValue o i j),
       .rtri (jm o j / 2) (i - nc) (i - nc) (coeff3 o i j * o.att i j),
       .rtri (jp o j / 2) (i - nc) (i - nc) (coeff4 o i j * o.att i j)] := by
  unfold nodeUpdates
  exact (if_neg (by omega)).trans <| (if_neg (by omega)).trans <| (if_neg (by omega)).trans <| (if_neg (by omega)).trans <|
    (if_neg (by omega)).trans <| if_pos h

theorem nodeUpdates_last {i : Nat} (j : Nat) (hnc : 3 ≤ nc) (hnr : nc + 3 ≤ o.nr) (h : i + 1 = o.nr) :
    nodeUpdates T o nc i j =
      if j % 2 = 1 then [.rtri (j / 2) (i - nc) (i - nc) (n 1), .rtri (j / 2) (i - nc - 1) (i - nc - 1) (coeff1 o i j * o.arr i j)]
      else [.rdiag (j / 2) (i - nc) (n 1), .rdiag (j / 2) (i - nc - 1) (coeff1 o i j * o.arr i j)] := by
  unfold nodeUpdates
  exact (if_neg (by omega)).trans <| (if_neg (by omega)).trans <| (if_neg (by omega)).trans <| (if_neg (by omega)).trans <|
    (if_neg (by omega)).trans <| (if_neg (by omega)).trans <| if_pos h

theorem nodeUpdates_out {i : Nat} (j : Nat) (hnc : 3 ≤ nc) (hnr : nc + 3 ≤ o.nr) (h : o.nr ≤ i) :
    nodeUpdates T o nc i j = [] := by
  unfold nodeUpdates
  exact (if_neg (by omega)).trans <| (if_neg (by omega)).trans <| (if_neg (by omega)).trans <| (if_neg (by omega)).trans <|
    (if_neg (by omega)).trans <| (if_neg (by omega)).trans <| if_neg (by omega)

section
omit [_root_.Field K]

theorem off_center (hT : GoodTables T) (j : Nat) : off T o j .Center = 0 := by
  unfold off stencilOf
  rw [hT.center, hT.centerLeft]
  split
  · rfl
  · split <;> rfl

theorem off_left (hT : GoodTables T) (j : Nat) (hj : j % 2 = 1) (hb : o.bc = false) : off T o j .Left = 1 := by
  unfold off stencilOf
  rw [hT.center, hT.centerLeft, if_neg (by omega), if_pos hb]
  rfl

/-- the branches of the macro's `else if` chain -/
theorem branches (i : Nat) (hi : i < o.nr) : (0 < i ∧ i + 1 < nc) ∨ (nc < i ∧ i + 2 < o.nr) ∨ i = 0 ∨ i + 1 = nc ∨ i = nc
    ∨ i + 2 = o.nr ∨ i + 1 = o.nr := by omega

end

omit [_root_.Field K] in
theorem ja_parity (h4 : o.nt % 4 = 0) {j : Nat} (hj : j < o.nt) : ja o j % 2 = j % 2 := by
  rw [ja_eq o (by omega) hj]; split <;> omega

/-! ### the allocated shape -/

def alloc : Arr → Nat
  | .ctMain k => if k < nc / 2 then o.nt else 0
  | .ctSub k => if k < nc / 2 then o.nt - 1 else 0
  | .ctCorner k => if k < nc / 2 then 1 else 0
  | .cd k => if 0 < k ∧ k < nc - nc / 2 then o.nt else 0
  | .rtMain k => if k < o.nt / 2 then o.nr - nc else 0
  | .rtSub k => if k < o.nt / 2 then o.nr - nc - 1 else 0
  | .rtCorner k => if k < o.nt / 2 then 1 else 0
  | .rd k => if k < o.nt / 2 then o.nr - nc else 0
  | .inner r => if r < o.nt then innerNnz o r else 0

theorem init_length (a : Arr) : (init o nc a).length = alloc o nc a := by
  cases a <;> simp only [init, alloc] <;> split <;> simp

theorem getD_replicate_self {β : Type} (n q : Nat) (x : β) : (List.replicate n x).getD q x = x := by
  rw [List.getD_eq_getElem?_getD, List.getElem?_replicate]; split <;> rfl

theorem init_getD (a : Arr) (q : Nat) : (init o nc a).getD q (0, Scalar.n 0) = (0, Scalar.n 0) := by
  cases a <;> simp only [init] <;> split <;>
    first | exact getD_replicate_self _ _ _ | exact getD_replicate_self 1 _ _ | rfl

theorem lt_ite_zero (c : Prop) [Decidable c] (q n : Nat) : q < (if c then n else 0) ↔ c ∧ q < n := by
  split <;> simp [*]

/-! ### stores the assembly may issue -/

/-- an allocated slot (or no slot at all); in the inner matrix the column index written is the one the slot is meant for -/
def Tgt.OK (col : Nat) : Tgt → Prop
  | .skip => True
  | .oob => False
  | .slot a q => q < alloc o nc a ∧ ∀ r, a = .inner r → col = if q = 0 then r else ja o r

def StoreOK (u : Upd K) : Prop := (target o nc u).OK o nc u.col

theorem StoreOK.fits {u : Upd K} (h : StoreOK o nc u) : Fits o nc (init o nc) u := by
  unfold StoreOK at h
  unfold Fits
  cases ht : target o nc u with
  | slot a q =>
    rw [ht] at h
    show q < _
    rw [init_length]
    exact h.1
  | _ => rw [ht] at h; exact h

section
omit [_root_.Field K]

theorem ok_tri {mn sb cr : Arr} {n r c : Nat} (col : Nat) (hm : alloc o nc mn = n) (hs : alloc o nc sb = n - 1)
    (hc' : alloc o nc cr = 1) (hi : ∀ r, mn ≠ .inner r ∧ sb ≠ .inner r ∧ cr ≠ .inner r) (hr : r < n) (hc : c < n) :
    (triTarget mn sb cr n r c).OK o nc col := by
  rw [apply_triTarget (Tgt.OK o nc col)]
  split_ifs
  · exact ⟨hm ▸ hr, fun r h => absurd h (hi r).1⟩
  · exact ⟨by rw [hs]; omega, fun r h => absurd h (hi r).2.1⟩
  · exact ⟨by rw [hc']; omega, fun r h => absurd h (hi r).2.2⟩
  · trivial

theorem ok_ctri (k r c : Nat) (v : K) (hk : k < nc / 2) (hr : r < o.nt) (hc : c < o.nt) :
    StoreOK o nc (.ctri k r c v) :=
  ok_tri o nc 0 (if_pos hk) (if_pos hk) (if_pos hk) (fun _ => ⟨nofun, nofun, nofun⟩) hr hc

theorem ok_rtri (k r c : Nat) (v : K) (hk : k < o.nt / 2) (hr : r < o.nr - nc) (hc : c < o.nr - nc) :
    StoreOK o nc (.rtri k r c v) :=
  ok_tri o nc 0 (if_pos hk) (if_pos hk) (if_pos hk) (fun _ => ⟨nofun, nofun, nofun⟩) hr hc

theorem ok_cdiag (k r : Nat) (v : K) (hk0 : 0 < k) (hk : k < nc - nc / 2) (hr : r < o.nt) :
    StoreOK o nc (.cdiag k r v) :=
  ⟨by show r < alloc o nc (.cd k); rw [alloc, if_pos ⟨hk0, hk⟩]; exact hr, nofun⟩

theorem ok_rdiag (k r : Nat) (v : K) (hk : k < o.nt / 2) (hr : r < o.nr - nc) : StoreOK o nc (.rdiag k r v) :=
  ⟨by show r < alloc o nc (.rd k); rw [alloc, if_pos hk]; exact hr, nofun⟩

theorem ok_csr_center (hT : GoodTables T) (j r : Nat) (v : K) (hr : r < o.nt) :
    StoreOK o nc (.csr r (off T o j .Center) r v) := by
  rw [off_center T o hT]
  refine ⟨?_, fun r' h => by cases h; rfl⟩
  show 0 < alloc o nc (.inner r)
  rw [alloc, if_pos hr]
  unfold innerNnz
  split_ifs <;> omega

/-- across the origin the `Left` slot exists in the rows of the odd nodes -/
theorem ok_csr_left (hT : GoodTables T) (j r c : Nat) (v : K) (hj : j % 2 = 1) (hb : o.bc = false) (hr : r < o.nt)
    (hro : r % 2 = 1) (hc : c = ja o r) : StoreOK o nc (.csr r (off T o j .Left) c v) := by
  rw [off_left T o hT j hj hb]
  refine ⟨?_, fun r' h => by cases h; exact hc⟩
  show 1 < alloc o nc (.inner r)
  rw [alloc, if_pos hr, innerNnz, hb, if_neg nofun, if_neg (by omega)]
  omega

end

/-- every store of every node is one the assembly may issue (`nt` divisible by 4 across the origin: the antipode of an odd
    node is odd, its row has the `Left` slot) -/
theorem ok_node (hT : GoodTables T) (hnc : 3 ≤ nc) (hnr : nc + 3 ≤ o.nr) (hnt : 2 ≤ o.nt) (heven : o.nt % 2 = 0)
    (h4 : o.bc = false → o.nt % 4 = 0) (i j : Nat) (hi : i < o.nr) (hj : j < o.nt) :
    ∀ u ∈ nodeUpdates T o nc i j, StoreOK o nc u := by
  have hjm : jm o j < o.nt := jm_lt o (by omega) j
  have hjp : jp o j < o.nt := jp_lt o (by omega) j
  have hj2 : j / 2 < o.nt / 2 := by omega
  have hm2 : jm o j / 2 < o.nt / 2 := by omega
  have hp2 : jp o j / 2 < o.nt / 2 := by omega
  have z0 : 0 < o.nr - nc := by omega
  have z1 : 1 < o.nr - nc := by omega
  rcases branches o nc i hi with h | h | h | h | h | h | h
  · rw [nodeUpdates_circ T o nc j h, circleTriRows]
    by_cases hio : i % 2 = 1
    · have a1 : i / 2 < nc / 2 := by omega
      have a2 : 0 < (i + 1) / 2 := by omega
      have a3 : (i + 1) / 2 < nc - nc / 2 := by omega
      have a4 : (i - 1) / 2 < nc - nc / 2 := by omega
      rw [if_pos hio]
      by_cases h1 : i = 1
      · simp only [if_pos h1]
        split_ifs <;>
          simp (disch := assumption) only [List.cons_append, List.nil_append, List.append_nil, List.forall_mem_cons,
            ok_ctri, ok_cdiag, ok_csr_center T o nc hT, and_true, List.not_mem_nil, false_imp_iff, implies_true]
      · have a5 : 0 < (i - 1) / 2 := by omega
        simp only [if_neg h1]
        split_ifs <;>
          simp (disch := assumption) only [List.cons_append, List.nil_append, List.append_nil, List.forall_mem_cons,
            ok_ctri, ok_cdiag, and_true, List.not_mem_nil, false_imp_iff, implies_true]
    · have b1 : 0 < i / 2 := by omega
      have b2 : i / 2 < nc - nc / 2 := by omega
      have b3 : (i - 1) / 2 < nc / 2 := by omega
      have b4 : (i + 1) / 2 < nc / 2 := by omega
      rw [if_neg hio]
      split_ifs <;>
        simp (disch := assumption) only [List.cons_append, List.nil_append, List.forall_mem_cons, ok_ctri, ok_cdiag,
          and_true, List.not_mem_nil, false_imp_iff, implies_true]
  · have c1 : i - nc < o.nr - nc := by omega
    have c2 : i - nc - 1 < o.nr - nc := by omega
    have c3 : i - nc + 1 < o.nr - nc := by omega
    rw [nodeUpdates_rad T o nc j h]
    split_ifs <;>
      simp (disch := assumption) only [List.cons_append, List.nil_append, List.append_nil, List.forall_mem_cons, ok_rtri,
        ok_rdiag, and_true, List.not_mem_nil, false_imp_iff, implies_true]
  · have a1 : (0 + 1) / 2 < nc / 2 := by omega
    rw [h, nodeUpdates_zero T o nc j hnc]
    cases hb : o.bc
    · rw [if_neg nofun]
      by_cases hjo : j % 2 = 1
      · have hja : ja o j < o.nt := ja_lt o (by omega) j
        have pa := ja_parity o (h4 hb) hj
        rw [if_pos hjo]
        simp (disch := assumption) only [List.forall_mem_cons, ok_ctri, ok_csr_center T o nc hT, true_and, and_true,
          List.not_mem_nil, false_imp_iff, implies_true]
        exact ⟨ok_csr_left T o nc hT j j _ _ hjo hb hj hjo rfl,
          ok_csr_left T o nc hT j _ j _ hjo hb hja (by omega) (ja_ja o heven hj).symm⟩
      · rw [if_neg hjo]
        simp (disch := assumption) only [List.forall_mem_cons, ok_ctri, ok_csr_center T o nc hT, and_true,
          List.not_mem_nil, false_imp_iff, implies_true]
    · rw [if_pos rfl]
      simp (disch := assumption) only [List.forall_mem_cons, ok_ctri, ok_csr_center T o nc hT, and_true,
        List.not_mem_nil, false_imp_iff, implies_true]
  · rw [nodeUpdates_lastCirc T o nc j hnc h, circleTriRows]
    by_cases hio : i % 2 = 1
    · have a1 : i / 2 < nc / 2 := by omega
      have a4 : (i - 1) / 2 < nc - nc / 2 := by omega
      have a5 : 0 < (i - 1) / 2 := by omega
      rw [if_pos hio]
      split_ifs <;>
        simp (disch := assumption) only [List.cons_append, List.nil_append, List.forall_mem_cons, ok_ctri, ok_cdiag,
          ok_rtri, and_true, List.not_mem_nil, false_imp_iff, implies_true]
    · have b1 : 0 < i / 2 := by omega
      have b2 : i / 2 < nc - nc / 2 := by omega
      have b3 : (i - 1) / 2 < nc / 2 := by omega
      rw [if_neg hio]
      split_ifs <;>
        simp (disch := assumption) only [List.forall_mem_cons, ok_ctri, ok_cdiag, ok_rtri, ok_rdiag, and_true,
          List.not_mem_nil, false_imp_iff, implies_true]
  · rw [h, nodeUpdates_firstRad T o nc j hnc]
    by_cases hio : nc % 2 = 1
    · have a4 : (nc - 1) / 2 < nc - nc / 2 := by omega
      have a5 : 0 < (nc - 1) / 2 := by omega
      simp only [if_pos hio]
      split_ifs <;>
        simp (disch := assumption) only [List.forall_mem_cons, ok_cdiag, ok_rtri, ok_rdiag, and_true, List.not_mem_nil,
          false_imp_iff, implies_true]
    · have b3 : (nc - 1) / 2 < nc / 2 := by omega
      simp only [if_neg hio]
      split_ifs <;>
        simp (disch := assumption) only [List.forall_mem_cons, ok_ctri, ok_rtri, ok_rdiag, and_true, List.not_mem_nil,
          false_imp_iff, implies_true]
  · have c1 : i - nc < o.nr - nc := by omega
    have c2 : i - nc - 1 < o.nr - nc := by omega
    rw [nodeUpdates_penult T o nc j hnc hnr h]
    split_ifs <;>
      simp (disch := assumption) only [List.forall_mem_cons, ok_rtri, ok_rdiag, and_true, List.not_mem_nil,
        false_imp_iff, implies_true]
  · have c1 : i - nc < o.nr - nc := by omega
    have c2 : i - nc - 1 < o.nr - nc := by omega
    rw [nodeUpdates_last T o nc j hnc hnr h]
    split_ifs <;>
      simp (disch := assumption) only [List.forall_mem_cons, ok_rtri, ok_rdiag, and_true, List.not_mem_nil,
        false_imp_iff, implies_true]

omit [_root_.Field K] in
theorem nodeOrder_fst (hnr : nc ≤ o.nr) : ∀ p ∈ nodeOrder o nc, p.1 < o.nr := by
  intro p hp
  unfold DirectGiveCode.nodeOrder at hp
  rcases List.mem_append.mp hp with hp | hp
  · obtain ⟨a, ha, hp⟩ := List.mem_flatMap.mp hp
    obtain ⟨b, _, rfl⟩ := List.mem_map.mp hp
    have := List.mem_range.mp ha
    show a < o.nr
    omega
  · obtain ⟨b, _, hp⟩ := List.mem_flatMap.mp hp
    obtain ⟨t, ht, rfl⟩ := List.mem_map.mp hp
    have := List.mem_range.mp ht
    show nc + t < o.nr
    omega

theorem allUpdates_ok (hT : GoodTables T) (hnc : 3 ≤ nc) (hnr : nc + 3 ≤ o.nr) (hnt : 2 ≤ o.nt)
    (heven : o.nt % 2 = 0) (h4 : o.bc = false → o.nt % 4 = 0) : ∀ u ∈ allUpdates T o nc, StoreOK o nc u := by
  intro u hu
  obtain ⟨p, hp, hu⟩ := List.mem_flatMap.mp hu
  exact ok_node T o nc hT hnc hnr hnt heven h4 p.1 p.2 (nodeOrder_fst o nc (by omega) p hp)
    (DirectGiveCode.nodeOrder_snd o nc p hp) u hu

theorem assemble_spec (hT : GoodTables T) (hnc : 3 ≤ nc) (hnr : nc + 3 ≤ o.nr) (hnt : 2 ≤ o.nt)
    (heven : o.nt % 2 = 0) (h4 : o.bc = false → o.nt % 4 = 0) :
    ∃ mf, assemble T o nc = some mf ∧ (∀ a, (mf a).length = alloc o nc a) ∧
      ∀ a q, (mf a).getD q (0, Scalar.n 0)
        = Scatter.cellFold (Hits o nc a q) Upd.col Upd.val (0, Scalar.n 0) (allUpdates T o nc) := by
  obtain ⟨mf, h1, h2, h3⟩ := run_spec o nc (allUpdates T o nc) (init o nc)
    fun u hu => (allUpdates_ok T o nc hT hnc hnr hnt heven h4 u hu).fits
  exact ⟨mf, h1, fun a => by rw [h2, init_length], fun a q => by rw [h3, init_getD]⟩

/-! ### slots and matrix entries -/

/-- where an allocated slot can be recovered (`S`) from the matrix entry `E` says it stores, the total of a slot is the total
    of its entry -/
theorem slotSum_entry {β : Type} [DecidableEq β] (E : Arr → Nat → Option β) (S : β → Arr × Nat)
    (hS : ∀ {a q e}, E a q = some e → q < alloc o nc a → S e = (a, q))
    {us : List (Upd K)} (hus : ∀ u ∈ us, StoreOK o nc u) {a : Arr} {q : Nat} {e : β} (hd : E a q = some e)
    (hq : q < alloc o nc a) :
    slotSum o nc us a q
      = Scatter.total (fun u => (match target o nc u with | .slot a q => E a q | _ => none) = some e) Upd.val us := by
  rw [slotSum_eq_total]
  unfold Scatter.total
  congr 1
  apply List.map_congr_left
  intro u hu
  beta_reduce
  have hok := hus u hu
  unfold StoreOK at hok
  by_cases ht : target o nc u = .slot a q
  · rw [if_pos ht, if_pos (by rw [ht]; exact hd)]
  · rw [if_neg ht, if_neg]
    intro hdo
    cases htt : target o nc u with
    | slot a' q' =>
      rw [htt] at hdo hok
      obtain ⟨rfl, rfl⟩ := Prod.mk.inj ((hS hd hq).symm.trans (hS hdo hok.1))
      exact ht htt
    | _ => rw [htt] at hdo; cases hdo

theorem total_allUpdates (hnc : 3 ≤ nc) (hnr : nc + 3 ≤ o.nr) (hit : Upd K → Prop) [DecidablePred hit] :
    Scatter.total hit Upd.val (allUpdates T o nc)
      = ∑ i ∈ range o.nr, ∑ j ∈ range o.nt, Scatter.total hit Upd.val (nodeUpdates T o nc i j) := by
  unfold allUpdates
  rw [Scatter.total_flatMap]
  exact DirectGiveCode.nodeOrder_sum o nc (fun i j => Scatter.total hit Upd.val (nodeUpdates T o nc i j))
    fun i j hi => by rw [nodeUpdates_out T o nc j hnc hnr hi]; rfl


end
end ExSmootherGiveCode
