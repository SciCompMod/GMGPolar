import GMGProofs.Lemmas.ConcreteOps
import GMGProofs.Props.C04g
import GMGProofs.Props.C06g
import GMGProofs.Props.C07g
import GMGProofs.Props.C03
/-!
# The operators of the GIVE strategy agree with the operators of the TAKE strategy on right-sized vectors

Both direct solvers hold the SAME CSR container: C04g gives the same dense entries and, slot by slot, the same column index; a row
without repeated columns is determined by its column list and its dense reading, hence the stored rows of the scatter assembly
ARE those of the gather assembly.  `PS` / `QSL`, "IF the vector is present it has the size of its level" (right-hand sides: on
the coarsest level only), is an invariant every operator of `Concrete.ops H` preserves without any hypothesis on the hierarchy;
a take sweep may leave through the sparse LU's exit (`none`), which then propagates through both families alike.  The four
operators in which `opsGive` differs from `ops` (smoother C06g, extrapolated smoother C07g, residual C03, direct solver C04g)
return the same value and need nothing of the right-hand side for that, so agreement holds with the weak predicate `QSL`.
-/
namespace Concrete

section DirectSolvers
open Stencil SparseLU DirectCode
variable {K : Type} [_root_.Field K]

theorem row_ext : ∀ (r r' : Row K), r.map (·.1) = r'.map (·.1) → Uniq r → (∀ k ∈ keys r, den r k = den r' k) → r = r'
  | [], [], _, _, _ => rfl
  | [], _ :: _, h, _, _ => by simp at h
  | _ :: _, [], h, _, _ => by simp at h
  | e :: r, e' :: r', h, hu, hd => by
      simp only [List.map_cons, List.cons.injEq] at h
      obtain ⟨h1, h2⟩ := h
      obtain ⟨hn, hu'⟩ := uniq_cons.mp hu
      have hv : e.2 = e'.2 := by
        have := hd e.1 (by simp)
        rw [den_cons, den_cons, if_pos rfl, if_pos h1.symm] at this
        exact this
      have ht : r = r' := by
        apply row_ext r r' h2 hu'
        intro k hk
        have hne : e.1 ≠ k := fun h => hn (h ▸ hk)
        have := hd k (by simp [hk])
        rw [den_cons, den_cons, if_neg hne, if_neg (by rw [← h1]; exact hne)] at this
        exact this
      rw [ht]
      congr 1
      exact Prod.ext h1 hv

theorem finalRows_eq_rowList (o : Op K) (hnr : 4 ≤ o.nr) (hnt : 4 ≤ o.nt) (heven : o.nt % 2 = 0)
    (hk : o.bc = false → ∀ j, j < o.nt → o.k (ja o j) = o.k j) (nc : Nat) :
    DirectGiveCode.finalRows C04g.genTablesGive o nc = rowList o := by
  have hg := DirectGiveCode.rows_closed C04g.genTablesGive o C04g.genTablesGive_good hnr (fun _ => heven) nc
  have hM : DirectGiveCode.assemble C04g.genTablesGive o nc =
      some (csrRows (o.nr * o.nt) (o.nr * o.nt) (DirectGiveCode.finalRows C04g.genTablesGive o nc)) := by
    unfold DirectGiveCode.assemble
    rw [hg]
    rfl
  unfold DirectGiveCode.finalRows rowList
  refine List.map_congr_left fun r hr => ?_
  obtain ⟨hi, hj⟩ := idx_decomp (List.mem_range.mp hr)
  have hrr : r / o.nt * o.nt + r % o.nt = r := Nat.div_add_mod' r o.nt
  generalize r / o.nt = i at hi hrr
  generalize r % o.nt = j at hj hrr
  subst hrr
  have hlt := (writes_nodes o hnt heven hi hj).1
  have hrow := DirectGiveCode.finalRows_getD C04g.genTablesGive o nc hi hj
  have hU := DirectGiveCode.uniq_finalRow C04g.genTablesGive o hnt heven nc hi hj
  -- same columns slot by slot (C04g), no column twice, same dense reading on them
  have hpat := C04g.give_take_same_pattern o hnr (fun _ => heven) nc _ _ hg (rows_eq C04c.genTables o C04c.genTables_good hnr)
    i j hi hj
  rw [hrow, rowList_getD o hi hj] at hpat
  refine row_ext _ _ hpat hU fun k hk' => ?_
  obtain ⟨e, he, rfl⟩ := List.mem_map.mp (hpat ▸ hk' : k ∈ (nodeRow o (writes o i j)).map (·.1))
  obtain ⟨w, hw, rfl⟩ := List.mem_map.mp he
  have hd := DirectGiveCode.give_entries C04g.genTablesGive o C04g.genTablesGive_good hnr hnt heven hk nc _ hM
    (s := w.2.1.1) hi hj (hlt w hw)
  rw [toDense_csrRows _ _ _ _ (by rw [DirectGiveCode.finalRows_length]; exact idx_lt hi hj) (by rw [hrow]; exact hU),
    hrow] at hd
  rw [hd, row_entries o hnt heven hi hj (hlt w hw)]

theorem give_assemble_eq_take (o : Op K) (hnr : 4 ≤ o.nr) (hnt : 4 ≤ o.nt) (heven : o.nt % 2 = 0)
    (hk : o.bc = false → ∀ j, j < o.nt → o.k (ja o j) = o.k j) (nc : Nat) :
    DirectGiveCode.assemble C04g.genTablesGive o nc = DirectCode.assemble C04c.genTables o := by
  unfold DirectGiveCode.assemble DirectCode.assemble
  rw [DirectGiveCode.rows_closed C04g.genTablesGive o C04g.genTablesGive_good hnr (fun _ => heven) nc,
    rows_eq C04c.genTables o C04c.genTables_good hnr, finalRows_eq_rowList o hnr hnt heven hk nc]

/-- **`DirectSolverGiveCustomLU` returns what `DirectSolverTakeCustomLU` returns** (the same list, or the same exit) -/
theorem give_solve_eq_take_solve (o : Op K) (hnr : 4 ≤ o.nr) (hnt : 4 ≤ o.nt) (heven : o.nt % 2 = 0)
    (hk : o.bc = false → ∀ j, j < o.nt → o.k (ja o j) = o.k j) (nc : Nat) (tiny : K → Bool) (b : List K) :
    DirectGiveCode.solve C04g.genTablesGive o nc tiny b = DirectCode.solve C04c.genTables o tiny b := by
  unfold DirectGiveCode.solve DirectCode.solve
  rw [give_assemble_eq_take o hnr hnt heven hk nc]

end DirectSolvers

open Stencil Scalar MGCycle SparseLU
variable {K : Type} [_root_.Field K]

/-! ### the take operators preserve "right-sized if present" -/

def PS (H : Hier K) (l : Nat) (v : Option (Array K)) : Prop :=
  ∀ a, v = some a → a.size = (lvl H l).op.nr * (lvl H l).op.nt

def QS (H : Hier K) (l : Nat) (v : Option (Array K)) : Prop :=
  ∀ a, v = some a → 0 < l → a.size = (lvl H l).op.nr * (lvl H l).op.nt

def QSL (H : Hier K) (L : Nat) (l : Nat) (v : Option (Array K)) : Prop :=
  ∀ a, v = some a → l = L - 1 → a.size = (lvl H l).op.nr * (lvl H l).op.nt

theorem QS_none (H : Hier K) (l : Nat) : QS H l none := fun _ h => by cases h

theorem PS_some (H : Hier K) (l : Nat) (a : Array K) (h : a.size = (lvl H l).op.nr * (lvl H l).op.nt) : PS H l (some a) :=
  fun b hb => by cases hb; exact h

theorem ops_smooth_PS (H : Hier K) (l : Nat) (x f : Option (Array K)) (hx : PS H l x) : PS H l ((ops H).smooth l x f) := by
  intro a h
  obtain ⟨x, rfl, h⟩ := Option.bind_eq_some_iff.mp h
  obtain ⟨f, rfl, h⟩ := Option.bind_eq_some_iff.mp h
  rw [C06c.sweep_size _ _ _ _ x a h]
  exact hx x rfl

theorem ops_exSmooth_PS (H : Hier K) (l : Nat) (x f : Option (Array K)) (hx : PS H l x) : PS H l ((ops H).exSmooth l x f) := by
  intro a h
  obtain ⟨x, rfl, h⟩ := Option.bind_eq_some_iff.mp h
  obtain ⟨f, rfl, h⟩ := Option.bind_eq_some_iff.mp h
  rw [C07c.sweep_size _ _ _ _ x a h]
  exact hx x rfl

theorem ops_add_PS (H : Hier K) (l : Nat) (x e : Option (Array K)) (hx : PS H l x) : PS H l ((ops H).add x e) := by
  intro a h
  obtain ⟨x, rfl, h⟩ := Option.bind_eq_some_iff.mp h
  obtain ⟨e, rfl, h⟩ := Option.bind_eq_some_iff.mp h
  cases h
  exact Array.size_ofFn.trans (hx x rfl)

theorem opsInvS (H : Hier K) (L nu1 nu2 : Nat) : OpsInv (ops H) ⟨L, nu1, nu2⟩ (PS H) (QSL H L) := by
  refine ⟨fun l x f _ hx _ => ops_smooth_PS H l x f hx, ?_, ?_, ?_, fun l x e _ hx _ => ops_add_PS H l x _ hx⟩
  · intro l f x _ _ _ a h _
    obtain ⟨b, _, rfl⟩ := Option.map_eq_some_iff.mp h
    exact ofFld_size H (l + 1) _
  · intro g hg a h
    obtain ⟨b, rfl, h'⟩ := Option.bind_eq_some_iff.mp h
    obtain ⟨xs, _, rfl, hlen⟩ := ops_solve_eq_some H _ b a h
    rw [List.size_toArray, hlen]
    exact hg b rfl rfl
  · intro l a h
    cases h
    exact Array.size_replicate

theorem exOpsInvS (H : Hier K) (L : Nat) (fgs : Bool) : ExOpsInvR (ops H) fgs (PS H) (QSL H L) (fun _ => True) := by
  refine ⟨fun x f hx _ => ?_, ?_, fun x e hx _ => ops_add_PS H 0 x _ hx⟩
  · cases fgs
    · exact ops_exSmooth_PS H 0 x f hx
    · exact ops_smooth_PS H 0 x f hx
  · intro f f1 x _ _ _ a h _
    obtain ⟨r, hr, h⟩ := Option.bind_eq_some_iff.mp h
    obtain ⟨r1, _, h⟩ := Option.bind_eq_some_iff.mp h
    obtain ⟨b, _, rfl⟩ := Option.map_eq_some_iff.mp hr
    cases h
    exact Array.size_ofFn.trans (ofFld_size H (0 + 1) _)

theorem ops_fmgInterp_PS (H : Hier K) (l : Nat) (s : Option (Array K)) : PS H l ((ops H).fmgInterp (l + 1) s) := by
  intro a h
  obtain ⟨b, _, rfl⟩ := Option.map_eq_some_iff.mp h
  exact ofFld_size H l _

/-! ### the four operators in which the strategies differ -/

/-- what the residuals and the direct solvers of both strategies need on a level -/
def ResOK (o : Op K) : Prop :=
  4 ≤ o.nr ∧ 4 ≤ o.nt ∧ o.nt % 2 = 0 ∧ (o.bc = false → ∀ j, j < o.nt → o.k (ja o j) = o.k j)

/-- `SmootherGive` = `SmootherTake` on a right-sized iterate (C06g) -/
theorem opsGive_smooth_eq (H : Hier K) (G : GiveTables) (l : Nat)
    (hsm : 2 ≤ (lvl H l).nc ∧ (lvl H l).nc + 3 ≤ (lvl H l).op.nr) (h : ResOK (lvl H l).op)
    (x f : Option (Array K)) (hx : PS H l x) : (opsGive H G).smooth l x f = (ops H).smooth l x f := by
  cases x with
  | none => rfl
  | some x =>
    cases f with
    | none => rfl
    | some f => exact C06g.give_sweep_eq_take_sweep _ _ hsm.1 hsm.2 h.2.1 h.2.2.1 h.2.2.2 _ _ x (hx x rfl)

/-- `ExtrapolatedSmootherGive` = `ExtrapolatedSmootherTake` on a right-sized iterate (C07g): the scatter assembly stays in
    bounds and the sweeps agree -/
theorem opsGive_exSmooth_eq (H : Hier K) (G : GiveTables) (l : Nat)
    (A : ExSmootherGiveCode.Admissible G.exSmoother (lvl H l).op (lvl H l).nc)
    (x f : Option (Array K)) (hx : PS H l x) : (opsGive H G).exSmooth l x f = (ops H).exSmooth l x f := by
  cases x with
  | none => rfl
  | some x =>
    cases f with
    | none => rfl
    | some f =>
      obtain ⟨m, hm⟩ := C07g.exgive_assemble_in_bounds _ _ _ A
      show (ExSmootherGiveCode.assemble G.exSmoother (lvl H l).op (lvl H l).nc).bind (fun m =>
          ExSmootherGiveCode.sweep (lvl H l).op m H.tiny (lvl H l).nc (fld H l f) x) =
        ExSmootherCode.sweep (lvl H l).op H.tiny (lvl H l).nc (fld H l f) x
      rw [hm]
      exact C07g.exgive_sweep_eq_take_sweep _ _ _ A m hm _ _ x (hx x rfl)

/-- `ResidualGive` = `ResidualTake` (C03), any vectors -/
theorem opsGive_resid_eq (H : Hier K) (G : GiveTables) (l : Nat) (h : ResOK (lvl H l).op) (f x : Option (Array K)) :
    (opsGive H G).resid l f x = (ops H).resid l f x := by
  cases f with
  | none => rfl
  | some f =>
    cases x with
    | none => rfl
    | some x =>
      exact congrArg some (ofField_congr _ _ _ _ fun i j hi hj =>
        C03.give_eq_take_weak_hk _ h.1 (by have := h.2.1; omega) h.2.2.1 h.2.2.2 _ _ i j hi hj)

/-- `DirectSolverGiveCustomLU` = `DirectSolverTakeCustomLU` (the same CSR container), any right-hand side -/
theorem opsGive_solve_eq (H : Hier K) (G : GiveTables) (hG : G.direct = C04g.genTablesGive)
    (htab : H.tables = C04c.genTables) (l : Nat) (h : ResOK (lvl H l).op) (g : Option (Array K)) :
    (opsGive H G).solve l g = (ops H).solve l g := by
  cases g with
  | none => rfl
  | some b =>
    show (DirectGiveCode.solve G.direct (lvl H l).op (lvl H l).nc H.tiny b.toList).bind (fun r => r.map fun xs => xs.toArray) =
      (DirectCode.solve H.tables (lvl H l).op H.tiny b.toList).bind (fun r => r.map fun xs => xs.toArray)
    rw [hG, htab, give_solve_eq_take_solve _ h.1 h.2.1 h.2.2.1 h.2.2.2]

/-! ### the hypotheses of `MGCycle.cyc_agree` / `MGCycle.excyc_agree` -/

/-- the hierarchy data under which the two strategies agree: the generated tables, the circle/radial split of the smoothing
    levels, the sizes and the antipodal symmetry every residual and direct solver needs -/
structure GiveOK (H : Hier K) (G : GiveTables) (L : Nat) : Prop where
  direct : G.direct = C04g.genTablesGive
  tables : H.tables = C04c.genTables
  sm : ∀ l, l + 1 < L → 2 ≤ (lvl H l).nc ∧ (lvl H l).nc + 3 ≤ (lvl H l).op.nr
  res : ∀ l, l < L → ResOK (lvl H l).op

/-- the operators agree on right-sized iterates and the take operators keep iterates right-sized; no operator needs anything of
    the right-hand side for that.  The extra steps of the implicitly extrapolated cycle: the level-0 smoother of the chosen
    kind (`fgs = false`: the extrapolated smoother, which needs `Admissible`), the residuals of the levels 0 and 1 -/
theorem give_agree (H : Hier K) (G : GiveTables) (L nu1 nu2 : Nat) (hL : 2 ≤ L) (fgs : Bool) (ok : GiveOK H G L) :
    OpsAgree (opsGive H G) (ops H) ⟨L, nu1, nu2⟩ (PS H) (QSL H L) ∧ OpsInv (ops H) ⟨L, nu1, nu2⟩ (PS H) (QSL H L) ∧
      ((fgs = false → ExSmootherGiveCode.Admissible G.exSmoother (lvl H 0).op (lvl H 0).nc) →
        ExOpsAgree (opsGive H G) (ops H) fgs (PS H) (QSL H L) ∧ ExOpsInvR (ops H) fgs (PS H) (QSL H L) (fun _ => True)) := by
  refine ⟨⟨?_, ?_, fun g _ => opsGive_solve_eq H G ok.direct ok.tables (L - 1) (ok.res (L - 1) (by omega)) g,
    fun _ _ => rfl, fun _ _ => rfl, fun _ => rfl, fun _ _ => rfl⟩, opsInvS H L nu1 nu2,
    fun hex => ⟨⟨fun x f hx _ => ?_, fun f f1 x _ _ => ?_, fun _ _ => rfl⟩, exOpsInvS H L fgs⟩⟩
  · intro l x f hl hx _
    have hl' : l < L - 1 := hl
    exact opsGive_smooth_eq H G l (ok.sm l (by omega)) (ok.res l (by omega)) x f hx
  · intro l f x hl _ _
    exact opsGive_resid_eq H G l (ok.res l (by have : l < L - 1 := hl; omega)) f x
  · cases fgs
    · exact opsGive_exSmooth_eq H G 0 (hex rfl) x f hx
    · exact opsGive_smooth_eq H G 0 (ok.sm 0 (by omega)) (ok.res 0 (by omega)) x f hx
  · show (ops H).lin43 ((ops H).exRestrict 0 ((opsGive H G).resid 0 f x))
        ((opsGive H G).resid 1 f1 ((ops H).inject 0 x)) = exRhs (ops H) f f1 x
    rw [opsGive_resid_eq H G 0 (ok.res 0 (by omega)), opsGive_resid_eq H G 1 (ok.res 1 (by omega))]
    rfl

/-- **nested iteration over the give operators returns what nested iteration over the take operators returns** — for ANY level
    right-hand sides `g` (absent, wrong-sized: the same `none` / the same arrays on both sides) -/
theorem ops_start_agree (H : Hier K) (G : GiveTables) (L : Nat) (hL : 2 ≤ L) (ok : GiveOK H G L) (fk : Kind)
    (fi nu1 nu2 : Nat) (ex fgs : Bool)
    (hex : ex = true → fgs = false → ExSmootherGiveCode.Admissible G.exSmoother (lvl H 0).op (lvl H 0).nc)
    (g : Nat → Option (Array K)) :
    fmgSpec (opsGive H G) ⟨L, nu1, nu2⟩ fk fi ex fgs g (L - 1) ((opsGive H G).solve (L - 1) (g (L - 1))) =
      fmgSpec (ops H) ⟨L, nu1, nu2⟩ fk fi ex fgs g (L - 1) ((ops H).solve (L - 1) (g (L - 1))) := by
  obtain ⟨A, I, E⟩ := give_agree H G L nu1 nu2 hL fgs ok
  obtain ⟨n, rfl⟩ : ∃ n, L = n + 2 := ⟨L - 2, by omega⟩
  have hexA : ex = true → ExOpsAgree (opsGive H G) (ops H) fgs (PS H) (QSL H (n + 2)) ∧
      ExOpsInvR (ops H) fgs (PS H) (QSL H (n + 2)) (fun _ => True) ∧ True := fun he => ⟨(E (hex he)).1, (E (hex he)).2, trivial⟩
  have hn : n < n + 2 - 1 := by omega
  have hQ : ∀ l, l < n + 2 - 1 → QSL H (n + 2) l (g l) := fun l hl a _ h => by omega
  have hinv : ∀ v, PS H n v → PS H n (cycleSpec (ops H) ⟨n + 2, nu1, nu2⟩ fk (exAt ex n) fgs g n v) := fun v hv =>
    cycleSpec_inv I ex g (fun h => (hexA h).2) fk hn hv (hQ n hn)
  have ht : PS H n ((ops H).fmgInterp (n + 1) ((ops H).solve (n + 1) (g (n + 1)))) := ops_fmgInterp_PS H n _
  show fmgSpec (opsGive H G) ⟨n + 2, nu1, nu2⟩ fk fi ex fgs g (n + 1) ((opsGive H G).solve (n + 1) (g (n + 1))) =
    fmgSpec (ops H) ⟨n + 2, nu1, nu2⟩ fk fi ex fgs g (n + 1) ((ops H).solve (n + 1) (g (n + 1)))
  rw [opsGive_solve_eq H G ok.direct ok.tables (n + 1) (ok.res (n + 1) (by omega)), fmgSpec_succ, fmgSpec_succ,
    show (opsGive H G).fmgInterp (n + 1) _ = (ops H).fmgInterp (n + 1) _ from rfl,
    iter_agree (fun v hv => cycleSpec_agree A I ex g hexA fk hn hv (hQ n hn)) hinv fi ht]
  exact fmgSpec_agree A I ex g hexA fk fi (fun _ _ => rfl) (fun l s _ _ => ops_fmgInterp_PS H l s) hQ n _
    (Nat.le_of_lt hn) (iter_inv hinv fi ht)

theorem opsGive_zero_eq (H : Hier K) (G : GiveTables) (l : Nat) : (opsGive H G).zero l = (ops H).zero l := rfl

theorem cycleGive_plain_eq (H : Hier K) (G : GiveTables) (c : Cfg) (k : Kind) (fgs : Bool) (m : Mem (Option (Array K)))
    {u f : Option (Array K)} (hm : m (0, .sol) = u) (hr : m (0, .rhs) = f) :
    cycleGive H G c k false fgs m (0, .sol) = cyc (opsGive H G) c k (c.levels - 1) 0 u f :=
  exec_cycleAt_plain (opsGive H G) c k fgs m hm hr

theorem cycleGive_ex_eq (H : Hier K) (G : GiveTables) (c : Cfg) (k : Kind) (fgs : Bool) (m : Mem (Option (Array K)))
    {u f f1 : Option (Array K)} (hm : m (0, .sol) = u) (hr : m (0, .rhs) = f) (hr1 : m (1, .rhs) = f1) :
    cycleGive H G c k true fgs m (0, .sol) = excyc (opsGive H G) c k fgs u f f1 :=
  exec_cycleAt_ex (opsGive H G) c k fgs m hm hr hr1

end Concrete
