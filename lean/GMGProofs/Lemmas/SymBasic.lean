import GMGModel.Sym
import GMGProofs.Lemmas.FieldScalar
import GMGProofs.Lemmas.SymAttr
import Mathlib.Analysis.SpecialFunctions.Trigonometric.Deriv
import Mathlib.Analysis.SpecialFunctions.Trigonometric.DerivHyp
import Mathlib.Analysis.SpecialFunctions.Trigonometric.ArctanDeriv
import Mathlib.Analysis.SpecialFunctions.Sqrt
import Mathlib.Analysis.SpecialFunctions.ExpDeriv
import Mathlib.Analysis.Calculus.Deriv.Pow
import Mathlib.Analysis.Calculus.Deriv.Inv
import Mathlib.Analysis.Calculus.Deriv.Mul
import Mathlib.Analysis.Calculus.Deriv.Add
import Mathlib.Tactic.Ring
import Mathlib.Tactic.FieldSimp
import Mathlib.Tactic.Positivity
import Mathlib.Tactic.Linarith
import Mathlib.Tactic.NormNum
/-!
# Real semantics of the symbolic input-function expressions (C19)

`ev` evaluates an expression in ℝ through `instElemReal : Elem ℝ` on top of `instScalarField`, so `+ - * / -` are the real
field operations.  `ok` collects the side conditions (denominators ≠ 0, radicands > 0) under which the symbolic derivative
`D` is the derivative of `ev` (`hasDerivAt_r`, `hasDerivAt_th`); `ev` of `D` of a constructor is an unconditional identity.
-/

noncomputable instance instElemReal : Elem ℝ :=
  { toScalar := instScalarField
    sqrt := Real.sqrt, sin := Real.sin, cos := Real.cos, exp := Real.exp, tanh := Real.tanh,
    atan := Real.arctan, pi := Real.pi }

namespace Sym
open Expr

/-- evaluation of an expression over ℝ -/
noncomputable def ev (env : Nat → ℝ) (r th : ℝ) (e : Expr) : ℝ := Expr.eval (α := ℝ) env r th e

/-- side conditions: every denominator is non-zero and every radicand positive, at the point `(r, th)` -/
def ok (env : Nat → ℝ) (r th : ℝ) : Expr → Prop
  | .add a b | .sub a b | .mul a b => ok env r th a ∧ ok env r th b
  | .div a b => ok env r th a ∧ ok env r th b ∧ ev env r th b ≠ 0
  | .sqrt a => ok env r th a ∧ 0 < ev env r th a
  | .neg a | .powN a _ | .sin a | .cos a | .exp a | .tanh a | .atan a => ok env r th a
  | .v _ | .num _ _ | .pi | .par _ => True

variable {env : Nat → ℝ} {r th : ℝ}

theorem npow_eq (x : ℝ) (k : Nat) : Expr.npow x k = x ^ k := by
  induction k with
  | zero => simp [Expr.npow]
  | succ k ih => simp [Expr.npow, ih, pow_succ]

@[simp, sym_ev] theorem ev_r : ev env r th (.v .r) = r := rfl
@[simp, sym_ev] theorem ev_th : ev env r th (.v .th) = th := rfl
@[simp, sym_ev] theorem ev_pi : ev env r th .pi = Real.pi := rfl
@[simp, sym_ev] theorem ev_par (i : Nat) : ev env r th (.par i) = env i := rfl
@[simp, sym_ev] theorem ev_add (a b : Expr) : ev env r th (.add a b) = ev env r th a + ev env r th b := rfl
@[simp, sym_ev] theorem ev_sub (a b : Expr) : ev env r th (.sub a b) = ev env r th a - ev env r th b := rfl
@[simp, sym_ev] theorem ev_mul (a b : Expr) : ev env r th (.mul a b) = ev env r th a * ev env r th b := rfl
@[simp, sym_ev] theorem ev_div (a b : Expr) : ev env r th (.div a b) = ev env r th a / ev env r th b := rfl
@[simp, sym_ev] theorem ev_neg (a : Expr) : ev env r th (.neg a) = -ev env r th a := rfl
@[simp, sym_ev] theorem ev_powN (a : Expr) (k : Nat) : ev env r th (.powN a k) = ev env r th a ^ k := npow_eq _ _
@[simp, sym_ev] theorem ev_sqrt (a : Expr) : ev env r th (.sqrt a) = Real.sqrt (ev env r th a) := rfl
@[simp, sym_ev] theorem ev_sin (a : Expr) : ev env r th (.sin a) = Real.sin (ev env r th a) := rfl
@[simp, sym_ev] theorem ev_cos (a : Expr) : ev env r th (.cos a) = Real.cos (ev env r th a) := rfl
@[simp, sym_ev] theorem ev_exp (a : Expr) : ev env r th (.exp a) = Real.exp (ev env r th a) := rfl
@[simp, sym_ev] theorem ev_tanh (a : Expr) : ev env r th (.tanh a) = Real.tanh (ev env r th a) := rfl
@[simp, sym_ev] theorem ev_atan (a : Expr) : ev env r th (.atan a) = Real.arctan (ev env r th a) := rfl

@[simp, sym_ev] theorem ev_num (n : Int) (d : Nat) : ev env r th (.num n d) = (n : ℝ) / (d : ℝ) := by
  show (if n < 0 then -(Scalar.n n.natAbs : ℝ) else Scalar.n n.natAbs) / Scalar.n d = _
  rw [Scalar.n_eq, Scalar.n_eq]
  congr 1
  split
  · rename_i h
    have : (n : ℝ) = -((n.natAbs : ℤ) : ℝ) := by
      rw [Int.ofNat_natAbs_of_nonpos (le_of_lt h)]; simp
    rw [this]; simp
  · rename_i h
    have : (n : ℝ) = ((n.natAbs : ℤ) : ℝ) := by
      rw [Int.natAbs_of_nonneg (not_lt.mp h)]
    rw [this]; simp

attribute [sym_clean] zero_mul mul_zero sub_zero zero_add add_zero zero_sub neg_zero zero_div sub_self mul_one one_mul
attribute [sym_ev] Int.cast_ofNat Nat.cast_ofNat Int.cast_one Nat.cast_one Int.cast_zero Nat.cast_zero div_one

@[simp, sym_ev] theorem ev_zero : ev env r th Expr.zero = 0 := by simp [Expr.zero]
@[simp, sym_ev] theorem ev_one : ev env r th Expr.one = 1 := by simp [Expr.one]
@[simp, sym_ev] theorem ev_two : ev env r th Expr.two = 2 := by simp [Expr.two]

@[simp] theorem ok_zero : ok env r th Expr.zero := trivial
@[simp] theorem ok_one : ok env r th Expr.one := trivial
@[simp] theorem ok_two : ok env r th Expr.two := trivial

theorem ev_of_isZero {a : Expr} (h : a.isZero = true) : ev env r th a = 0 := by
  unfold Expr.isZero at h
  split at h
  · simp
  · cases h

theorem ev_of_isOne {a : Expr} (h : a.isOne = true) : ev env r th a = 1 := by
  unfold Expr.isOne at h
  split at h
  · simp
  · cases h

@[simp, sym_ev] theorem ev_mkAdd (a b : Expr) : ev env r th (mkAdd a b) = ev env r th a + ev env r th b := by
  unfold mkAdd; split_ifs <;> simp [ev_of_isZero, *]

@[simp, sym_ev] theorem ev_mkSub (a b : Expr) : ev env r th (mkSub a b) = ev env r th a - ev env r th b := by
  unfold mkSub; split_ifs <;> simp [ev_of_isZero, *]

@[simp, sym_ev] theorem ev_mkMul (a b : Expr) : ev env r th (mkMul a b) = ev env r th a * ev env r th b := by
  unfold mkMul; split_ifs with h
  · rcases Bool.or_eq_true _ _ |>.mp h with h | h <;> simp [ev_of_isZero h]
  all_goals simp [ev_of_isOne, *]

@[simp, sym_ev] theorem ev_mkDiv (a b : Expr) : ev env r th (mkDiv a b) = ev env r th a / ev env r th b := by
  unfold mkDiv; split_ifs <;> simp [ev_of_isZero, *]

@[simp, sym_ev] theorem ev_mkNeg (a : Expr) : ev env r th (mkNeg a) = -ev env r th a := by
  unfold mkNeg; split_ifs <;> simp [ev_of_isZero, *]

theorem ok_mkAdd {a b : Expr} (ha : ok env r th a) (hb : ok env r th b) : ok env r th (mkAdd a b) := by
  unfold mkAdd; split_ifs; exacts [hb, ha, ⟨ha, hb⟩]

theorem ok_mkSub {a b : Expr} (ha : ok env r th a) (hb : ok env r th b) : ok env r th (mkSub a b) := by
  unfold mkSub; split_ifs; exacts [ha, hb, ⟨ha, hb⟩]

theorem ok_mkMul {a b : Expr} (ha : ok env r th a) (hb : ok env r th b) : ok env r th (mkMul a b) := by
  unfold mkMul; split_ifs; exacts [trivial, hb, ha, ⟨ha, hb⟩]

theorem ok_mkDiv {a b : Expr} (ha : ok env r th a) (hb : ok env r th b) (h : ev env r th b ≠ 0) :
    ok env r th (mkDiv a b) := by
  unfold mkDiv; split_ifs; exacts [trivial, ⟨ha, hb, h⟩]

theorem ok_mkNeg {a : Expr} (ha : ok env r th a) : ok env r th (mkNeg a) := by
  unfold mkNeg; split_ifs; exacts [trivial, ha]

/-! ### `ev` of the symbolic derivative, constructor by constructor -/
section evD
variable (x : Var) (a b : Expr)
@[simp, sym_ev] theorem ev_D_v_r_r : ev env r th (D .r (.v .r)) = 1 := by simp [D]
@[simp, sym_ev] theorem ev_D_v_th_th : ev env r th (D .th (.v .th)) = 1 := by simp [D]
@[simp, sym_ev] theorem ev_D_v_r_th : ev env r th (D .r (.v .th)) = 0 := by simp [D]
@[simp, sym_ev] theorem ev_D_v_th_r : ev env r th (D .th (.v .r)) = 0 := by simp [D]
@[simp, sym_ev] theorem ev_D_num (n : Int) (d : Nat) : ev env r th (D x (.num n d)) = 0 := by simp [D]
@[simp, sym_ev] theorem ev_D_pi : ev env r th (D x .pi) = 0 := by simp [D]
@[simp, sym_ev] theorem ev_D_par (i : Nat) : ev env r th (D x (.par i)) = 0 := by simp [D]
@[simp, sym_ev] theorem ev_D_add : ev env r th (D x (.add a b)) = ev env r th (D x a) + ev env r th (D x b) := by
  simp [D]
@[simp, sym_ev] theorem ev_D_sub : ev env r th (D x (.sub a b)) = ev env r th (D x a) - ev env r th (D x b) := by
  simp [D]
@[simp, sym_ev] theorem ev_D_mul : ev env r th (D x (.mul a b)) =
    ev env r th (D x a) * ev env r th b + ev env r th a * ev env r th (D x b) := by
  simp [D]
@[simp, sym_ev] theorem ev_D_div : ev env r th (D x (.div a b)) =
    (ev env r th (D x a) * ev env r th b - ev env r th a * ev env r th (D x b))
      / (ev env r th b * ev env r th b) := by
  simp [D]
@[simp, sym_ev] theorem ev_D_neg : ev env r th (D x (.neg a)) = -ev env r th (D x a) := by simp [D]
@[simp, sym_ev] theorem ev_D_powN_zero : ev env r th (D x (.powN a 0)) = 0 := by simp [D]
@[simp, sym_ev] theorem ev_D_powN_succ (k : Nat) : ev env r th (D x (.powN a (k + 1))) =
    ((k + 1 : Nat) : ℝ) * ev env r th a ^ k * ev env r th (D x a) := by
  simp [D]
@[simp, sym_ev] theorem ev_D_sqrt : ev env r th (D x (.sqrt a)) =
    ev env r th (D x a) / (2 * Real.sqrt (ev env r th a)) := by simp [D]
@[simp, sym_ev] theorem ev_D_sin : ev env r th (D x (.sin a)) = Real.cos (ev env r th a) * ev env r th (D x a) := by
  simp [D]
@[simp, sym_ev] theorem ev_D_cos : ev env r th (D x (.cos a)) = -(Real.sin (ev env r th a) * ev env r th (D x a)) := by
  simp [D]
@[simp, sym_ev] theorem ev_D_exp : ev env r th (D x (.exp a)) = Real.exp (ev env r th a) * ev env r th (D x a) := by
  simp [D]
@[simp, sym_ev] theorem ev_D_tanh : ev env r th (D x (.tanh a)) =
    (1 - Real.tanh (ev env r th a) * Real.tanh (ev env r th a)) * ev env r th (D x a) := by simp [D]
@[simp, sym_ev] theorem ev_D_atan : ev env r th (D x (.atan a)) =
    ev env r th (D x a) / (1 + ev env r th a * ev env r th a) := by simp [D]
end evD

/-! `ρ = r / Rmax`: every shipped formula is written in `ρ`; `∂ρ/∂r = 1 / Rmax` (also for `Rmax = 0`), `∂ρ/∂θ = 0`. -/
@[sym_ev high] theorem ev_D_r_rho : ev env r th (D .r (.div (.v .r) (.par 0))) = 1 / env 0 := by
  simp only [sym_ev, sym_clean]
  by_cases h : env 0 = 0
  · simp [h]
  · field_simp

@[sym_ev high] theorem ev_D_th_rho : ev env r th (D .th (.div (.v .r) (.par 0))) = 0 := by
  simp only [sym_ev, sym_clean]

theorem ok_D (x : Var) (e : Expr) (h : ok env r th e) : ok env r th (D x e) := by
  induction e with
  | v y => unfold D; split <;> trivial
  | num n d => trivial
  | pi => trivial
  | par i => trivial
  | add a b iha ihb => exact ok_mkAdd (iha h.1) (ihb h.2)
  | sub a b iha ihb => exact ok_mkSub (iha h.1) (ihb h.2)
  | mul a b iha ihb => exact ok_mkAdd (ok_mkMul (iha h.1) h.2) (ok_mkMul h.1 (ihb h.2))
  | div a b iha ihb =>
      obtain ⟨ha, hb, hne⟩ := h
      exact ok_mkDiv (ok_mkSub (ok_mkMul (iha ha) hb) (ok_mkMul ha (ihb hb))) ⟨hb, hb⟩
        (by simpa using hne)
  | neg a iha => exact ok_mkNeg (iha h)
  | powN a k iha =>
      cases k with
      | zero => trivial
      | succ k => exact ok_mkMul (ok_mkMul trivial h) (iha h)
  | sqrt a iha =>
      obtain ⟨ha, hpos⟩ := h
      refine ok_mkDiv (iha ha) ⟨trivial, ha, hpos⟩ ?_
      have : 0 < Real.sqrt (ev env r th a) := Real.sqrt_pos.mpr hpos
      simp only [ev_mul, ev_two, ev_sqrt]; positivity
  | sin a iha => exact ok_mkMul h (iha h)
  | cos a iha => exact ok_mkNeg (ok_mkMul h (iha h))
  | exp a iha => exact ok_mkMul h (iha h)
  | tanh a iha => exact ok_mkMul ⟨trivial, h, h⟩ (iha h)
  | atan a iha =>
      refine ok_mkDiv (iha h) ⟨trivial, h, h⟩ ?_
      simp only [ev_add, ev_one, ev_mul]
      nlinarith [mul_self_nonneg (ev env r th a)]

/-! ### derivative of `Real.tanh` (not in Mathlib) -/
theorem hasDerivAt_tanh (x : ℝ) : HasDerivAt Real.tanh (1 - Real.tanh x * Real.tanh x) x := by
  have hc : Real.cosh x ≠ 0 := ne_of_gt (Real.cosh_pos x)
  have h := (Real.hasDerivAt_sinh x).div (Real.hasDerivAt_cosh x) hc
  have hfun : (Real.sinh / Real.cosh) = Real.tanh := by
    funext y; simp [Real.tanh_eq_sinh_div_cosh]
  rw [hfun] at h
  refine h.congr_deriv ?_
  rw [Real.tanh_eq_sinh_div_cosh]
  field_simp

theorem _root_.HasDerivAt.tanh' {f : ℝ → ℝ} {f' x : ℝ} (hf : HasDerivAt f f' x) :
    HasDerivAt (fun y => Real.tanh (f y)) ((1 - Real.tanh (f x) * Real.tanh (f x)) * f') x :=
  (hasDerivAt_tanh (f x)).comp x hf

/-! ### correctness of the symbolic derivative -/

/-- the common induction, along a curve `t ↦ (R t, T t)` that passes `(r, th)` at `t0` in direction `x` -/
private theorem hasDerivAt_aux (x : Var) (R T : ℝ → ℝ) (t0 : ℝ)
    (hR0 : R t0 = r) (hT0 : T t0 = th)
    (hR : HasDerivAt R (ev env r th (D x (.v .r))) t0)
    (hT : HasDerivAt T (ev env r th (D x (.v .th))) t0)
    (e : Expr) (h : ok env r th e) :
    HasDerivAt (fun t => ev env (R t) (T t) e) (ev env r th (D x e)) t0 := by
  induction e with
  | v y => cases y <;> simpa using ‹_›
  | num n d => simpa using hasDerivAt_const t0 ((n : ℝ) / (d : ℝ))
  | pi => simpa using hasDerivAt_const t0 Real.pi
  | par i => simpa using hasDerivAt_const t0 (env i)
  | add a b iha ihb => simpa using (iha h.1).fun_add (ihb h.2)
  | sub a b iha ihb => simpa using (iha h.1).fun_sub (ihb h.2)
  | mul a b iha ihb => simpa [hR0, hT0] using (iha h.1).fun_mul (ihb h.2)
  | div a b iha ihb =>
      obtain ⟨ha, hb, hne⟩ := h
      have hd := (iha ha).fun_div (ihb hb) (by simpa [hR0, hT0] using hne)
      simp only [ev_div, ev_D_div]
      refine hd.congr_deriv ?_
      simp only [hR0, hT0, pow_two]
  | neg a iha => simpa using (iha h).fun_neg
  | powN a k iha =>
      cases k with
      | zero => simpa using hasDerivAt_const t0 (1 : ℝ)
      | succ k =>
          have hp := (iha h).fun_pow (k + 1)
          simp only [ev_powN, ev_D_powN_succ]
          refine hp.congr_deriv ?_
          simp only [hR0, hT0, Nat.add_sub_cancel]
  | sqrt a iha =>
      obtain ⟨ha, hpos⟩ := h
      have hs := (iha ha).sqrt (by simpa [hR0, hT0] using ne_of_gt hpos)
      simp only [ev_sqrt, ev_D_sqrt]
      refine hs.congr_deriv ?_
      simp only [hR0, hT0]
  | sin a iha => simpa [hR0, hT0] using (iha h).sin
  | cos a iha =>
      have hc := (iha h).cos
      simp only [ev_cos, ev_D_cos]
      refine hc.congr_deriv ?_
      simp only [hR0, hT0]; ring
  | exp a iha => simpa [hR0, hT0] using (iha h).exp
  | tanh a iha => simpa [hR0, hT0] using (iha h).tanh'
  | atan a iha =>
      have hc := (iha h).arctan
      simp only [ev_atan, ev_D_atan]
      refine hc.congr_deriv ?_
      simp only [hR0, hT0, pow_two]; field_simp

/-- **d_correct (r)**: the symbolic `∂/∂r` is the derivative of the real function `r ↦ ev e` -/
theorem hasDerivAt_r (e : Expr) (h : ok env r th e) :
    HasDerivAt (fun x => ev env x th e) (ev env r th (D .r e)) r :=
  hasDerivAt_aux .r (fun t => t) (fun _ => th) r rfl rfl (by simpa using hasDerivAt_id' r)
    (by simpa using hasDerivAt_const r th) e h

/-- **d_correct (θ)** -/
theorem hasDerivAt_th (e : Expr) (h : ok env r th e) :
    HasDerivAt (fun y => ev env r y e) (ev env r th (D .th e)) th :=
  hasDerivAt_aux .th (fun _ => r) (fun t => t) th rfl rfl (by simpa using hasDerivAt_const th r)
    (by simpa using hasDerivAt_id' th) e h

theorem deriv_r (e : Expr) (h : ok env r th e) :
    deriv (fun x => ev env x th e) r = ev env r th (D .r e) := (hasDerivAt_r e h).deriv

theorem deriv_th (e : Expr) (h : ok env r th e) :
    deriv (fun y => ev env r y e) th = ev env r th (D .th e) := (hasDerivAt_th e h).deriv

end Sym
