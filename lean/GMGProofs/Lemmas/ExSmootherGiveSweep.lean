import GMGProofs.Lemmas.ExSmootherGiveCircle
import GMGProofs.Lemmas.ExSmootherGiveRadial
/-!
# Code-level extrapolated smoother (give): the sequential sweep simulates the gather sweep

The gather kernel at a node only reads the iterate on the node's own and the two adjacent circles / radial lines, so the line
solves of one colour, pairwise non-adjacent, run in lockstep in both strategies (`GiveCommon.fold_sim`); phase by phase the
sweep returns what the gather sweep returns.
-/
namespace ExSmootherGiveCode
open Stencil SparseLU SmootherCode Finset GiveCommon
variable {K : Type} [_root_.Field K]

section
variable (o : Op K) (nc : Nat) (f : Stencil.Field K)

theorem orthoCircle_congr (u u' : Stencil.Field K) (i j : Nat) (hj : j < o.nt)
    (h : ∀ p q, p ≤ i + 1 → i ≤ p + 1 → q < o.nt → u p q = u' p q) :
    ExSmootherCode.orthoCircle o nc f u i j = ExSmootherCode.orthoCircle o nc f u' i j := by
  have hpos : 0 < o.nt := by omega
  have hm := jm_lt o hpos j
  have hp := jp_lt o hpos j
  have e1 := h (i - 1) j (by omega) (by omega) hj
  have e2 := h (i + 1) j (by omega) (by omega) hj
  have e3 := h i (jm o j) (by omega) (by omega) hm
  have e4 := h i (jp o j) (by omega) (by omega) hp
  have e5 := h (i - 1) (jm o j) (by omega) (by omega) hm
  have e6 := h (i + 1) (jm o j) (by omega) (by omega) hm
  have e7 := h (i - 1) (jp o j) (by omega) (by omega) hp
  have e8 := h (i + 1) (jp o j) (by omega) (by omega) hp
  have e9 := h i j (by omega) (by omega) hj
  have f1 := h 1 j
  have f2 := h 0 (jm o j)
  have f3 := h 0 (jp o j)
  have f4 := h 1 (jm o j)
  have f5 := h 1 (jp o j)
  have f6 := h 0 j
  unfold ExSmootherCode.orthoCircle
  by_cases h0 : i = 0
  · subst h0
    simp only [Nat.lt_irrefl, false_and, if_false, if_true]
    rw [f1 (by omega) (by omega) hj, f2 (by omega) (by omega) hm, f3 (by omega) (by omega) hp,
      f4 (by omega) (by omega) hm, f5 (by omega) (by omega) hp, f6 (by omega) (by omega) hj]
  · simp only [diagTerms, ExSmootherCode.crossTerms, e1, e2, e3, e4, e5, e6, e7, e8, e9, h0, if_false]

theorem orthoRadial_congr (hnr : nc + 3 ≤ o.nr) (u u' : Stencil.Field K) (i j : Nat) (hi : i < o.nr)
    (h : ∀ p q, p < o.nr → (q = j ∨ q = jm o j ∨ q = jp o j) → u p q = u' p q) :
    ExSmootherCode.orthoRadial o nc f u i j = ExSmootherCode.orthoRadial o nc f u' i j := by
  have e9 := h i j (by omega) (Or.inl rfl)
  by_cases hlast : i + 1 < o.nr
  · have e1 := h (i - 1) j (by omega) (Or.inl rfl)
    have e2 := h (i + 1) j (by omega) (Or.inl rfl)
    have e3 := h i (jm o j) (by omega) (Or.inr (Or.inl rfl))
    have e4 := h i (jp o j) (by omega) (Or.inr (Or.inr rfl))
    have e5 := h (i - 1) (jm o j) (by omega) (Or.inr (Or.inl rfl))
    have e6 := h (i + 1) (jm o j) (by omega) (Or.inr (Or.inl rfl))
    have e7 := h (i - 1) (jp o j) (by omega) (Or.inr (Or.inr rfl))
    have e8 := h (i + 1) (jp o j) (by omega) (Or.inr (Or.inr rfl))
    simp only [ExSmootherCode.orthoRadial, diagTerms, ExSmootherCode.crossTerms, e1, e2, e3, e4, e5, e6, e7, e8, e9]
  · have c1 : ¬ (nc < i ∧ i + 2 < o.nr) := by omega
    have c2 : ¬ i = nc := by omega
    have c3 : ¬ i + 2 = o.nr := by omega
    have c4 : i + 1 = o.nr := by omega
    simp only [ExSmootherCode.orthoRadial, c1, c2, c3, c4, if_false, if_true, e9]

variable (mf : Mem K) (tiny : K → Bool)

/-- the line matrices of the circle section agree -/
structure CircleMats : Prop where
  inner : innerCSR o mf = ExSmootherCode.innerCSR o
  tri : ∀ i, 0 < i → i < nc → i % 2 = 1 → circleTriSolver mf i = ExSmootherCode.circleTriSolver o i
  diag : ∀ i, 0 < i → i < nc → ¬ i % 2 = 1 → circleDiag mf i = ExSmootherCode.circleDiag o i

/-- one line solve: same matrix, same right-hand side -/
theorem solveCircle_eq (M : CircleMats o nc mf) (t u : Stencil.Field K) (i : Nat) (hi : i < nc)
    (ht : ∀ b, b < o.nt → t i b = ExSmootherCode.orthoCircle o nc f u i b) :
    solveCircle o mf tiny t i = ExSmootherCode.solveCircle o tiny nc f u i := by
  have hline : circleLine o t i = ExSmootherCode.circleTemp o nc f u i := by
    unfold circleLine ExSmootherCode.circleTemp
    apply List.map_congr_left
    intro b hb
    exact ht b (List.mem_range.mp hb)
  unfold solveCircle ExSmootherCode.solveCircle
  by_cases h0 : i = 0
  · subst h0
    rw [if_pos rfl, if_pos rfl, M.inner, hline]
  · rw [if_neg h0, if_neg h0]
    by_cases hio : i % 2 = 1
    · rw [if_pos hio, if_pos hio, M.tri i (by omega) hi hio, hline]
    · rw [if_neg hio, if_neg hio, M.diag i (by omega) hi hio, hline]

/-- `temp` after a circle / radial solve -/
def putCircle (t : Stencil.Field K) (i : Nat) (v : List K) : Stencil.Field K :=
  fun p q => if p = i then v.getD q (Scalar.n 0) else t p q
def putRadial (t : Stencil.Field K) (j : Nat) (v : List K) : Stencil.Field K :=
  fun p q => if nc ≤ p ∧ q = j then v.getD (p - nc) (Scalar.n 0) else t p q

/-- **the circle folds of both strategies run in lockstep** over a list of pairwise non-adjacent circles -/
theorem circle_fold_sim (M : CircleMats o nc mf) (hncr : nc < o.nr) (l : List Nat) (hl : ∀ i ∈ l, i < nc)
    (hp : l.Pairwise Apart) (a : Array K) (t : Stencil.Field K) (hs : a.size = o.nr * o.nt)
    (ht : ∀ i ∈ l, ∀ b, b < o.nt → t i b = ExSmootherCode.orthoCircle o nc f (fld o.nt a) i b) :
    Sim (fld o.nt) id (writeCircle o.nt) putCircle (solveCircle o mf tiny) (ExSmootherCode.solveCircle o tiny nc f)
      (fun a _ => a.size = o.nr * o.nt) (fun i p _ => p = i) (fun p q => p < o.nr ∧ q < o.nt) l a t :=
  fold_sim _ _ _ _ _ _ _ _ _
    (fun t a i => i < nc ∧ ∀ b, b < o.nt → t i b = ExSmootherCode.orthoCircle o nc f (fld o.nt a) i b) Apart
    (fun t a i _ h => solveCircle_eq o nc f mf tiny M t (fld o.nt a) i h.1 h.2)
    (fun a _ i v hg => (size_writeCircle ..).trans hg)
    (fun a t i v p q hg hr hpi => ⟨if_neg hpi, by rw [fld_writeCircle o.nr o.nt a hg i v p q hr.1 hr.2, if_neg hpi]⟩)
    (fun a t i v i' hg ⟨n1, n2, n3⟩ h => ⟨h.1, fun b hb => by
      unfold putCircle
      rw [if_neg (Ne.symm n1), h.2 b hb]
      refine orthoCircle_congr o nc f _ _ i' b hb fun p q h1 h2 hq => ?_
      rw [fld_writeCircle o.nr o.nt a hg i v p q (by omega) hq, if_neg (by omega)]⟩)
    l hp a t hs fun i hi => ⟨hl i hi, ht i hi⟩

/-- the line matrices of the radial section agree -/
structure RadialMats : Prop where
  tri : ∀ j, j < o.nt → j % 2 = 1 → radialTriSolver mf j = ExSmootherCode.radialTriSolver o nc j
  diag : ∀ j, j < o.nt → ¬ j % 2 = 1 → radialDiag mf j = ExSmootherCode.radialDiag o nc j

theorem solveRadial_eq (M : RadialMats o nc mf) (t u : Stencil.Field K) (j : Nat) (hj : j < o.nt)
    (ht : ∀ s, s < o.nr - nc → t (nc + s) j = ExSmootherCode.orthoRadial o nc f u (nc + s) j) :
    solveRadial o mf nc t j = ExSmootherCode.solveRadial o nc f u j := by
  have hline : radialLine o nc t j = ExSmootherCode.radialTemp o nc f u j := by
    unfold radialLine ExSmootherCode.radialTemp
    apply List.map_congr_left
    intro s hs
    exact ht s (List.mem_range.mp hs)
  unfold solveRadial ExSmootherCode.solveRadial
  by_cases hjo : j % 2 = 1
  · rw [if_pos hjo, if_pos hjo, M.tri j hj hjo, hline]
  · rw [if_neg hjo, if_neg hjo, M.diag j hj hjo, hline]

/-- **the radial folds of both strategies run in lockstep** over a list of pairwise non-adjacent radial lines -/
theorem radial_fold_sim (M : RadialMats o nc mf) (hnr : nc + 3 ≤ o.nr) (l : List Nat) (hl : ∀ j ∈ l, j < o.nt)
    (hp : l.Pairwise (ApartAng o)) (a : Array K) (t : Stencil.Field K) (hs : a.size = o.nr * o.nt)
    (ht : ∀ j ∈ l, ∀ s, s < o.nr - nc → t (nc + s) j = ExSmootherCode.orthoRadial o nc f (fld o.nt a) (nc + s) j) :
    ∃ t', l.foldl (radialStep o mf nc) (a, t) = (l.foldl (ExSmootherCode.radialStep o nc f) a, t') ∧
      (l.foldl (ExSmootherCode.radialStep o nc f) a).size = o.nr * o.nt ∧
      ∀ p q, p < o.nr ∧ q < o.nt → (∀ j ∈ l, ¬ (nc ≤ p ∧ q = j)) →
        t' p q = t p q ∧ fld o.nt (l.foldl (ExSmootherCode.radialStep o nc f) a) p q = fld o.nt a p q :=
  Sim.total (fld o.nt) id (writeRadial o.nt nc) (putRadial nc) (sG := solveRadial o mf nc)
    (sT := ExSmootherCode.solveRadial o nc f) (good := fun a _ => a.size = o.nr * o.nt) <| fold_sim _ _ _ _ _ _ _ _ _
    (fun t a j => j < o.nt ∧
      ∀ s, s < o.nr - nc → t (nc + s) j = ExSmootherCode.orthoRadial o nc f (fld o.nt a) (nc + s) j) (ApartAng o)
    (fun t a j _ h => congrArg some (solveRadial_eq o nc f mf M t (fld o.nt a) j h.1 h.2))
    (fun a _ j v hg => (size_writeRadial ..).trans hg)
    (fun a t j v p q hg hr hc => ⟨if_neg hc, by rw [fld_writeRadial o.nr o.nt nc a hg j v p q hr.1 hr.2, if_neg hc]⟩)
    (fun a t j v j' hg hok h => ⟨h.1, fun s hs' => by
      have hpos : 0 < o.nt := by omega
      unfold putRadial
      rw [if_neg (fun hc => hok.1 hc.2.symm), h.2 s hs']
      refine orthoRadial_congr o nc f hnr _ _ (nc + s) j' (by omega) fun p q hpn hq => ?_
      have hqj : q ≠ j ∧ q < o.nt := by
        rcases hq with rfl | rfl | rfl
        · exact ⟨fun hc => hok.1 hc.symm, h.1⟩
        · exact ⟨hok.2.1, jm_lt o hpos _⟩
        · exact ⟨hok.2.2, jp_lt o hpos _⟩
      rw [fld_writeRadial o.nr o.nt nc a hg j v p q hpn hqj.2, if_neg fun hc => hqj.1 hc.2]⟩)
    l hp a t hs fun j hj => ⟨hl j hj, ht j hj⟩


/-- **the sequential sweep of the scatter strategy returns what the sweep of the gather strategy returns** (the same array, or
    both take the sparse LU's exit branch): same matrices, same `temp` at the moment each line is solved, same line solves,
    same write-back -/
theorem sweep_eq_take (CM : CircleMats o nc mf) (RM : RadialMats o nc mf) (hnc : 3 ≤ nc) (hnr : nc + 3 ≤ o.nr)
    (hodd : o.nr % 2 = 1) (heven : o.nt % 2 = 0) (x : Array K) (hx : x.size = o.nr * o.nt) :
    sweep o mf tiny nc f x = ExSmootherCode.sweep o tiny nc f x := by
  have init_eq : ∀ (u u' : Stencil.Field K) p q, u p q = u' p q → initTemp f u p q = initTemp f u' p q := by
    intro u u' p q h; unfold initTemp; rw [h]
  have black_iff : ∀ {i}, i < nc → (circleNodeBlack nc i = true ↔ i ∈ blackCircles nc) := fun hi =>
    (circleNodeBlack_iff nc hi).trans ⟨fun h => mem_blackCircles.mpr ⟨hi, h⟩, fun h => (mem_blackCircles.mp h).2⟩
  have bw : ∀ {i}, i < nc → (i ∈ whiteCircles nc ↔ i ∉ blackCircles nc) := fun hi => by
    rw [mem_whiteCircles, mem_blackCircles]; omega
  unfold sweep ExSmootherCode.sweep
  simp only []
  rw [show circleStep o mf tiny = stepG (writeCircle o.nt) putCircle (solveCircle o mf tiny) from rfl,
    show ExSmootherCode.circleStep o tiny nc f
      = stepT (fld o.nt) (writeCircle o.nt) (ExSmootherCode.solveCircle o tiny nc f) from rfl]
  -- phase 1: black circles
  set t0 := initTemp f (fld o.nt x) with ht0
  set t1 := (circlePhase o nc true (nc + 1) (fld o.nt x)).foldl Stencil.applyUpd t0 with ht1
  have ht1other : ∀ p q, q < o.nt → p ∉ blackCircles nc → t1 p q = t0 p q := fun p q hq hp =>
    circle_temp_other o nc true (fld o.nt x) hnc heven t0 p q hq
      ((Nat.lt_or_ge p nc).symm.imp_right fun hpn hcb => hp ((black_iff hpn).mp hcb))
  rcases circle_fold_sim o nc f mf tiny CM (by omega) (blackCircles nc) (fun i hi => (mem_blackCircles.mp hi).1)
      (circles_pairwise nc 0) x t1 hx (fun i hi b hb => circle_temp_own o nc true f (fld o.nt x) hnc heven t0 i b
        (mem_blackCircles.mp hi).1 hb ((black_iff (mem_blackCircles.mp hi).1).mpr hi) rfl)
    with ⟨a1, t1', hg1, hk1, hs1, h1⟩ | ⟨hg1, hk1⟩
  swap
  · rw [hg1, hk1, stepT_none]; rfl
  rw [hg1, hk1]
  simp only [Option.bind_some]
  have off1 : ∀ p q, p ∉ blackCircles nc → p < o.nr → q < o.nt →
      t1' p q = t1 p q ∧ fld o.nt a1 p q = fld o.nt x p q :=
    fun p q hpl hp hq => h1 p q ⟨hp, hq⟩ fun i hi h => hpl (h ▸ hi)
  -- phase 2: white circles
  set t2 := (circlePhase o nc false nc (fld o.nt a1)).foldl Stencil.applyUpd t1' with ht2
  have ht2other : ∀ p q, q < o.nt → p ∉ whiteCircles nc → t2 p q = t1' p q := fun p q hq hp =>
    circle_temp_other o nc false (fld o.nt a1) hnc heven t1' p q hq
      ((Nat.lt_or_ge p nc).symm.imp_right fun hpn hcb => hp ((bw hpn).mpr fun hb => by
        rw [(black_iff hpn).mpr hb] at hcb; cases hcb))
  rcases circle_fold_sim o nc f mf tiny CM (by omega) (whiteCircles nc) (fun i hi => (mem_whiteCircles.mp hi).1)
      (circles_pairwise nc 1) a1 t2 hs1 (fun i hi b hb => by
        have hi1 := (mem_whiteCircles.mp hi).1
        have hnb := (bw hi1).mp hi
        refine circle_temp_own o nc false f (fld o.nt a1) hnc heven t1' i b hi1 hb
          (Bool.eq_false_iff.mpr fun hc => hnb ((black_iff hi1).mp hc)) ?_
        rw [(off1 i b hnb (by omega) hb).1, ht1other i b hb hnb]
        exact init_eq _ _ i b (off1 i b hnb (by omega) hb).2.symm)
    with ⟨a2, t2', hg2, hk2, hs2, h2⟩ | ⟨hg2, hk2⟩
  swap
  · rw [hg2, hk2]; rfl
  rw [hg2, hk2]
  simp only [Option.map_some]
  congr 1
  have off2 : ∀ p q, p ∉ whiteCircles nc → p < o.nr → q < o.nt →
      t2' p q = t2 p q ∧ fld o.nt a2 p q = fld o.nt a1 p q :=
    fun p q hpl hp hq => h2 p q ⟨hp, hq⟩ fun i hi h => hpl (h ▸ hi)
  -- what `temp` and the iterate hold on the radial section after the circle phases
  have rad : ∀ p q, nc ≤ p → p < o.nr → q < o.nt → t2' p q = t0 p q ∧ fld o.nt a2 p q = fld o.nt x p q := by
    intro p q hp hpn hq
    have n1 : p ∉ whiteCircles nc := fun h => by have := (mem_whiteCircles.mp h).1; omega
    have n2 : p ∉ blackCircles nc := fun h => by have := (mem_blackCircles.mp h).1; omega
    rw [(off2 p q n1 hpn hq).1, ht2other p q hq n1, (off1 p q n2 hpn hq).1, ht1other p q hq n2, (off2 p q n1 hpn hq).2,
      (off1 p q n2 hpn hq).2]
    exact ⟨rfl, rfl⟩
  -- phase 3: black radial lines
  obtain ⟨t3', hr1, hs3, h3⟩ := radial_fold_sim o nc f mf RM hnr (blackRadials o.nt) (fun j hj => (mem_blackRadials.mp hj).1)
    (radials_pairwise o heven 0) a2 ((radialPhase o nc true f (fld o.nt a2)).foldl Stencil.applyUpd t2') hs2
    (fun j hj s hs => by
      obtain ⟨hj1, hj2⟩ := mem_blackRadials.mp hj
      refine radial_temp_own o nc true f (fld o.nt a2) hnc hnr hodd heven t2' (nc + s) j (by omega) (by omega) hj1
        (by simp [show ¬ j % 2 = 1 by omega]) ?_
      rw [(rad (nc + s) j (by omega) (by omega) hj1).1]
      exact init_eq _ _ _ _ (rad (nc + s) j (by omega) (by omega) hj1).2.symm)
  rw [hr1]
  simp only []
  -- phase 4: white radial lines
  obtain ⟨t4', hw1, -, -⟩ := radial_fold_sim o nc f mf RM hnr (whiteRadials o.nt) (fun j hj => (mem_whiteRadials.mp hj).1)
    (radials_pairwise o heven 1) _ ((radialPhase o nc false f (fld o.nt ((blackRadials o.nt).foldl
      (ExSmootherCode.radialStep o nc f) a2))).foldl Stencil.applyUpd t3') hs3
    (fun j hj s hs => by
      obtain ⟨hj1, hj2⟩ := mem_whiteRadials.mp hj
      refine radial_temp_own o nc false f _ hnc hnr hodd heven t3' (nc + s) j (by omega) (by omega) hj1 (by simp [hj2]) ?_
      rw [(h3 (nc + s) j ⟨by omega, hj1⟩ fun j' hj' h => by have := (mem_blackRadials.mp hj').2; omega).1,
        radial_temp_other o nc true f (fld o.nt a2) hnc hnr hodd heven t2' (nc + s) j (by omega) hj1
          (Or.inr (by simp [hj2])), (rad (nc + s) j (by omega) (by omega) hj1).1, ht0]
      unfold initTemp
      rw [if_pos (Or.inr hj2), if_pos (Or.inr hj2)])
  rw [hw1]

end
end ExSmootherGiveCode
