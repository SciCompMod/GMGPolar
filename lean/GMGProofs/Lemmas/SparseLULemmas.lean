import GMGModel.SparseLU
import GMGProofs.Lemmas.FieldScalar
import Mathlib.Algebra.BigOperators.Group.Finset.Basic
import Mathlib.Algebra.BigOperators.Intervals
import Mathlib.Algebra.BigOperators.Group.List.Basic
import Mathlib.Algebra.BigOperators.Ring.Finset
import Mathlib.Algebra.Order.Field.Basic
import Mathlib.Algebra.Order.BigOperators.Group.Finset
import Mathlib.Algebra.Order.Ring.Abs
import Mathlib.Tactic.Ring
import Mathlib.Tactic.Linarith
import Mathlib.Tactic.FieldSimp
/-!
# Sparse LU without pivoting (C16)

The map-level code of `sparseLUSolver.h` computes a dense row recurrence `elim` (DESIGN.md, Appendix E12) whose invariant is
row `i` of `L·U = A`; forward and backward substitution then give `A x = b` unless a pivot is `tiny`.  For rows without
repeated columns storage order and explicit zeros do not matter; strictly diagonally dominant rows have non-zero pivots.
-/

namespace SparseLU
open Finset

/-! ## sums with one index pulled out -/
section Sums
variable {K : Type} [Field K]

theorem sum_split_at (s : Finset ℕ) (i : ℕ) (hi : i ∈ s) (f : ℕ → K) :
    ∑ k ∈ s, f k = f i + ∑ k ∈ s, (if k = i then 0 else f k) := by
  have : ∀ k ∈ s, f k = (if k = i then f i else 0) + (if k = i then 0 else f k) := by
    intro k _; by_cases h : k = i <;> simp [h]
  rw [Finset.sum_congr rfl this, Finset.sum_add_distrib, Finset.sum_ite_eq', if_pos hi]

theorem sum_update (s : Finset ℕ) (i : ℕ) (hi : i ∈ s) (f x : ℕ → K) (v : K) :
    ∑ k ∈ s, f k * (if k = i then v else x k)
      = f i * v + ∑ k ∈ s, f k * (if k = i then 0 else x k) := by
  rw [sum_split_at s i hi, if_pos rfl]
  congr 1
  refine Finset.sum_congr rfl fun k _ => ?_
  split <;> simp

end Sums

/-! ## finite maps -/
section Maps
variable {α : Type}

def keys (r : Row α) : List Nat := r.map (·.1)

/-- no key twice (`std::unordered_map` invariant) -/
def Uniq (r : Row α) : Prop := (keys r).Nodup

@[simp] theorem keys_cons (e : Nat × α) (r : Row α) : keys (e :: r) = e.1 :: keys r := rfl
theorem uniq_nil : Uniq ([] : Row α) := List.nodup_nil

theorem uniq_cons {e : Nat × α} {r : Row α} : Uniq (e :: r) ↔ e.1 ∉ keys r ∧ Uniq r := by
  unfold Uniq; simp [List.nodup_cons]

theorem get_cons (e : Nat × α) (r : Row α) (k : Nat) :
    get (e :: r) k = if e.1 = k then some e.2 else get r k := by
  unfold get
  by_cases h : e.1 = k <;> simp [h]

/-- `find` after `map[k] = v`, for every list (no uniqueness needed) -/
theorem get_set (r : Row α) (k k' : Nat) (v : α) :
    get (set r k v) k' = if k' = k then some v else get r k' := by
  unfold set get
  split
  · rename_i hany
    -- the update keeps every key, so `find?` stops at the same entry
    have hg : ((fun e : Nat × α => e.1 == k') ∘ fun e => if e.1 == k then (k, v) else e)
        = fun e => e.1 == k' := by
      funext e; by_cases h : e.1 = k <;> simp [h]
    rw [List.find?_map, hg]
    cases hf : r.find? (fun e => e.1 == k') with
    | none =>
        have : ¬ k' = k := by
          rintro rfl
          obtain ⟨e, he, hk⟩ := List.any_eq_true.mp hany
          exact absurd hk (List.find?_eq_none.mp hf e he)
        simp [this]
    | some e =>
        have := List.find?_some hf
        by_cases h : k' = k <;> simp_all
  · rename_i hany
    rw [List.find?_append]
    by_cases h : k' = k
    · subst h
      have : r.find? (fun e => e.1 == k') = none := by
        rw [List.find?_eq_none]; intro e he hk; exact hany (List.any_eq_true.mpr ⟨e, he, hk⟩)
      simp [this]
    · cases r.find? (fun e => e.1 == k') <;> simp [h, Ne.symm h]

theorem keys_set (r : Row α) (k : Nat) (v : α) :
    keys (set r k v) = if k ∈ keys r then keys r else keys r ++ [k] := by
  have hany : r.any (fun e => e.1 == k) = true ↔ k ∈ keys r := by
    simp only [keys, List.any_eq_true, List.mem_map, beq_iff_eq]
  unfold set
  simp only [hany]
  split
  · unfold keys; rw [List.map_map]
    exact List.map_congr_left fun e _ => by by_cases h : e.1 = k <;> simp [h]
  · simp [keys]

theorem uniq_foldl {β : Type} (f : Row α → β → Row α) (hf : ∀ r x, Uniq r → Uniq (f r x)) (l : List β) :
    ∀ r0, Uniq r0 → Uniq (l.foldl f r0) := by
  induction l with
  | nil => exact fun _ h => h
  | cons x l ih => exact fun r0 h => ih _ (hf _ _ h)

theorem set_of_not_mem {r : Row α} {k : Nat} (h : k ∉ keys r) (v : α) : set r k v = r ++ [(k, v)] := by
  unfold set; rw [if_neg]; simpa [keys] using h

theorem get_filter (r : Row α) (p : Nat → Bool) (k : Nat) :
    get (r.filter (fun e => p e.1)) k = if p k then get r k else none := by
  unfold get
  rw [List.find?_filter]
  have : (fun e : Nat × α => decide (p e.1 = true ∧ (e.1 == k) = true)) = fun e => p k && e.1 == k := by
    funext e; by_cases h : e.1 = k <;> simp [h]
  rw [this]
  cases p k <;> simp

theorem uniq_filter {r : Row α} (hu : Uniq r) (p : Nat × α → Bool) : Uniq (r.filter p) := by
  unfold Uniq keys at *
  exact hu.sublist (List.filter_sublist.map _)

theorem get_eq_none_iff {r : Row α} {k : Nat} : get r k = none ↔ k ∉ keys r := by
  induction r with
  | nil => simp [get, keys]
  | cons e r ih =>
      rw [get_cons]
      by_cases h : e.1 = k
      · simp [h]
      · simp [h, Ne.symm h, ih]

theorem uniq_set {r : Row α} (hu : Uniq r) (k : Nat) (v : α) : Uniq (set r k v) := by
  unfold Uniq at *
  rw [keys_set]
  split
  · exact hu
  · rename_i h; simpa [List.nodup_append] using ⟨hu, fun a ha hak => h (hak ▸ ha)⟩

theorem get_eq_some_iff {r : Row α} (hu : Uniq r) {k : Nat} {v : α} :
    get r k = some v ↔ (k, v) ∈ r := by
  induction r with
  | nil => simp [get]
  | cons e r ih =>
      obtain ⟨hn, hu'⟩ := uniq_cons.mp hu
      rw [get_cons, List.mem_cons, ← ih hu']
      by_cases h : e.1 = k
      · subst h
        simp [get_eq_none_iff.mpr hn, Prod.ext_iff, eq_comm]
      · simp [h, Prod.ext_iff, Ne.symm h]

theorem get_perm {r r' : Row α} (hu : Uniq r) (hp : r.Perm r') (k : Nat) : get r k = get r' k := by
  have hu' : Uniq r' := (hp.map _).nodup_iff.mp hu
  cases h : get r' k with
  | none => rw [get_eq_none_iff] at h ⊢; exact fun hk => h ((hp.map _).mem_iff.mp hk)
  | some v => rw [get_eq_some_iff hu'] at h; rw [get_eq_some_iff hu]; exact hp.mem_iff.mpr h

variable [Scalar α]

set_option linter.unusedSectionVars false in
@[simp] theorem keys_nil : keys ([] : Row α) = [] := rfl
set_option linter.unusedSectionVars false in
@[simp] theorem get_nil (k : Nat) : get ([] : Row α) k = none := rfl

@[simp] theorem den_nil (k : Nat) : den ([] : Row α) k = Scalar.n 0 := rfl

theorem den_cons (e : Nat × α) (r : Row α) (k : Nat) :
    den (e :: r) k = if e.1 = k then e.2 else den r k := by
  unfold den; rw [get_cons]; split <;> rfl

theorem den_of_not_mem {r : Row α} {k : Nat} (h : k ∉ keys r) : den r k = Scalar.n 0 := by
  unfold den; rw [get_eq_none_iff.mpr h]; rfl

/-- `operator[]` after `map[k] = v` -/
theorem den_set (r : Row α) (k k' : Nat) (v : α) :
    den (set r k v) k' = if k' = k then v else den r k' := by
  unfold den; rw [get_set]; split <;> rfl

set_option linter.unusedSectionVars false in
theorem mem_keys_set {r : Row α} {k k' : Nat} {v : α} :
    k' ∈ keys (set r k v) ↔ k' = k ∨ k' ∈ keys r := by
  rw [keys_set]
  split
  · rename_i h; exact ⟨Or.inr, fun h' => h'.elim (fun e => e ▸ h) id⟩
  · simp [or_comm]

theorem den_filter (r : Row α) (p : Nat → Bool) (k : Nat) :
    den (r.filter (fun e => p e.1)) k = if p k then den r k else Scalar.n 0 := by
  unfold den; rw [get_filter]; split <;> rfl

theorem den_perm {r r' : Row α} (hu : Uniq r) (hp : r.Perm r') (k : Nat) : den r k = den r' k := by
  unfold den; rw [get_perm hu hp]

end Maps

/-! ## the dense row recurrence and its invariant -/
section Dense
variable {K : Type} [Field K]

/-- eliminate columns 0..j-1 of the dense row `r` against the finished upper rows `U`
    (`sparseLUSolver.h:171-186`: `it->second /= U[j][j]`, then `row[k] -= l * U[j][k]` for k > j) -/
def elim (U : ℕ → ℕ → K) : ℕ → (ℕ → K) → (ℕ → K)
  | 0, r => r
  | j + 1, r =>
      let r' := elim U j r
      let l := r' j / U j j
      fun k => if k = j then l else if j < k then r' k - l * U j k else r' k

theorem elim_stable (U : ℕ → ℕ → K) (r : ℕ → K) : ∀ j m k, k < j → elim U (j + m) r k = elim U j r k
  | j, 0, k, _ => rfl
  | j, m + 1, k, hk => by
      have ih := elim_stable U r j m k hk
      show elim U (j + m + 1) r k = _
      simp only [elim]
      have h1 : k ≠ j + m := by omega
      have h2 : ¬ (j + m < k) := by omega
      simp [h1, h2, ih]

theorem elim_congr (U U' : ℕ → ℕ → K) (r : ℕ → K) :
    ∀ j, (∀ m, m < j → U m = U' m) → elim U j r = elim U' j r
  | 0, _ => rfl
  | j + 1, h => by
      have ih := elim_congr U U' r j (fun m hm => h m (by omega))
      simp only [elim, ih, h j (by omega)]

/-- the row identity behind L·U = A: after eliminating j columns,
    r = Σ_{m<j} l_m · (upper part of U_m) + (remaining part of the working row) -/
theorem elim_invariant (U : ℕ → ℕ → K) (r : ℕ → K) :
    ∀ j, (∀ m, m < j → U m m ≠ 0) → ∀ k,
      r k = ∑ m ∈ range j, elim U j r m * (if m ≤ k then U m k else 0)
              + (if j ≤ k then elim U j r k else 0)
  | 0, _, k => by simp [elim]
  | j + 1, hU, k => by
      have ih := elim_invariant U r j (fun m hm => hU m (by omega)) k
      rw [Finset.sum_range_succ]
      have st : ∀ m ∈ range j, elim U (j + 1) r m = elim U j r m := by
        intro m hm; exact elim_stable U r j 1 m (by simpa using hm)
      rw [Finset.sum_congr rfl (fun m hm => by rw [st m hm])]
      have lj : elim U (j + 1) r j = elim U j r j / U j j := by simp [elim]
      rw [lj, ih]
      have hj := hU j (by omega)
      rcases Nat.lt_trichotomy k j with h | h | h
      · have a1 : ¬ j ≤ k := by omega
        have a2 : ¬ j + 1 ≤ k := by omega
        simp [a1, a2]
      · subst h
        have a2 : ¬ k + 1 ≤ k := by omega
        simp [a2]; field_simp
      · have a1 : j ≤ k := by omega
        have a2 : j + 1 ≤ k := by omega
        have a3 : k ≠ j := by omega
        simp [a1, a2, elim, a3, h]

end Dense

/-! ## the map-level code against the dense recurrence -/
section Bridge
variable {K : Type} [Field K]

/-- the fill-in loop `for (k, u) in U[j]: if k > j: row[k] -= l * u` -/
theorem den_fillin (Uj : Row K) (hu : Uniq Uj) (j : Nat) (l : K) : ∀ (r0 : Row K) (k : Nat),
    den (Uj.foldl (fun r e => if e.1 > j then set r e.1 (den r e.1 - l * e.2) else r) r0) k
      = if j < k then den r0 k - l * den Uj k else den r0 k := by
  induction Uj with
  | nil => intro r0 k; simp
  | cons e rest ih =>
      intro r0 k
      obtain ⟨hn, hu'⟩ := uniq_cons.mp hu
      rw [List.foldl_cons, ih hu', den_cons]
      by_cases hk : e.1 = k
      · subst hk
        have h0 : den rest e.1 = 0 := by rw [den_of_not_mem hn]; simp
        by_cases hj : j < e.1 <;> simp [hj, den_set, h0]
      · by_cases hj : j < e.1 <;> simp [hj, hk, Ne.symm hk, den_set]

theorem elimStep_den (Uj : Row K) (hu : Uniq Uj) (j : Nat) (row : Row K) (k : Nat) :
    den (elimStep Uj j row) k =
      if k = j then den row j / den Uj j
      else if j < k then den row k - (den row j / den Uj j) * den Uj k else den row k := by
  unfold elimStep
  cases hg : get row j with
  | none =>
      have h0 : den row j = 0 := by unfold den; rw [hg]; simp
      simp only [h0, zero_div, zero_mul, sub_zero]
      by_cases hk : k = j <;> simp [hk, h0]
  | some v =>
      have hv : den row j = v := by unfold den; rw [hg]; rfl
      simp only
      rw [den_fillin Uj hu, den_set, hv]
      by_cases hk : k = j <;> simp [hk]

theorem uniq_elimStep (Uj : Row K) (j : Nat) (row : Row K) (h : Uniq row) : Uniq (elimStep Uj j row) := by
  unfold elimStep
  cases get row j with
  | none => exact h
  | some v =>
      refine uniq_foldl _ (fun r e hr => ?_) Uj _ (uniq_set h _ _)
      split
      · exact uniq_set hr _ _
      · exact hr

theorem elimRow_succ (U : List (Row K)) (i : Nat) (row : Row K) :
    elimRow U (i + 1) row = elimStep (U.getD i []) i (elimRow U i row) := by
  unfold elimRow; rw [List.range_succ, List.foldl_append]; rfl

theorem uniq_elimRow (U : List (Row K)) (row : Row K) (h : Uniq row) (i : Nat) : Uniq (elimRow U i row) :=
  uniq_foldl _ (fun r j hr => uniq_elimStep _ j r hr) _ _ h

/-- dense view of a list of map rows -/
def denU (U : List (Row K)) : ℕ → ℕ → K := fun m k => den (U.getD m []) k

theorem elimRow_den (U : List (Row K)) (row : Row K) :
    ∀ i, (∀ m, m < i → Uniq (U.getD m [])) → ∀ k, den (elimRow U i row) k = elim (denU U) i (den row) k
  | 0, _, k => rfl
  | i + 1, hU, k => by
      have ih := elimRow_den U row i (fun m hm => hU m (by omega))
      rw [elimRow_succ, elimStep_den _ (hU i (by omega))]
      simp only [elim, ih, denU]

theorem elimRow_congr (U U' : List (Row K)) (row : Row K) :
    ∀ i, (∀ m, m < i → U.getD m [] = U'.getD m []) → elimRow U i row = elimRow U' i row
  | 0, _ => rfl
  | i + 1, h => by
      rw [elimRow_succ, elimRow_succ, elimRow_congr U U' row i (fun m hm => h m (by omega)), h i (by omega)]

end Bridge

/-! ## the row-by-row factorisation -/
section Factor
variable {K : Type} [Field K]

/-- one pass of the outer loop of `factorRows` -/
def factorStep (A : CSR K) (LU : List (Row K) × List (Row K)) (i : Nat) : List (Row K) × List (Row K) :=
  let r := elimRow LU.2 i (loadRow A i)
  (LU.1 ++ [r.filter (fun e => e.1 < i)], LU.2 ++ [r.filter (fun e => e.1 ≥ i)])

/-- the factorisation after the first `n` rows -/
def factorUpTo (A : CSR K) (n : Nat) : List (Row K) × List (Row K) :=
  (List.range n).foldl (factorStep A) ([], [])

theorem factorRows_eq (A : CSR K) : factorRows A = factorUpTo A A.rows := rfl

theorem factorUpTo_succ (A : CSR K) (n : Nat) :
    factorUpTo A (n + 1) = factorStep A (factorUpTo A n) n := by
  unfold factorUpTo; rw [List.range_succ, List.foldl_append]; rfl

/-- the final working row of row `i` (before it is split into its L and U part) -/
def W (A : CSR K) (i : Nat) : Row K := elimRow (factorUpTo A i).2 i (loadRow A i)

theorem factorUpTo_eq (A : CSR K) : ∀ n, factorUpTo A n =
    ((List.range n).map (fun i => (W A i).filter (fun e => e.1 < i)),
     (List.range n).map (fun i => (W A i).filter (fun e => e.1 ≥ i)))
  | 0 => rfl
  | n + 1 => by
      rw [factorUpTo_succ, List.range_succ, List.map_append, List.map_append]
      have ih := factorUpTo_eq A n
      have hW : W A n = elimRow (factorUpTo A n).2 n (loadRow A n) := rfl
      unfold factorStep
      simp only [List.map_cons, List.map_nil]
      rw [hW, ih]

theorem getD_map_range {β : Type} (f : Nat → β) (n i : Nat) (d : β) :
    ((List.range n).map f).getD i d = if i < n then f i else d := by
  by_cases h : i < n <;> simp [List.getD_eq_getElem?_getD, h]

theorem getD_of_le {β : Type} {l : List β} {i : Nat} (d : β) (h : l.length ≤ i) : l.getD i d = d := by
  simp [List.getD_eq_getElem?_getD, List.getElem?_eq_none h]

theorem eq_map_range_getD {β : Type} (l : List β) (d : β) : l = (List.range l.length).map (l.getD · d) :=
  List.ext_getElem (by simp) fun i h1 _ => by simp [List.getD_eq_getElem?_getD, h1]

theorem factorRows_length (A : CSR K) :
    (factorRows A).1.length = A.rows ∧ (factorRows A).2.length = A.rows := by
  rw [factorRows_eq, factorUpTo_eq]; simp

/-- the stored rows of `L` and `U` after `n` passes (rows `≥ n` do not exist yet) -/
theorem LU_getD (A : CSR K) (n i : Nat) :
    (factorUpTo A n).1.getD i [] = (if i < n then (W A i).filter (fun e => e.1 < i) else []) ∧
    (factorUpTo A n).2.getD i [] = (if i < n then (W A i).filter (fun e => e.1 ≥ i) else []) := by
  rw [factorUpTo_eq]; exact ⟨getD_map_range _ _ _ _, getD_map_range _ _ _ _⟩

theorem U_getD (A : CSR K) (n i : Nat) (h : i < n) :
    (factorUpTo A n).2.getD i [] = (W A i).filter (fun e => e.1 ≥ i) := by
  rw [(LU_getD A n i).2, if_pos h]

/-- `loadRow` builds the row with `set`, so its keys are unique whatever the stored pattern -/
theorem uniq_loadRow (A : CSR K) (i : Nat) : Uniq (loadRow A i) := by
  unfold loadRow
  exact uniq_foldl _ (fun _ _ h => uniq_set h _ _) _ _ uniq_nil

theorem uniq_W (A : CSR K) (i : Nat) : Uniq (W A i) := uniq_elimRow _ _ (uniq_loadRow A i) i

theorem uniq_LU (A : CSR K) (i : Nat) :
    Uniq ((factorRows A).1.getD i []) ∧ Uniq ((factorRows A).2.getD i []) := by
  rw [factorRows_eq, (LU_getD A _ i).1, (LU_getD A _ i).2]
  split
  · exact ⟨uniq_filter (uniq_W A i) _, uniq_filter (uniq_W A i) _⟩
  · exact ⟨uniq_nil, uniq_nil⟩

theorem uniq_U (A : CSR K) (i : Nat) : Uniq ((factorRows A).2.getD i []) := (uniq_LU A i).2

theorem L_keys (A : CSR K) (i : Nat) : ∀ e ∈ (factorRows A).1.getD i [], e.1 < i := by
  intro e he
  rw [factorRows_eq, (LU_getD A _ i).1] at he
  split at he
  · simpa using (List.mem_filter.mp he).2
  · simp at he

theorem den_L (A : CSR K) (i m : Nat) (h : i < A.rows) :
    den ((factorRows A).1.getD i []) m = if m < i then den (W A i) m else 0 := by
  rw [factorRows_eq, (LU_getD A _ i).1, if_pos h]
  have := den_filter (W A i) (fun k => decide (k < i)) m
  simpa using this

theorem den_U (A : CSR K) (i k : Nat) (h : i < A.rows) :
    den ((factorRows A).2.getD i []) k = if i ≤ k then den (W A i) k else 0 := by
  rw [factorRows_eq, U_getD A _ i h]
  have := den_filter (W A i) (fun k => decide (k ≥ i)) k
  simpa using this

theorem den_W (A : CSR K) (i k : Nat) (h : i ≤ A.rows) :
    den (W A i) k = elim (denU (factorRows A).2) i (den (loadRow A i)) k := by
  rw [← elimRow_den _ _ i (fun m _ => uniq_U A m)]
  unfold W
  -- rows `< i` of `U` are final after `i` passes
  rw [elimRow_congr _ (factorRows A).2 _ i fun m hm => by
    rw [factorRows_eq, U_getD A i m hm, U_getD A A.rows m (by omega)]]

/-- row `i` of `A` is row `i` of `L·U` with `L` unit lower and `U` upper triangular; only the
    pivots `m < i` enter, since the factors of row `i` depend on the rows `< i` only -/
theorem lu_product_row_of_lt (A : CSR K) (i k : Nat) (hi : i < A.rows)
    (hp : ∀ m, m < i → den ((factorRows A).2.getD m []) m ≠ 0) :
    toDense A i k = ∑ m ∈ range i, den ((factorRows A).1.getD i []) m * den ((factorRows A).2.getD m []) k
        + den ((factorRows A).2.getD i []) k := by
  have inv := elim_invariant (denU (factorRows A).2) (den (loadRow A i)) i hp k
  unfold toDense
  rw [inv, den_U A i k hi, den_W A i k (by omega)]
  congr 1
  apply Finset.sum_congr rfl
  intro m hm
  have hm' : m < i := by simpa using hm
  rw [den_L A i m hi, if_pos hm', den_W A i m (by omega)]
  congr 1
  show (if m ≤ k then den ((factorRows A).2.getD m []) k else 0) = _
  rw [den_U A m k (by omega)]
  split <;> rfl

/-- `(A x)ᵢ = (L (U x))ᵢ + (U x)ᵢ` over any set of columns -/
theorem sum_toDense_mul (A : CSR K) (i : Nat) (hi : i < A.rows)
    (hp : ∀ m, m < i → den ((factorRows A).2.getD m []) m ≠ 0) (s : Finset ℕ) (x : ℕ → K) :
    ∑ k ∈ s, toDense A i k * x k
      = ∑ m ∈ range i, den ((factorRows A).1.getD i []) m * ∑ k ∈ s, den ((factorRows A).2.getD m []) k * x k
        + ∑ k ∈ s, den ((factorRows A).2.getD i []) k * x k := by
  simp only [lu_product_row_of_lt A i _ hi hp, add_mul, Finset.sum_mul, Finset.sum_add_distrib]
  rw [Finset.sum_comm]
  congr 1
  refine Finset.sum_congr rfl fun m _ => ?_
  rw [Finset.mul_sum]
  exact Finset.sum_congr rfl fun k _ => mul_assoc _ _ _

end Factor

/-! ## forward and backward substitution -/
section Subst
variable {K : Type} [Field K]

theorem vget_of_le (b : List K) {k : Nat} (h : b.length ≤ k) : vget b k = 0 := by
  unfold vget; rw [getD_of_le _ h]; simp

theorem vget_set (b : List K) (i k : Nat) (v : K) :
    vget (b.set i v) k = if k = i ∧ i < b.length then v else vget b k := by
  unfold vget
  rw [List.getD_eq_getElem?_getD, List.getD_eq_getElem?_getD, List.getElem?_set]
  by_cases h : i = k
  · subst h; by_cases h2 : i < b.length <;> simp [h2]
  · simp [h, Ne.symm h]

theorem foldl_add_eq {β : Type} (g : β → K) (l : List β) : ∀ a : K,
    l.foldl (fun s e => s + g e) a = a + (l.map g).sum := by
  induction l with
  | nil => intro a; simp
  | cons x l ih => intro a; rw [List.foldl_cons, ih, List.map_cons, List.sum_cons, add_assoc]

theorem rowSum_eq (r : Row K) (hu : Uniq r) (f : ℕ → K) (n : ℕ) (hf : ∀ m, n ≤ m → f m = 0) :
    (r.map (fun e => e.2 * f e.1)).sum = ∑ m ∈ range n, den r m * f m := by
  induction r with
  | nil => simp
  | cons e rest ih =>
      obtain ⟨hn, hu'⟩ := uniq_cons.mp hu
      -- the head entry contributes at its own key only, where the tail reads `0`
      have ht : ∀ m, den (e :: rest) m = (if m = e.1 then e.2 else 0) + den rest m := by
        intro m
        rw [den_cons]
        by_cases h : e.1 = m
        · subst h; simp [den_of_not_mem hn]
        · simp [h, Ne.symm h]
      rw [List.map_cons, List.sum_cons, ih hu']
      simp only [ht, add_mul, Finset.sum_add_distrib, ite_mul, zero_mul, Finset.sum_ite_eq', mem_range]
      split
      · rfl
      · rw [hf _ (by omega), mul_zero]

theorem den_zero_of_keys_lt {r : Row K} {i k : Nat} (h : ∀ e ∈ r, e.1 < i) (hk : i ≤ k) : den r k = 0 := by
  rw [den_of_not_mem]; · simp
  intro hmem
  obtain ⟨e, he, rfl⟩ := List.mem_map.mp hmem
  have := h e he; omega

theorem mulDense_length (A : CSR K) (x : List K) : (mulDense A x).length = A.rows := by
  unfold mulDense; simp

theorem vget_mulDense (A : CSR K) (x : List K) (i : Nat) (hi : i < A.rows) :
    vget (mulDense A x) i = ∑ k ∈ range x.length, toDense A i k * vget x k := by
  unfold mulDense vget
  rw [getD_map_range, if_pos hi, foldl_add_eq]
  rw [rowSum_eq (loadRow A i) (uniq_loadRow A i) (fun k => x.getD k (Scalar.n 0)) x.length
    (fun m hm => vget_of_le x hm)]
  simp [toDense]

theorem fwdRow_eq (Li : Row K) (i : Nat) (hk : ∀ e ∈ Li, e.1 ≠ i) : ∀ (b : List K), i < b.length →
    Li.foldl (fun b e => b.set i (vget b i - e.2 * vget b e.1)) b
      = b.set i (vget b i - (Li.map (fun e => e.2 * vget b e.1)).sum) := by
  induction Li with
  | nil => intro b hb; simp [vget, hb]
  | cons e rest ih =>
      intro b hb
      have hk' : ∀ e ∈ rest, e.1 ≠ i := fun e' he' => hk e' (List.mem_cons_of_mem _ he')
      rw [List.foldl_cons, ih hk' _ (by simpa using hb), List.set_set]
      congr 1
      rw [vget_set, if_pos ⟨rfl, hb⟩, List.map_cons, List.sum_cons]
      have : (rest.map (fun e' => e'.2 * vget (b.set i (vget b i - e.2 * vget b e.1)) e'.1))
           = rest.map (fun e' => e'.2 * vget b e'.1) := by
        apply List.map_congr_left
        intro e' he'
        rw [vget_set, if_neg (fun h => hk' e' he' h.1)]
      rw [this]; ring

/-- forward substitution over the first `m` rows -/
def fwdUpTo (L : List (Row K)) (m : Nat) (b : List K) : List K :=
  (List.range m).foldl (fun b i =>
      (L.getD i []).foldl (fun b e => b.set i (vget b i - e.2 * vget b e.1)) b) b

theorem fwdSolve_eq (L : List (Row K)) (b : List K) : fwdSolve L b = fwdUpTo L L.length b := rfl

theorem fwdUpTo_succ (L : List (Row K)) (m : Nat) (b : List K) :
    fwdUpTo L (m + 1) b =
      (L.getD m []).foldl (fun b e => b.set m (vget b m - e.2 * vget b e.1)) (fwdUpTo L m b) := by
  unfold fwdUpTo; rw [List.range_succ, List.foldl_append]; rfl

theorem fwd_spec (L : List (Row K))
    (hL : ∀ i, Uniq (L.getD i []) ∧ ∀ e ∈ L.getD i [], e.1 < i) (b : List K) :
    ∀ m, m ≤ b.length →
      (fwdUpTo L m b).length = b.length ∧
      (∀ i, m ≤ i → vget (fwdUpTo L m b) i = vget b i) ∧
      (∀ i, i < m → vget (fwdUpTo L m b) i
          + ∑ k ∈ range b.length, den (L.getD i []) k * vget (fwdUpTo L m b) k = vget b i)
  | 0, _ => ⟨rfl, fun _ _ => rfl, fun i hi => absurd hi (Nat.not_lt_zero i)⟩
  | m + 1, hm => by
      obtain ⟨ihl, ihge, ihlt⟩ := fwd_spec L hL b m (by omega)
      have hkeys : ∀ e ∈ L.getD m [], e.1 ≠ m := fun e he => by have := (hL m).2 e he; omega
      have hmy : m < (fwdUpTo L m b).length := by omega
      rw [fwdUpTo_succ, fwdRow_eq _ m hkeys _ hmy]
      rw [rowSum_eq _ (hL m).1 (vget (fwdUpTo L m b)) b.length
        (fun k hk => vget_of_le _ (by omega))]
      set y := fwdUpTo L m b with hy
      set S := ∑ k ∈ range b.length, den (L.getD m []) k * vget y k with hS
      -- the dot products with rows ≤ m do not see the new entry
      have hdot : ∀ i, i ≤ m → ∑ k ∈ range b.length, den (L.getD i []) k * vget (y.set m (vget y m - S)) k
          = ∑ k ∈ range b.length, den (L.getD i []) k * vget y k := by
        intro i hi
        apply Finset.sum_congr rfl
        intro k _
        rw [vget_set]
        by_cases hk : k = m
        · subst hk
          rw [den_zero_of_keys_lt (hL i).2 hi]; simp
        · simp [hk]
      refine ⟨by simp [ihl], ?_, ?_⟩
      · intro i hi
        rw [vget_set, if_neg (by omega)]
        exact ihge i (by omega)
      · intro i hi
        rw [hdot i (by omega)]
        by_cases him : i = m
        · subst him
          rw [vget_set, if_pos ⟨rfl, hmy⟩, ihge i (le_refl i)]
          ring
        · rw [vget_set, if_neg (fun h => him h.1)]
          exact ihlt i (by omega)

theorem bwdRow_fold (i : Nat) (b : List K) (r : Row K) (hu : Uniq r) : ∀ acc : K × K,
    r.foldl (fun (acc : K × K) e =>
        if e.1 == i then (e.2, acc.2) else (acc.1, acc.2 - e.2 * vget b e.1)) acc
      = (if i ∈ keys r then den r i else acc.1,
         acc.2 - (r.map (fun e => e.2 * (if e.1 = i then 0 else vget b e.1))).sum) := by
  induction r with
  | nil => intro acc; simp
  | cons e rest ih =>
      intro acc
      obtain ⟨hn, hu'⟩ := uniq_cons.mp hu
      rw [List.foldl_cons, ih hu', List.map_cons, List.sum_cons, den_cons, keys_cons]
      by_cases he : e.1 = i
      · subst he
        simp [hn]
      · have he' : ¬ i = e.1 := fun h => he h.symm
        have hb : (e.1 == i) = false := by simpa using he
        simp only [hb, he, if_false, List.mem_cons, he', false_or, Bool.false_eq_true]
        congr 1
        ring

theorem bwdRow_eq (Ui : Row K) (hu : Uniq Ui) (i : Nat) (b : List K) :
    bwdRow Ui i b = (den Ui i,
      vget b i - ∑ k ∈ range b.length, den Ui k * (if k = i then 0 else vget b k)) := by
  unfold bwdRow
  rw [bwdRow_fold i b Ui hu]
  rw [rowSum_eq Ui hu (fun k => if k = i then 0 else vget b k) b.length
    (fun m hm => by show (if m = i then (0:K) else vget b m) = 0; split; rfl; exact vget_of_le b hm)]
  congr 1
  split
  · rfl
  · rename_i h; rw [den_of_not_mem h]

theorem bwd_spec (tiny : K → Bool) (U : List (Row K)) (n : Nat)
    (hU : ∀ j, Uniq (U.getD j []))
    (hp : ∀ j, j < n → den (U.getD j []) j ≠ 0)
    (hup : ∀ j k, k < j → den (U.getD j []) k = 0) :
    ∀ i, i ≤ n → ∀ b x : List K, b.length = n → bwdSolve tiny U i b = some x →
      x.length = n ∧ (∀ k, i ≤ k → vget x k = vget b k) ∧
      ∀ j, j < i → ∑ k ∈ range n, den (U.getD j []) k * vget x k = vget b j
  | 0, _, b, x, hb, h => by
      simp only [bwdSolve, Option.some.injEq] at h
      subst h
      exact ⟨hb, fun _ _ => rfl, fun j hj => absurd hj (Nat.not_lt_zero j)⟩
  | i + 1, hi, b, x, hb, h => by
      simp only [bwdSolve] at h
      split at h
      · exact absurd h (by simp)
      rw [bwdRow_eq _ (hU i)] at h
      simp only at h
      set d := den (U.getD i []) with hd
      set S := ∑ k ∈ range b.length, d k * (if k = i then 0 else vget b k) with hS
      set v := (vget b i - S) / d i with hv
      have hin : i < b.length := by omega
      obtain ⟨xl, xge, xlt⟩ := bwd_spec tiny U n hU hp hup i (by omega) (b.set i v) x (by simp [hb]) h
      refine ⟨xl, ?_, ?_⟩
      · intro k hk
        rw [xge k (by omega), vget_set, if_neg (by omega)]
      · intro j hj
        by_cases hji : j = i
        · subst hji
          have hdi : d j ≠ 0 := hp j (by omega)
          have h1 : ∀ k ∈ range n, d k * vget x k = d k * (if k = j then v else vget b k) := by
            intro k _
            by_cases hkj : k < j
            · rw [show d k = 0 from hup j k hkj, zero_mul, zero_mul]
            · rw [xge k (by omega), vget_set]
              by_cases hkj' : k = j <;> simp [hkj', hin]
          rw [Finset.sum_congr rfl h1, sum_update _ j (mem_range.mpr (by omega)), ← hb, ← hS, hv]
          field_simp
          ring
        · rw [xlt j (by omega), vget_set, if_neg (fun h => hji h.1)]

end Subst

/-! ## the solve: `A x = b` -/
section Solve
variable {K : Type} [Field K]

theorem ext_vget {l1 l2 : List K} (hl : l1.length = l2.length)
    (h : ∀ i, i < l1.length → vget l1 i = vget l2 i) : l1 = l2 := by
  refine List.ext_getElem hl fun i h1 h2 => ?_
  simpa [vget, h1, h2] using h i h1

theorem U_upper (A : CSR K) (j k : Nat) (h : k < j) : den ((factorRows A).2.getD j []) k = 0 := by
  rw [factorRows_eq, (LU_getD A _ j).2]
  split
  · have := den_filter (W A j) (fun k => decide (k ≥ j)) k
    simpa [Nat.not_le.mpr h] using this
  · simp

theorem L_lower (A : CSR K) (i m : Nat) (h : i ≤ m) : den ((factorRows A).1.getD i []) m = 0 :=
  den_zero_of_keys_lt (L_keys A i) h

/-- forward substitution solves the unit lower triangular system `L y = b` -/
theorem fwdSolve_spec (A : CSR K) (b : List K) (hb : b.length = A.rows) :
    (fwdSolve (factorRows A).1 b).length = A.rows ∧
    ∀ i, i < A.rows → vget (fwdSolve (factorRows A).1 b) i
      + ∑ m ∈ range i, den ((factorRows A).1.getD i []) m * vget (fwdSolve (factorRows A).1 b) m
      = vget b i := by
  rw [fwdSolve_eq, (factorRows_length A).1]
  obtain ⟨hl, _, hlt⟩ := fwd_spec (factorRows A).1 (fun i => ⟨(uniq_LU A i).1, L_keys A i⟩) b A.rows (by omega)
  refine ⟨by omega, ?_⟩
  intro i hi
  rw [← hlt i hi, hb]
  congr 1
  apply Finset.sum_subset
  · intro m hm; simp at hm ⊢; omega
  · intro m _ hm
    rw [L_lower A i m (by simpa using hm)]; simp

/-- backward substitution solves the upper triangular system `U x = y` (when it does not exit) -/
theorem bwdSolve_spec (tiny : K → Bool) (A : CSR K)
    (hp : ∀ i, i < A.rows → den ((factorRows A).2.getD i []) i ≠ 0)
    (y x : List K) (hy : y.length = A.rows)
    (hs : bwdSolve tiny (factorRows A).2 A.rows y = some x) :
    x.length = A.rows ∧
    ∀ j, j < A.rows → ∑ k ∈ range A.rows, den ((factorRows A).2.getD j []) k * vget x k = vget y j := by
  obtain ⟨xl, _, xlt⟩ := bwd_spec tiny (factorRows A).2 A.rows (uniq_U A) hp (U_upper A) A.rows
    (le_refl _) y x hy hs
  exact ⟨xl, xlt⟩

end Solve

section Exit
variable {K : Type} [Field K]

/-- the `std::exit` branch is taken exactly when some pivot is `tiny` -/
theorem bwdSolve_none_iff (tiny : K → Bool) (U : List (Row K)) (hU : ∀ j, Uniq (U.getD j [])) :
    ∀ (i : Nat) (b : List K), bwdSolve tiny U i b = none ↔ ∃ j, j < i ∧ tiny (den (U.getD j []) j) = true
  | 0, b => by simp [bwdSolve]
  | i + 1, b => by
      simp only [bwdSolve, bwdRow_eq _ (hU i)]
      by_cases ht : tiny (den (U.getD i []) i) = true
      · simp only [ht, if_true, true_iff]
        exact ⟨i, by omega, ht⟩
      · simp only [ht, if_false, Bool.false_eq_true, bwdSolve_none_iff tiny U hU i,
          Nat.lt_succ_iff_lt_or_eq, or_and_right, exists_or, exists_eq_left, or_false]

theorem solve_none_iff (tiny : K → Bool) (A : CSR K) (b : List K) :
    solve tiny (factorRows A) b = none ↔
      ∃ j, j < A.rows ∧ tiny (den ((factorRows A).2.getD j []) j) = true := by
  unfold solve
  rw [bwdSolve_none_iff tiny _ (uniq_U A), (factorRows_length A).2]

theorem fwdRow_length (Li : Row K) (i : Nat) : ∀ b : List K,
    (Li.foldl (fun b e => b.set i (vget b i - e.2 * vget b e.1)) b).length = b.length := by
  induction Li with
  | nil => intro b; rfl
  | cons e rest ih => intro b; rw [List.foldl_cons, ih, List.length_set]

theorem fwdSolve_length (L : List (Row K)) (b : List K) : (fwdSolve L b).length = b.length := by
  unfold fwdSolve
  generalize List.range L.length = l
  induction l generalizing b with
  | nil => rfl
  | cons i rest ih => rw [List.foldl_cons, ih, fwdRow_length]

theorem bwdSolve_length (tiny : K → Bool) (U : List (Row K)) : ∀ (i : Nat) (b x : List K),
    bwdSolve tiny U i b = some x → x.length = b.length
  | 0, b, x, h => by
      simp only [bwdSolve, Option.some.injEq] at h
      rw [h]
  | i + 1, b, x, h => by
      simp only [bwdSolve] at h
      split at h
      · exact absurd h (by simp)
      · rw [bwdSolve_length tiny U i _ x h, List.length_set]

/-- `solveInPlace` keeps the length of the right-hand side -/
theorem solve_length (tiny : K → Bool) (LU : List (Row K) × List (Row K)) (b x : List K)
    (h : solve tiny LU b = some x) : x.length = b.length := by
  unfold solve at h
  rw [bwdSolve_length tiny _ _ _ x h, fwdSolve_length]

/-- the sparse LU returns (no `std::exit`) whenever `tiny` fires on no pivot — for EVERY right-hand side, zero pivots included -/
theorem solve_total (tiny : K → Bool) (M : CSR K)
    (ht : ∀ r, r < M.rows → tiny (den ((factorRows M).2.getD r []) r) = false) (b : List K) :
    ∃ x, solve tiny (factorRows M) b = some x ∧ x.length = b.length := by
  cases hs : solve tiny (factorRows M) b with
  | none =>
      obtain ⟨j, hj, h⟩ := (solve_none_iff tiny M b).mp hs
      rw [ht j hj] at h
      exact absurd h (by simp)
  | some x => exact ⟨x, rfl, solve_length tiny _ b x hs⟩

end Exit

/-! ## storage order and explicit zeros -/
section Perm
variable {K : Type} [Field K]

/-- the stored (column, value) pairs of row `i`, in storage order -/
def rowEntries (A : CSR K) (i : Nat) : Row K :=
  let lo := A.rowPtr.getD i 0
  let hi := A.rowPtr.getD (i + 1) 0
  (List.range (hi - lo)).map (fun idx => (A.colIdx.getD (lo + idx) 0, A.values.getD (lo + idx) (Scalar.n 0)))

omit [Field K] in
theorem foldl_set_eq_append {β : Type} (c : β → Nat) (v : β → K) (l : List β) :
    ∀ r0 : Row K, (keys r0 ++ l.map c).Nodup →
      l.foldl (fun r x => set r (c x) (v x)) r0 = r0 ++ l.map (fun x => (c x, v x)) := by
  induction l with
  | nil => intro r0 _; simp
  | cons x l ih =>
      intro r0 h
      have hx : c x ∉ keys r0 := fun hm => (List.nodup_append.mp h).2.2 _ hm _ (by simp) rfl
      rw [List.foldl_cons, set_of_not_mem hx, ih]
      · simp
      · simpa [keys, List.append_assoc] using h

/-- without repeated columns `loadRow` is the stored list itself -/
theorem loadRow_eq_rowEntries (A : CSR K) (i : Nat) (h : Uniq (rowEntries A i)) :
    loadRow A i = rowEntries A i := by
  unfold loadRow rowEntries
  simp only
  rw [foldl_set_eq_append]
  · simp
  · unfold Uniq keys rowEntries at h
    simpa [List.map_map, Function.comp_def] using h

/-! ### a container laid out row after row -/

/-- start of block `j` in a concatenation of blocks -/
def blockStart {β : Type} (G : Nat → List β) (j : Nat) : Nat := ((List.range j).map fun a => (G a).length).sum

theorem blockStart_succ {β : Type} (G : Nat → List β) (j : Nat) :
    blockStart G (j + 1) = blockStart G j + (G j).length := by
  unfold blockStart; rw [List.range_succ, List.map_append, List.sum_append]; simp

theorem blockStart_congr {β : Type} {G G' : Nat → List β} {j : Nat} (h : ∀ a, a < j → G a = G' a) :
    blockStart G j = blockStart G' j := by
  unfold blockStart
  exact congrArg List.sum (List.map_congr_left fun a ha => by rw [h a (List.mem_range.mp ha)])

theorem blockStart_mono {β : Type} (G : Nat → List β) (j n : Nat) (h : j ≤ n) : blockStart G j ≤ blockStart G n := by
  induction n, h using Nat.le_induction with
  | base => exact Nat.le_refl _
  | succ n _ ih => rw [blockStart_succ]; omega

theorem blockStart_const {β : Type} {G : Nat → List β} {w : Nat} (hG : ∀ a, (G a).length = w) :
    ∀ j, blockStart G j = j * w
  | 0 => by simp [blockStart]
  | j + 1 => by rw [blockStart_succ, blockStart_const hG j, hG, Nat.add_mul, Nat.one_mul]

theorem length_flatMap_map {β γ : Type} (G : Nat → List β) (g : β → γ) :
    ∀ n, ((List.range n).flatMap fun a => (G a).map g).length = blockStart G n
  | 0 => by simp [blockStart]
  | n + 1 => by
      rw [List.range_succ, List.flatMap_append, List.length_append, length_flatMap_map G g n, blockStart_succ]
      simp

theorem getD_flatMap_map {β γ : Type} (G : Nat → List β) (g : β → γ) (d : γ) :
    ∀ n j idx, j < n → idx < (G j).length →
      ((List.range n).flatMap fun a => (G a).map g).getD (blockStart G j + idx) d = ((G j).map g).getD idx d
  | 0, j, idx, hj, _ => by omega
  | n + 1, j, idx, hj, hidx => by
      rw [List.range_succ, List.flatMap_append]
      have hlen := length_flatMap_map G g n
      by_cases hjn : j < n
      · have hlt : blockStart G j + idx < ((List.range n).flatMap fun a => (G a).map g).length := by
          have := blockStart_mono G (j + 1) n (by omega)
          rw [blockStart_succ] at this
          omega
        rw [List.getD_eq_getElem?_getD, List.getElem?_append_left hlt, ← List.getD_eq_getElem?_getD]
        exact getD_flatMap_map G g d n j idx hjn hidx
      · obtain rfl : j = n := by omega
        rw [List.getD_eq_getElem?_getD, List.getElem?_append_right (by omega), hlen, ← List.getD_eq_getElem?_getD]
        simp

/-- a CSR container as the `nnz_per_row` constructors lay it out: the rows `R 0, …, R (n-1)` one after the other, the row
    pointer holding their starts -/
theorem rowEntries_of_layout (A : CSR K) (R : Nat → Row K) (n : Nat)
    (hv : A.values = (List.range n).flatMap fun a => (R a).map (·.2))
    (hc : A.colIdx = (List.range n).flatMap fun a => (R a).map (·.1))
    (hp : ∀ j, j ≤ n → A.rowPtr.getD j 0 = blockStart R j) (j : Nat) (hj : j < n) : rowEntries A j = R j := by
  unfold rowEntries
  simp only
  rw [hp j (by omega), hp (j + 1) (by omega), blockStart_succ, Nat.add_sub_cancel_left, hv, hc]
  apply List.ext_getElem
  · simp
  · intro idx h1 h2
    have hidx : idx < (R j).length := h2
    simp only [List.getElem_map, List.getElem_range]
    rw [getD_flatMap_map R (·.1) 0 n j idx hj hidx, getD_flatMap_map R (·.2) (Scalar.n 0) n j idx hj hidx]
    simp [List.getD_eq_getElem?_getD, hidx]

/-! ### a stored row with the diagonal entry only -/

theorem elimRow_single (U : List (Row K)) (i : Nat) (v : K) :
    ∀ n, n ≤ i → elimRow U n [(i, v)] = [(i, v)]
  | 0, _ => rfl
  | n + 1, h => by
      rw [elimRow_succ, elimRow_single U i v n (by omega)]
      unfold elimStep
      have : get [(i, v)] n = none := by
        rw [get_eq_none_iff]; simp; omega
      rw [this]

/-- a stored row that is the single diagonal entry `(j, v)`: the elimination finds nothing to eliminate, the pivot is `v` -/
theorem pivot_of_diag_row (A : CSR K) {j : Nat} {v : K} (hj : j < A.rows) (h : rowEntries A j = [(j, v)]) :
    den ((factorRows A).2.getD j []) j = v := by
  have hW : W A j = [(j, v)] := by
    unfold W
    rw [loadRow_eq_rowEntries _ _ (by rw [h]; unfold Uniq; simp), h]
    exact elimRow_single _ j v j (Nat.le_refl _)
  rw [factorRows_eq, U_getD _ _ j hj, hW, List.filter_cons_of_pos (by simp), List.filter_nil, den_cons, if_pos rfl]

theorem den_append_zeros (r zs : Row K) (hz : ∀ e ∈ zs, e.2 = 0) (k : Nat) :
    den (r ++ zs) k = den r k := by
  induction r with
  | nil =>
      induction zs with
      | nil => rfl
      | cons e zs ih =>
          rw [List.nil_append, den_cons]
          split
          · rw [hz e List.mem_cons_self, den_nil, Scalar.n_zero]
          · exact ih fun e' he' => hz e' (List.mem_cons_of_mem _ he')
  | cons e r ih => rw [List.cons_append, den_cons, den_cons, ih]

end Perm

/-! ## strictly diagonally dominant rows -/
section SDD
variable {K : Type} [Field K] [LinearOrder K] [IsStrictOrderedRing K]

/-- `|r k|` off the diagonal position `i`, `0` on it -/
def off (i : ℕ) (r : ℕ → K) (k : ℕ) : K := if k = i then 0 else |r k|

theorem off_nonneg (i : ℕ) (r : ℕ → K) (k : ℕ) : 0 ≤ off i r k := by
  unfold off; split; exact le_refl _; exact abs_nonneg _

/-- one elimination step does not decrease the dominance margin of the active part of the row -/
theorem elim_dom (U : ℕ → ℕ → K) (r : ℕ → K) (N i : ℕ) (hi : i < N) : ∀ j, j ≤ i →
    (∀ m, m < j → U m m ≠ 0 ∧ ∑ k ∈ Ico (m + 1) N, |U m k| ≤ |U m m|) →
    |r i| - ∑ k ∈ Ico 0 N, off i r k ≤ |elim U j r i| - ∑ k ∈ Ico j N, off i (elim U j r) k
  | 0, _, _ => le_refl _
  | j + 1, hj, hU => by
      have ih := elim_dom U r N i hi j (by omega) (fun m hm => hU m (by omega))
      obtain ⟨hjj, hdom⟩ := hU j (by omega)
      refine le_trans ih ?_
      set r0 := elim U j r with hr0
      set l := r0 j / U j j with hl
      have hstep : ∀ k, elim U (j + 1) r k
          = if k = j then l else if j < k then r0 k - l * U j k else r0 k := fun k => rfl
      have hl' : |l| * |U j j| = |r0 j| := by
        rw [hl, abs_div, div_mul_cancel₀]; exact abs_ne_zero.mpr hjj
      -- split the old active sum
      have h1 : ∑ k ∈ Ico j N, off i r0 k = |r0 j| + ∑ k ∈ Ico (j + 1) N, off i r0 k := by
        rw [Finset.sum_eq_sum_Ico_succ_bot (by omega)]
        congr 1
        unfold off; rw [if_neg (by omega)]
      -- the new active sum
      have h2 : ∑ k ∈ Ico (j + 1) N, off i (elim U (j + 1) r) k
          ≤ ∑ k ∈ Ico (j + 1) N, off i r0 k + |l| * ∑ k ∈ Ico (j + 1) N, off i (U j) k := by
        rw [Finset.mul_sum, ← Finset.sum_add_distrib]
        apply Finset.sum_le_sum
        intro k hk
        have hk' : j < k := by have := Finset.mem_Ico.mp hk; omega
        unfold off
        by_cases hki : k = i
        · simp [hki]
        · simp only [hki, if_false]
          rw [hstep k, if_neg (by omega), if_pos hk', ← abs_mul]
          exact abs_sub _ _
      have h3 : ∑ k ∈ Ico (j + 1) N, |U j k| = |U j i| + ∑ k ∈ Ico (j + 1) N, off i (U j) k :=
        sum_split_at _ i (Finset.mem_Ico.mpr ⟨by omega, hi⟩) _
      have h4 : |r0 i| - |l| * |U j i| ≤ |elim U (j + 1) r i| := by
        rw [hstep i, if_neg (by omega), if_pos (by omega), ← abs_mul]
        exact abs_sub_abs_le_abs_sub _ _
      have h5 : |l| * (|U j i| + ∑ k ∈ Ico (j + 1) N, off i (U j) k) ≤ |r0 j| := by
        rw [← h3, ← hl']
        exact mul_le_mul_of_nonneg_left hdom (abs_nonneg _)
      rw [h1]
      have h6 := mul_add |l| |U j i| (∑ k ∈ Ico (j + 1) N, off i (U j) k)
      linarith

/-- rows strictly diagonally dominant over the columns `< N` (`A.rows ≤ N`): every pivot is
    non-zero and the rows of `U` are again dominant -/
theorem sdd_pivots_aux (A : CSR K) (N : ℕ) (hN : A.rows ≤ N)
    (hsdd : ∀ i, i < A.rows → ∑ k ∈ range N, off i (toDense A i) k < |toDense A i i|) :
    ∀ i, i < A.rows →
      den ((factorRows A).2.getD i []) i ≠ 0 ∧
      ∑ k ∈ Ico (i + 1) N, |den ((factorRows A).2.getD i []) k| ≤ |den ((factorRows A).2.getD i []) i| := by
  intro i
  induction i using Nat.strong_induction_on with
  | _ i ih =>
      intro hi
      have hdom := elim_dom (denU (factorRows A).2) (den (loadRow A i)) N i (by omega) i (le_refl i)
        (fun m hm => ih m hm (by omega))
      have hs := hsdd i hi
      rw [Finset.range_eq_Ico] at hs
      unfold toDense at hs
      have hw : ∀ k, i ≤ k → den ((factorRows A).2.getD i []) k
          = elim (denU (factorRows A).2) i (den (loadRow A i)) k := by
        intro k hk; rw [den_U A i k hi, if_pos hk, den_W A i k (by omega)]
      set w := elim (denU (factorRows A).2) i (den (loadRow A i)) with hwdef
      have h1 : ∑ k ∈ Ico i N, off i w k = ∑ k ∈ Ico (i + 1) N, |den ((factorRows A).2.getD i []) k| := by
        rw [Finset.sum_eq_sum_Ico_succ_bot (by omega)]
        have : off i w i = 0 := by unfold off; simp
        rw [this, zero_add]
        apply Finset.sum_congr rfl
        intro k hk
        have hk' : i + 1 ≤ k := (Finset.mem_Ico.mp hk).1
        unfold off; rw [if_neg (by omega), hw k (by omega)]
      rw [h1, ← hw i (le_refl i)] at hdom
      have hnn : 0 ≤ ∑ k ∈ Ico (i + 1) N, |den ((factorRows A).2.getD i []) k| :=
        Finset.sum_nonneg (fun k _ => abs_nonneg _)
      constructor
      · intro h0
        rw [h0, abs_zero] at hdom
        linarith
      · linarith

end SDD

/-! ## small matrices for the non-vacuity checks of C16 -/

/-- `[[1,1],[1,2]]` with the first row stored out of order: pivots `1, 1` in every field -/
def exA {K : Type} [Field K] : CSR K := CSR.ofTriplets 2 2 [(0,1,1),(0,0,1),(1,0,1),(1,1,1+1)]

section Full2
variable {K : Type} [Field K]

theorem factorRows_exA : factorRows (exA : CSR K) = ([[], [(0,1)]], [[(1,1),(0,1)],[(1,1)]]) := by
  simp [exA, factorRows, CSR.ofTriplets, rowStarts, skipRow, List.range_succ, elimRow, loadRow,
    SparseLU.set, elimStep, SparseLU.get, den, List.find?]

/-- the fully stored 2×2 matrix `[[a,b],[c,d]]` -/
theorem toDense_full2 (a b c d : K) :
    let A : CSR K := ⟨2, 2, [a, b, c, d], [0, 1, 0, 1], [0, 2, 4]⟩
    toDense A 0 0 = a ∧ toDense A 0 1 = b ∧ toDense A 1 0 = c ∧ toDense A 1 1 = d := by
  simp [toDense, loadRow, List.range_succ, SparseLU.set, den, SparseLU.get, List.find?]

theorem factorRows_full2 (a b c d : K) :
    factorRows (⟨2, 2, [a, b, c, d], [0, 1, 0, 1], [0, 2, 4]⟩ : CSR K)
      = ([[], [(0, c / a)]], [[(0, a), (1, b)], [(1, d - c / a * b)]]) := by
  simp [factorRows, List.range_succ, elimRow, loadRow, SparseLU.set, elimStep, den, SparseLU.get,
    List.find?]

end Full2

end SparseLU
