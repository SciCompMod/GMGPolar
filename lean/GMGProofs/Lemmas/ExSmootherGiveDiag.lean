import GMGProofs.Lemmas.ExSmootherGiveStores
/-!
# Code-level extrapolated smoother (give): the diagonal entries

Seen from a target node `(a, b)`, node `(i, j)` adds its own term `selfD` and one giver term per direction (`gL`, `gR`, `gB`,
`gT`, across the origin `gA`; `0` where the code gives nothing: coarse neighbours, Dirichlet rows).  Summed over the grid one
giver per direction survives, and that closed form is what `ExtrapolatedSmootherTake` stores on the diagonal of row `(a, b)`
(pure algebra; across the origin the angular spacing must be antipodally symmetric and `nt` divisible by 4).
-/
namespace ExSmootherGiveCode
open Stencil SparseLU SmootherCode Scalar Finset GiveCommon
open DirectCode (Pos)
open DirectGiveCode (massValue diagValue nodeOrder)
open ExSmootherCode (innerNnz)
variable {K : Type} [_root_.Field K]

section
variable (T : Tables) (o : Op K) (nc : Nat)

/-- index facts about a radial index `i` (the node's own, or `nc`) that `omega` decides in the current leaf -/
macro "idx_facts " i:term ", " nc:term ", " nr:term : tactic => `(tactic| (
  first | (have : 2 * ($i / 2) + 1 = $i := by omega) | skip
  first | (have : 2 * ($i / 2) = $i := by omega) | skip
  first | (have : 2 * (($i - 1) / 2) = $i - 1 := by omega) | skip
  first | (have : 2 * (($i - 1) / 2) + 1 = $i - 1 := by omega) | skip
  first | (have : 2 * (($i + 1) / 2) = $i + 1 := by omega) | skip
  first | (have : 2 * (($i + 1) / 2) + 1 = $i + 1 := by omega) | skip
  first | (have : $nc + ($i - $nc) = $i := by omega) | skip
  first | (have : $nc + ($i - $nc - 1) = $i - 1 := by omega) | skip
  first | (have : $nc + ($i - $nc + 1) = $i + 1 := by omega) | skip
  first | (have : ¬ ($i - $nc - 1 = $i - $nc) := by omega) | skip
  first | (have : ¬ ($i - $nc = $i - $nc - 1) := by omega) | skip
  harvest ($i % 2 = 1)
  harvest ($i + 2 < $nr)
  harvest ($i + 1 < $nr)
  harvest ($i + 1 = $nr)
  harvest (0 < $i)
  harvest ($i = 0)
  harvest ($i = 1)))

/-- index facts about the angular index `j` -/
macro "ang_facts " j:term ", " jm:term ", " jp:term : tactic => `(tactic| (
  first | (have : 2 * ($j / 2) + 1 = $j := by omega) | skip
  first | (have : 2 * ($j / 2) = $j := by omega) | skip
  first | (have : 2 * ($jm / 2) + 1 = $jm := by omega) | skip
  first | (have : 2 * ($jm / 2) = $jm := by omega) | skip
  first | (have : 2 * ($jp / 2) + 1 = $jp := by omega) | skip
  first | (have : 2 * ($jp / 2) = $jp := by omega) | skip))

/-- the node whose diagonal entry the slot stores -/
def diagNode : Arr → Nat → Option (Nat × Nat)
  | .ctMain k, q => some (2 * k + 1, q)
  | .cd k, q => some (2 * k, q)
  | .rtMain k, t => some (nc + t, 2 * k + 1)
  | .rd k, t => some (nc + t, 2 * k)
  | .inner r, q => if q = 0 then some (0, r) else none
  | _, _ => none

/-- the node whose diagonal entry a store addresses -/
def diagOf (u : Upd K) : Option (Nat × Nat) :=
  match target o nc u with
  | .slot a q => diagNode nc a q
  | _ => none

section
omit [_root_.Field K]

theorem diagOf_ctri (k r c : Nat) (v : K) :
    diagOf o nc (.ctri k r c v) = if r = c then some (2 * k + 1, r) else none :=
  (apply_triTarget (fun t => match t with | .slot a q => diagNode nc a q | _ => none) ..).trans (by split_ifs <;> rfl)

theorem diagOf_rtri (k r c : Nat) (v : K) :
    diagOf o nc (.rtri k r c v) = if r = c then some (nc + r, 2 * k + 1) else none :=
  (apply_triTarget (fun t => match t with | .slot a q => diagNode nc a q | _ => none) ..).trans (by split_ifs <;> rfl)

theorem diagOf_csr_zero (r c : Nat) (v : K) : diagOf o nc (.csr r 0 c v) = some (0, r) := rfl
theorem diagOf_csr_one (r c : Nat) (v : K) : diagOf o nc (.csr r 1 c v) = none := rfl

end

set_option linter.unusedSectionVars false in
theorem diagOf_cdiag (k r : Nat) (v : K) : diagOf o nc (.cdiag k r v) = some (2 * k, r) := rfl
set_option linter.unusedSectionVars false in
theorem diagOf_rdiag (k r : Nat) (v : K) : diagOf o nc (.rdiag k r v) = some (nc + r, 2 * k) := rfl

/-- own diagonal entry: literal `1.0` on the Dirichlet rows and at the coarse nodes -/
def selfD (i j : Nat) : K :=
  if i + 1 = o.nr ∨ (i = 0 ∧ o.bc = true) then 1
  else if ¬ i % 2 = 1 ∧ ¬ j % 2 = 1 then 1
  else massValue o i j + diagValue o i j

/-- "Fill matrix row of (i-1,j)": nothing to a coarse node, nothing to the inner Dirichlet row -/
def gL (i j : Nat) : K :=
  if 0 < i ∧ ¬ (i % 2 = 1 ∧ ¬ j % 2 = 1) ∧ ¬ (i = 1 ∧ o.bc = true) then coeff1 o i j * o.arr i j else 0

/-- "Fill matrix row of (i+1,j)": nothing to a coarse node, nothing to the outer Dirichlet row -/
def gR (i j : Nat) : K :=
  if i + 2 < o.nr ∧ ¬ (i % 2 = 1 ∧ ¬ j % 2 = 1) then coeff2 o i j * o.arr i j else 0

/-- "Fill matrix row of (i,j-1)" -/
def gB (i j : Nat) : K :=
  if i + 1 < o.nr ∧ ¬ (i = 0 ∧ o.bc = true) ∧ ¬ (¬ i % 2 = 1 ∧ j % 2 = 1) then coeff3 o i j * o.att i j else 0

/-- "Fill matrix row of (i,j+1)" -/
def gT (i j : Nat) : K :=
  if i + 1 < o.nr ∧ ¬ (i = 0 ∧ o.bc = true) ∧ ¬ (¬ i % 2 = 1 ∧ j % 2 = 1) then coeff4 o i j * o.att i j else 0

/-- across the origin: the row of the antipode -/
def gA (j : Nat) : K := if o.bc = false ∧ j % 2 = 1 then coeff1 o 0 j * o.arr 0 j else 0

/-- total value a list of stores addresses to the diagonal entry of node `(a, b)` -/
def dsum (us : List (Upd K)) (a b : Nat) : K :=
  (us.map fun u => if diagOf o nc u = some (a, b) then u.val else 0).sum

theorem dsum_eq_total (us : List (Upd K)) (a b : Nat) :
    dsum o nc us a b = Scatter.total (fun u => diagOf o nc u = some (a, b)) Upd.val us := rfl

@[simp] theorem dsum_nil (a b : Nat) : dsum o nc ([] : List (Upd K)) a b = 0 := rfl
theorem dsum_cons (u : Upd K) (l : List (Upd K)) (a b : Nat) :
    dsum o nc (u :: l) a b = (if diagOf o nc u = some (a, b) then u.val else 0) + dsum o nc l a b :=
  Scatter.total_cons ..
theorem dsum_append (l l' : List (Upd K)) (a b : Nat) :
    dsum o nc (l ++ l') a b = dsum o nc l a b + dsum o nc l' a b :=
  Scatter.total_append ..

/-! ### one store -/

section store
variable (k r c : Nat) (v : K) (l : List (Upd K)) (a b : Nat)

theorem dsum_cons_ctri :
    dsum o nc (.ctri k r c v :: l) a b = (if r = c ∧ 2 * k + 1 = a ∧ r = b then v else 0) + dsum o nc l a b := by
  rw [dsum_cons, diagOf_ctri]
  by_cases h : r = c
  · subst h
    simp only [if_true, true_and, Option.some.injEq, Prod.mk.injEq, Upd.val]
  · simp only [h, false_and, reduceCtorEq, if_false]

theorem dsum_cons_rtri :
    dsum o nc (.rtri k r c v :: l) a b = (if r = c ∧ nc + r = a ∧ 2 * k + 1 = b then v else 0) + dsum o nc l a b := by
  rw [dsum_cons, diagOf_rtri]
  by_cases h : r = c
  · subst h
    simp only [if_true, true_and, Option.some.injEq, Prod.mk.injEq, Upd.val]
  · simp only [h, false_and, reduceCtorEq, if_false]

theorem dsum_cons_cdiag :
    dsum o nc (.cdiag k r v :: l) a b = (if 2 * k = a ∧ r = b then v else 0) + dsum o nc l a b := by
  simp only [dsum_cons, diagOf_cdiag, Option.some.injEq, Prod.mk.injEq, Upd.val]

theorem dsum_cons_rdiag :
    dsum o nc (.rdiag k r v :: l) a b = (if nc + r = a ∧ 2 * k = b then v else 0) + dsum o nc l a b := by
  simp only [dsum_cons, diagOf_rdiag, Option.some.injEq, Prod.mk.injEq, Upd.val]

theorem dsum_cons_csr_zero :
    dsum o nc (.csr r 0 c v :: l) a b = (if 0 = a ∧ r = b then v else 0) + dsum o nc l a b := by
  simp only [dsum_cons, diagOf_csr_zero, Option.some.injEq, Prod.mk.injEq, Upd.val]

/-- a store on the `Left` slot of the inner matrix is off the diagonal -/
theorem dsum_cons_csr_one : dsum o nc (.csr r 1 c v :: l) a b = dsum o nc l a b := by
  rw [dsum_cons, diagOf_csr_one, if_neg nofun, zero_add]

end store

/-! ### the values of the giver terms -/

section giver
variable {o} {i j : Nat}

theorem selfD_fine (h1 : i + 1 < o.nr) (h0 : 0 < i ∨ o.bc = false) (hp : i % 2 = 1 ∨ j % 2 = 1) :
    selfD o i j = massValue o i j + diagValue o i j := by
  unfold selfD
  rw [if_neg (by rintro (h | ⟨h, hb⟩) <;> [omega; (rcases h0 with h0 | h0 <;> [omega; (rw [hb] at h0; cases h0)])]),
    if_neg (by omega)]

theorem selfD_one (h : i + 1 = o.nr ∨ (i = 0 ∧ o.bc = true) ∨ (¬ i % 2 = 1 ∧ ¬ j % 2 = 1)) : selfD o i j = 1 := by
  unfold selfD
  split_ifs <;> first | rfl | (exfalso; tauto)

theorem gL_pos (h0 : 0 < i) (hp : ¬ i % 2 = 1 ∨ j % 2 = 1) (h1 : i ≠ 1 ∨ o.bc = false) :
    gL o i j = coeff1 o i j * o.arr i j :=
  if_pos ⟨h0, by omega, fun ⟨h, hb⟩ => h1.elim (· h) fun h' => by rw [hb] at h'; cases h'⟩

theorem gL_zero (h : i = 0 ∨ (i % 2 = 1 ∧ ¬ j % 2 = 1) ∨ (i = 1 ∧ o.bc = true)) : gL o i j = 0 :=
  if_neg fun ⟨h0, hp, h1⟩ => by rcases h with h | h | h <;> [omega; exact hp h; exact h1 h]

theorem gR_pos (h2 : i + 2 < o.nr) (hp : ¬ i % 2 = 1 ∨ j % 2 = 1) : gR o i j = coeff2 o i j * o.arr i j :=
  if_pos ⟨h2, by omega⟩

theorem gR_zero (h : ¬ i + 2 < o.nr ∨ (i % 2 = 1 ∧ ¬ j % 2 = 1)) : gR o i j = 0 :=
  if_neg fun ⟨h2, hp⟩ => h.elim (· h2) hp

theorem gB_pos (h1 : i + 1 < o.nr) (h0 : 0 < i ∨ o.bc = false) (hp : i % 2 = 1 ∨ ¬ j % 2 = 1) :
    gB o i j = coeff3 o i j * o.att i j :=
  if_pos ⟨h1, fun ⟨h, hb⟩ => h0.elim (by omega) fun h' => (by rw [hb] at h'; cases h'), by omega⟩

theorem gT_pos (h1 : i + 1 < o.nr) (h0 : 0 < i ∨ o.bc = false) (hp : i % 2 = 1 ∨ ¬ j % 2 = 1) :
    gT o i j = coeff4 o i j * o.att i j :=
  if_pos ⟨h1, fun ⟨h, hb⟩ => h0.elim (by omega) fun h' => (by rw [hb] at h'; cases h'), by omega⟩

theorem gB_zero (h : ¬ i + 1 < o.nr ∨ (i = 0 ∧ o.bc = true) ∨ (¬ i % 2 = 1 ∧ j % 2 = 1)) : gB o i j = 0 :=
  if_neg fun ⟨h1, h0, hp⟩ => by rcases h with h | h | h <;> [exact h h1; exact h0 h; exact hp h]

theorem gT_zero (h : ¬ i + 1 < o.nr ∨ (i = 0 ∧ o.bc = true) ∨ (¬ i % 2 = 1 ∧ j % 2 = 1)) : gT o i j = 0 :=
  if_neg fun ⟨h1, h0, hp⟩ => by rcases h with h | h | h <;> [exact h h1; exact h0 h; exact hp h]

theorem gA_pos (hb : o.bc = false) (hp : j % 2 = 1) : gA o j = coeff1 o 0 j * o.arr 0 j := if_pos ⟨hb, hp⟩

theorem gA_zero (h : o.bc = true ∨ ¬ j % 2 = 1) : gA o j = 0 :=
  if_neg fun ⟨hb, hp⟩ => h.elim (fun h' => by rw [hb] at h'; cases h') (· hp)

end giver

/-- what node `(i, j)` adds to the diagonal entry of node `(a, b)` -/
def dRhs (i j a b : Nat) : K :=
  (if i = a ∧ j = b then selfD o i j else 0)
    + (if i - 1 = a ∧ j = b then gL o i j else 0)
    + (if i + 1 = a ∧ j = b then gR o i j else 0)
    + (if i = a ∧ jm o j = b then gB o i j else 0)
    + (if i = a ∧ jp o j = b then gT o i j else 0)
    + (if i = 0 ∧ 0 = a ∧ ja o j = b then gA o j else 0)

/-- away from the innermost circle nothing goes across the origin -/
theorem dRhs_pos {i : Nat} (h : 0 < i) (j a b : Nat) : dRhs o i j a b =
    (if i = a ∧ j = b then selfD o i j else 0)
      + (if i - 1 = a ∧ j = b then gL o i j else 0)
      + (if i + 1 = a ∧ j = b then gR o i j else 0)
      + (if i = a ∧ jm o j = b then gB o i j else 0)
      + (if i = a ∧ jp o j = b then gT o i j else 0) := by
  rw [dRhs, if_neg (show ¬ (i = 0 ∧ 0 = a ∧ ja o j = b) by omega), add_zero]

/-! ### branch by branch -/

/-- the eight stores into the node's own odd circle: own entry, bottom and top neighbour -/
theorem dsum_circleTriRows (hnt : 2 ≤ o.nt) {i j : Nat} (hio : i % 2 = 1) (a b : Nat) :
    dsum o nc (circleTriRows o i j) a b =
      (if i = a ∧ j = b then massValue o i j + diagValue o i j else 0)
      + (if i = a ∧ jm o j = b then coeff3 o i j * o.att i j else 0)
      + (if i = a ∧ jp o j = b then coeff4 o i j * o.att i j else 0) := by
  have hI : 2 * (i / 2) + 1 = i := by omega
  have n1 := jm_ne_self o hnt j
  have n2 := jp_ne_self o hnt j
  unfold circleTriRows
  simp only [dsum_cons_ctri, dsum_nil, hI, n1, n2, n1.symm, n2.symm, true_and, false_and, if_false, ite_add_zero,
    add_zero, zero_add]
  ring

theorem dsum_node (hT : GoodTables T) (hnc : 3 ≤ nc) (hnr : nc + 3 ≤ o.nr) (hodd : o.nr % 2 = 1)
    (hnt : 2 ≤ o.nt) (heven : o.nt % 2 = 0) (i j a b : Nat) (hi : i < o.nr) (hj : j < o.nt) :
    dsum o nc (nodeUpdates T o nc i j) a b = dRhs o i j a b := by
  have pm := Stencil.jm_parity o heven hj
  have pp := Stencil.jp_parity o heven hj
  rcases branches o nc i hi with h | h | h | h | h | h | h
  · rw [nodeUpdates_circ T o nc j h, dRhs_pos o h.1]
    by_cases hio : i % 2 = 1
    · rw [if_pos hio, dsum_append, dsum_circleTriRows o nc hnt hio, selfD_fine (by omega) (.inl h.1) (.inl hio),
        gB_pos (by omega) (.inl h.1) (.inl hio), gT_pos (by omega) (.inl h.1) (.inl hio)]
      by_cases hjo : j % 2 = 1
      · have e2 : 2 * ((i + 1) / 2) = i + 1 := by omega
        rw [if_pos hjo, gR_pos (by omega) (.inr hjo), dsum_append, dsum_cons_cdiag, dsum_nil, e2]
        by_cases h1 : i = 1
        · subst h1
          rw [if_pos rfl]
          cases hb : o.bc
          · rw [if_pos rfl, gL_pos (by omega) (.inr hjo) (.inr hb), off_center T o hT, dsum_cons_csr_zero, dsum_nil]
            ring
          · rw [if_neg (nofun : ¬ true = false), gL_zero (.inr (.inr ⟨rfl, hb⟩)), dsum_nil, ite_self]
            ring
        · have e1 : 2 * ((i - 1) / 2) = i - 1 := by omega
          rw [if_neg h1, gL_pos h.1 (.inr hjo) (.inl h1), dsum_cons_cdiag, dsum_nil, e1]
          ring
      · rw [if_neg hjo, gL_zero (.inr (.inl ⟨hio, hjo⟩)), gR_zero (.inr ⟨hio, hjo⟩), dsum_nil, ite_self, ite_self]
        ring
    · have e0 : 2 * (i / 2) = i := by omega
      have e1 : 2 * ((i - 1) / 2) + 1 = i - 1 := by omega
      have e2 : 2 * ((i + 1) / 2) + 1 = i + 1 := by omega
      rw [if_neg hio, gL_pos h.1 (.inl hio) (.inl (by omega)), gR_pos (by omega) (.inl hio)]
      by_cases hjo : j % 2 = 1
      · rw [if_pos hjo, selfD_fine (by omega) (.inl h.1) (.inr hjo), gB_zero (.inr (.inr ⟨hio, hjo⟩)),
          gT_zero (.inr (.inr ⟨hio, hjo⟩))]
        simp only [List.cons_append, List.nil_append, dsum_cons_cdiag, dsum_cons_ctri, dsum_nil, e0, e1, e2, true_and,
          ite_add_zero, ite_self]
        ring
      · rw [if_neg hjo, selfD_one (.inr (.inr ⟨hio, hjo⟩)), gB_pos (by omega) (.inl h.1) (.inr hjo),
          gT_pos (by omega) (.inl h.1) (.inr hjo)]
        simp only [List.cons_append, List.nil_append, dsum_cons_cdiag, dsum_cons_ctri, dsum_nil, e0, e1, e2, true_and, n_one]
        ring
  · have hi0 : 0 < i := by omega
    have ec : nc + (i - nc) = i := by omega
    have el : nc + (i - nc - 1) = i - 1 := by omega
    have er : nc + (i - nc + 1) = i + 1 := by omega
    have n1 : ¬ i - nc = i - nc - 1 := by omega
    have n2 : ¬ i - nc - 1 = i - nc := by omega
    have n3 : ¬ i - nc = i - nc + 1 := by omega
    have n4 : ¬ i - nc + 1 = i - nc := by omega
    rw [nodeUpdates_rad T o nc j h, dRhs_pos o hi0]
    by_cases hjo : j % 2 = 1
    · have eJ : 2 * (j / 2) + 1 = j := by omega
      rw [if_pos hjo, selfD_fine (by omega) (.inl hi0) (.inr hjo), gL_pos hi0 (.inr hjo) (.inl (by omega)),
        gR_pos h.2 (.inr hjo), dsum_append]
      by_cases hio : i % 2 = 1
      · have eM : 2 * (jm o j / 2) = jm o j := by omega
        have eP : 2 * (jp o j / 2) = jp o j := by omega
        rw [if_pos hio, gB_pos (by omega) (.inl hi0) (.inl hio), gT_pos (by omega) (.inl hi0) (.inl hio)]
        simp only [dsum_cons_rtri, dsum_cons_rdiag, dsum_nil, eJ, eM, eP, ec, el, er, n1, n2, n3, n4, true_and, false_and,
          if_false, ite_add_zero, add_zero, zero_add]
        ring
      · rw [if_neg hio, gB_zero (.inr (.inr ⟨hio, hjo⟩)), gT_zero (.inr (.inr ⟨hio, hjo⟩))]
        simp only [dsum_cons_rtri, dsum_nil, eJ, ec, el, er, n1, n2, n3, n4, true_and, false_and, if_false, ite_add_zero,
          ite_self, add_zero, zero_add]
        ring
    · have eJ : 2 * (j / 2) = j := by omega
      have eM : 2 * (jm o j / 2) + 1 = jm o j := by omega
      have eP : 2 * (jp o j / 2) + 1 = jp o j := by omega
      rw [if_neg hjo, gB_pos (by omega) (.inl hi0) (.inr hjo), gT_pos (by omega) (.inl hi0) (.inr hjo)]
      by_cases hio : i % 2 = 1
      · rw [if_pos hio, selfD_fine (by omega) (.inl hi0) (.inl hio), gL_zero (.inr (.inl ⟨hio, hjo⟩)),
          gR_zero (.inr ⟨hio, hjo⟩)]
        simp only [List.cons_append, List.nil_append, dsum_cons_rtri, dsum_cons_rdiag, dsum_nil, eJ, eM, eP, ec, true_and,
          ite_add_zero, ite_self]
        ring
      · rw [if_neg hio, selfD_one (.inr (.inr ⟨hio, hjo⟩)), gL_pos hi0 (.inl hio) (.inl (by omega)), gR_pos h.2 (.inl hio)]
        simp only [List.cons_append, List.nil_append, dsum_cons_rtri, dsum_cons_rdiag, dsum_nil, eJ, eM, eP, ec, el, er,
          true_and, n_one]
        ring
  · rw [h]
    rw [nodeUpdates_zero T o nc j hnc, dRhs, gL_zero (.inl rfl), gR_pos (by omega) (.inl (by omega)), off_center T o hT]
    cases hb : o.bc
    · rw [if_neg (nofun : ¬ false = true)]
      by_cases hjo : j % 2 = 1
      · rw [if_pos hjo, off_left T o hT j hjo hb, selfD_fine (by omega) (.inr hb) (.inr hjo),
          gB_zero (.inr (.inr ⟨by omega, hjo⟩)), gT_zero (.inr (.inr ⟨by omega, hjo⟩)), gA_pos hb hjo]
        simp only [dsum_cons_csr_zero, dsum_cons_csr_one, dsum_cons_ctri, dsum_nil, true_and, ite_add_zero, ite_self,
          Nat.reduceAdd, Nat.reduceDiv, Nat.reduceMul]
        ring
      · rw [if_neg hjo, selfD_one (.inr (.inr ⟨by omega, hjo⟩)), gB_pos (by omega) (.inr hb) (.inr hjo),
          gT_pos (by omega) (.inr hb) (.inr hjo), gA_zero (.inr hjo)]
        simp only [dsum_cons_csr_zero, dsum_cons_ctri, dsum_nil, true_and, ite_self, n_one, Nat.reduceAdd, Nat.reduceDiv,
          Nat.reduceMul]
        ring
    · rw [if_pos rfl, selfD_one (.inr (.inl ⟨rfl, hb⟩)), gB_zero (.inr (.inl ⟨rfl, hb⟩)), gT_zero (.inr (.inl ⟨rfl, hb⟩)),
        gA_zero (.inl hb)]
      simp only [dsum_cons_csr_zero, dsum_cons_ctri, dsum_nil, true_and, ite_self, n_one, Nat.reduceAdd, Nat.reduceDiv,
        Nat.reduceMul]
      ring
  · have hi0 : 0 < i := by omega
    have eN : nc + 0 = i + 1 := by omega
    rw [nodeUpdates_lastCirc T o nc j hnc h, dRhs_pos o hi0]
    by_cases hio : i % 2 = 1
    · rw [if_pos hio, selfD_fine (by omega) (.inl hi0) (.inl hio), gB_pos (by omega) (.inl hi0) (.inl hio),
        gT_pos (by omega) (.inl hi0) (.inl hio)]
      by_cases hjo : j % 2 = 1
      · have e1 : 2 * ((i - 1) / 2) = i - 1 := by omega
        have eJ : 2 * (j / 2) + 1 = j := by omega
        rw [if_pos hjo, dsum_append, dsum_circleTriRows o nc hnt hio, gL_pos hi0 (.inr hjo) (.inl (by omega)),
          gR_pos (by omega) (.inr hjo), dsum_cons_cdiag, dsum_cons_rtri, dsum_nil, e1, eN, eJ]
        simp only [true_and]
        ring
      · rw [if_neg hjo, dsum_circleTriRows o nc hnt hio, gL_zero (.inr (.inl ⟨hio, hjo⟩)), gR_zero (.inr ⟨hio, hjo⟩),
          ite_self, ite_self]
        ring
    · have e0 : 2 * (i / 2) = i := by omega
      have e1 : 2 * ((i - 1) / 2) + 1 = i - 1 := by omega
      rw [if_neg hio, gL_pos hi0 (.inl hio) (.inl (by omega)), gR_pos (by omega) (.inl hio)]
      by_cases hjo : j % 2 = 1
      · have eJ : 2 * (j / 2) + 1 = j := by omega
        rw [if_pos hjo, selfD_fine (by omega) (.inl hi0) (.inr hjo), gB_zero (.inr (.inr ⟨hio, hjo⟩)),
          gT_zero (.inr (.inr ⟨hio, hjo⟩))]
        simp only [dsum_cons_cdiag, dsum_cons_ctri, dsum_cons_rtri, dsum_nil, e0, e1, eN, eJ, true_and, ite_add_zero,
          ite_self]
        ring
      · have eJ : 2 * (j / 2) = j := by omega
        rw [if_neg hjo, selfD_one (.inr (.inr ⟨hio, hjo⟩)), gB_pos (by omega) (.inl hi0) (.inr hjo),
          gT_pos (by omega) (.inl hi0) (.inr hjo)]
        simp only [dsum_cons_cdiag, dsum_cons_ctri, dsum_cons_rdiag, dsum_nil, e0, e1, eN, eJ, true_and, n_one]
        ring
  · rw [h]
    have hi0 : 0 < nc := by omega
    have n1 : ¬ (0 = 1) := by omega
    have n2 : ¬ (1 = 0) := by omega
    rw [nodeUpdates_firstRad T o nc j hnc, dRhs_pos o hi0]
    by_cases hjo : j % 2 = 1
    · have eJ : 2 * (j / 2) + 1 = j := by omega
      rw [if_pos hjo, selfD_fine (by omega) (.inl hi0) (.inr hjo), gL_pos hi0 (.inr hjo) (.inl (by omega)),
        gR_pos (by omega) (.inr hjo)]
      by_cases hio : nc % 2 = 1
      · have eM : 2 * (jm o j / 2) = jm o j := by omega
        have eP : 2 * (jp o j / 2) = jp o j := by omega
        have e1 : 2 * ((nc - 1) / 2) = nc - 1 := by omega
        rw [if_pos hio, gB_pos (by omega) (.inl hi0) (.inl hio), gT_pos (by omega) (.inl hi0) (.inl hio)]
        simp only [dsum_cons_rtri, dsum_cons_rdiag, dsum_cons_cdiag, dsum_nil, eJ, eM, eP, e1, n1, n2, true_and,
          false_and, if_false, ite_add_zero, add_zero, zero_add]
        ring
      · have e1 : 2 * ((nc - 1) / 2) + 1 = nc - 1 := by omega
        rw [if_neg hio, gB_zero (.inr (.inr ⟨hio, hjo⟩)), gT_zero (.inr (.inr ⟨hio, hjo⟩))]
        simp only [dsum_cons_rtri, dsum_cons_ctri, dsum_nil, eJ, e1, n1, n2, true_and, false_and, if_false,
          ite_add_zero, ite_self, add_zero, zero_add]
        ring
    · have eJ : 2 * (j / 2) = j := by omega
      have eM : 2 * (jm o j / 2) + 1 = jm o j := by omega
      have eP : 2 * (jp o j / 2) + 1 = jp o j := by omega
      rw [if_neg hjo, gB_pos (by omega) (.inl hi0) (.inr hjo), gT_pos (by omega) (.inl hi0) (.inr hjo)]
      by_cases hio : nc % 2 = 1
      · rw [if_pos hio, selfD_fine (by omega) (.inl hi0) (.inl hio), gL_zero (.inr (.inl ⟨hio, hjo⟩)),
          gR_zero (.inr ⟨hio, hjo⟩)]
        simp only [dsum_cons_rtri, dsum_cons_rdiag, dsum_nil, eJ, eM, eP, Nat.add_zero, true_and, ite_add_zero, ite_self]
        ring
      · have e1 : 2 * ((nc - 1) / 2) + 1 = nc - 1 := by omega
        rw [if_neg hio, selfD_one (.inr (.inr ⟨hio, hjo⟩)), gL_pos hi0 (.inl hio) (.inl (by omega)),
          gR_pos (by omega) (.inl hio)]
        simp only [dsum_cons_rtri, dsum_cons_rdiag, dsum_cons_ctri, dsum_nil, eJ, eM, eP, e1, Nat.add_zero, true_and, n_one]
        ring
  · have hi0 : 0 < i := by omega
    have hio : i % 2 = 1 := by omega
    have ec : nc + (i - nc) = i := by omega
    have el : nc + (i - nc - 1) = i - 1 := by omega
    have n1 : ¬ i - nc = i - nc - 1 := by omega
    have n2 : ¬ i - nc - 1 = i - nc := by omega
    rw [nodeUpdates_penult T o nc j hnc hnr h, dRhs_pos o hi0, selfD_fine (by omega) (.inl hi0) (.inl hio),
      gB_pos (by omega) (.inl hi0) (.inl hio), gT_pos (by omega) (.inl hi0) (.inl hio)]
    by_cases hjo : j % 2 = 1
    · have eJ : 2 * (j / 2) + 1 = j := by omega
      have eM : 2 * (jm o j / 2) = jm o j := by omega
      have eP : 2 * (jp o j / 2) = jp o j := by omega
      rw [if_pos hjo, gL_pos hi0 (.inr hjo) (.inl (by omega)), gR_zero (.inl (by omega))]
      simp only [dsum_cons_rtri, dsum_cons_rdiag, dsum_nil, eJ, eM, eP, ec, el, n1, n2, true_and, false_and, if_false,
        ite_add_zero, ite_self, add_zero, zero_add]
      ring
    · have eJ : 2 * (j / 2) = j := by omega
      have eM : 2 * (jm o j / 2) + 1 = jm o j := by omega
      have eP : 2 * (jp o j / 2) + 1 = jp o j := by omega
      rw [if_neg hjo, gL_zero (.inr (.inl ⟨hio, hjo⟩)), gR_zero (.inl (by omega))]
      simp only [dsum_cons_rtri, dsum_cons_rdiag, dsum_nil, eJ, eM, eP, ec, true_and, ite_add_zero, ite_self]
      ring
  · have hi0 : 0 < i := by omega
    have hio : ¬ i % 2 = 1 := by omega
    have ec : nc + (i - nc) = i := by omega
    have el : nc + (i - nc - 1) = i - 1 := by omega
    rw [nodeUpdates_last T o nc j hnc hnr h, dRhs_pos o hi0, selfD_one (.inl h), gL_pos hi0 (.inl hio) (.inl (by omega)),
      gR_zero (.inl (by omega)), gB_zero (.inl (by omega)), gT_zero (.inl (by omega))]
    by_cases hjo : j % 2 = 1
    · have eJ : 2 * (j / 2) + 1 = j := by omega
      rw [if_pos hjo]
      simp only [dsum_cons_rtri, dsum_nil, eJ, ec, el, true_and, ite_self, n_one]
      ring
    · have eJ : 2 * (j / 2) = j := by omega
      rw [if_neg hjo]
      simp only [dsum_cons_rdiag, dsum_nil, eJ, ec, el, ite_self, n_one]
      ring

/-- the slot that holds the diagonal entry of a node -/
def diagSlot (P : Nat × Nat) : Arr × Nat :=
  if P.1 = 0 then (.inner P.2, 0)
  else if P.1 < nc then (if P.1 % 2 = 1 then (.ctMain (P.1 / 2), P.2) else (.cd (P.1 / 2), P.2))
  else if P.2 % 2 = 1 then (.rtMain (P.2 / 2), P.1 - nc) else (.rd (P.2 / 2), P.1 - nc)

omit [_root_.Field K] in
theorem diagSlot_diagNode (hnc : 3 ≤ nc) {a : Arr} {q : Nat} {P : Nat × Nat} (h : diagNode nc a q = some P)
    (hq : q < alloc o nc a) : diagSlot nc P = (a, q) := by
  unfold diagSlot
  cases a <;> simp only [diagNode, alloc, lt_ite_zero, reduceCtorEq, Option.ite_none_right_eq_some, Option.some.injEq]
    at h hq
  case ctMain k => subst h; rw [if_neg (by omega), if_pos (by omega), if_pos (by omega), show (2 * k + 1) / 2 = k by omega]
  case cd k => subst h; rw [if_neg (by omega), if_pos (by omega), if_neg (by omega), show 2 * k / 2 = k by omega]
  case rtMain k =>
    subst h; rw [if_neg (by omega), if_neg (by omega), if_pos (by omega), show (2 * k + 1) / 2 = k by omega,
      Nat.add_sub_cancel_left]
  case rd k =>
    subst h; rw [if_neg (by omega), if_neg (by omega), if_neg (by omega), show 2 * k / 2 = k by omega,
      Nat.add_sub_cancel_left]
  case inner r => obtain ⟨rfl, rfl⟩ := h; rfl

theorem slotSum_diag (hT : GoodTables T) (hnc : 3 ≤ nc) (hnr : nc + 3 ≤ o.nr) (hnt : 2 ≤ o.nt)
    (heven : o.nt % 2 = 0) (h4 : o.bc = false → o.nt % 4 = 0) {a : Arr} {q x y : Nat}
    (hd : diagNode nc a q = some (x, y)) (hq : q < alloc o nc a) :
    slotSum o nc (allUpdates T o nc) a q = dsum o nc (allUpdates T o nc) x y :=
  slotSum_entry o nc (diagNode nc) (diagSlot nc) (diagSlot_diagNode o nc hnc) (allUpdates_ok T o nc hT hnc hnr hnt heven h4) hd hq

/-- what all nodes together store on the diagonal entry of node `(a, b)`: one giver per direction -/
def giveD (a b : Nat) : K :=
  selfD o a b + (if a + 1 < o.nr then gL o (a + 1) b else 0) + (if 0 < a then gR o (a - 1) b else 0)
    + gB o a (jp o b) + gT o a (jm o b) + (if a = 0 then gA o (ja o b) else 0)

theorem dsum_all (hT : GoodTables T) (hnc : 3 ≤ nc) (hnr : nc + 3 ≤ o.nr) (hodd : o.nr % 2 = 1)
    (hnt : 2 ≤ o.nt) (heven : o.nt % 2 = 0) (a b : Nat) (ha : a < o.nr) (hb : b < o.nt) :
    dsum o nc (allUpdates T o nc) a b = giveD o a b := by
  have hpos : 0 < o.nt := by omega
  have e : ∀ i ∈ range o.nr, ∑ j ∈ range o.nt, dsum o nc (nodeUpdates T o nc i j) a b
      = ∑ j ∈ range o.nt, dRhs o i j a b := fun i hi => Finset.sum_congr rfl fun j hj =>
    dsum_node T o nc hT hnc hnr hodd hnt heven i j a b (by simpa using hi) (by simpa using hj)
  rw [dsum_eq_total, total_allUpdates T o nc hnc hnr]
  simp only [← dsum_eq_total]
  rw [Finset.sum_congr rfl e]
  unfold dRhs giveD
  simp only [Finset.sum_add_distrib]
  congr 1; congr 1; congr 1; congr 1; congr 1
  · exact sum2_single o.nr o.nt a b (fun i j => i = a ∧ j = b) (selfD o) ⟨rfl, rfl⟩ ha hb (fun _ _ _ _ h => h)
  · -- from the right neighbour; `gL o 0 j = 0` makes the truncated `0 - 1` harmless
    have e2 : ∀ i j, (if i - 1 = a ∧ j = b then gL o i j else 0) = if i = a + 1 ∧ j = b then gL o i j else 0 := by
      intro i j
      by_cases h0 : i = 0
      · rw [h0, gL_zero (.inl rfl), ite_self, ite_self]
      · simp only [show i - 1 = a ↔ i = a + 1 by omega]
    simp only [e2]
    rw [sum2_unique o.nr o.nt (a + 1) b (fun i j => i = a + 1 ∧ j = b) (gL o) fun i j _ _ hp => hp]
    by_cases h : a + 1 < o.nr
    · rw [if_pos h, if_pos ⟨h, hb, rfl, rfl⟩]
    · rw [if_neg h, if_neg fun hh => h hh.1]
  · rw [sum2_unique o.nr o.nt (a - 1) b (fun i j => i + 1 = a ∧ j = b) (gR o) fun i j _ _ hp => ⟨by omega, hp.2⟩]
    by_cases h : 0 < a
    · rw [if_pos h, if_pos ⟨by omega, hb, by omega, rfl⟩]
    · rw [if_neg h, if_neg fun hh => by omega]
  · -- from the top neighbour (its "bottom" is `(a, b)`)
    exact sum2_single o.nr o.nt a (jp o b) (fun i j => i = a ∧ jm o j = b) (gB o) ⟨rfl, jm_jp o hb⟩ ha (jp_lt o hpos b)
      (fun i j _ hj hp => ⟨hp.1, by rw [← hp.2, jp_jm o hj]⟩)
  · exact sum2_single o.nr o.nt a (jm o b) (fun i j => i = a ∧ jp o j = b) (gT o) ⟨rfl, jp_jm o hb⟩ ha (jm_lt o hpos b)
      (fun i j _ hj hp => ⟨hp.1, by rw [← hp.2, jm_jp o hj]⟩)
  · -- from the antipode
    rw [sum2_unique o.nr o.nt 0 (ja o b) (fun i j => i = 0 ∧ 0 = a ∧ ja o j = b) (fun _ j => gA o j)
      fun i j _ hj hp => ⟨hp.1, by rw [← hp.2.2, ja_ja o heven hj]⟩]
    by_cases h : a = 0
    · rw [if_pos h, if_pos ⟨by omega, ja_lt o hpos b, rfl, h.symm, ja_ja o heven hb⟩]
    · rw [if_neg h, if_neg fun hh => h hh.2.2.2.1.symm]


/-- the diagonal entry of row `(a, b)` in the gather assembly: `1` on the Dirichlet rows and at the coarse nodes -/
def expD (a b : Nat) : K :=
  if a + 1 = o.nr ∨ (a = 0 ∧ o.bc = true) ∨ (¬ a % 2 = 1 ∧ ¬ b % 2 = 1) then 1
  else centerValue o a b (if a = 0 then 0 else a - 1) (if a = 0 then ja o b else b)

theorem diag_value (hnr : 4 ≤ o.nr) (hnt : 2 ≤ o.nt) (heven : o.nt % 2 = 0) (h4 : o.bc = false → o.nt % 4 = 0)
    (hk : o.bc = false → ∀ j, j < o.nt → o.k (ja o j) = o.k j) (a b : Nat) (ha : a < o.nr) (hb : b < o.nt) :
    giveD o a b = expD o a b := by
  have pjp := Stencil.jp_parity o heven hb
  have pjm := Stencil.jm_parity o heven hb
  unfold expD
  by_cases hA : a + 1 = o.nr
  · -- outer Dirichlet row: nobody gives to it
    rw [if_pos (.inl hA), giveD, selfD_one (.inl hA), if_neg (show ¬ a + 1 < o.nr by omega), if_pos (show 0 < a by omega),
      gR_zero (.inl (by omega)), gB_zero (.inl (by omega)), gT_zero (.inl (by omega)), if_neg (show ¬ a = 0 by omega)]
    ring
  have hlt : a + 1 < o.nr := by omega
  by_cases hB : a = 0 ∧ o.bc = true
  · -- inner Dirichlet row
    obtain ⟨rfl, hbc⟩ := hB
    rw [if_pos (.inr (.inl ⟨rfl, hbc⟩)), giveD, selfD_one (.inr (.inl ⟨rfl, hbc⟩)), if_pos hlt,
      gL_zero (.inr (.inr ⟨rfl, hbc⟩)), if_neg (Nat.lt_irrefl 0), gB_zero (.inr (.inl ⟨rfl, hbc⟩)),
      gT_zero (.inr (.inl ⟨rfl, hbc⟩)), if_pos rfl, gA_zero (.inl hbc)]
    ring
  have h0 : 0 < a ∨ o.bc = false := by
    rcases Nat.eq_zero_or_pos a with h | h
    · exact .inr (by cases hh : o.bc <;> [rfl; exact absurd ⟨h, hh⟩ hB])
    · exact .inl h
  have pja : a = 0 → ja o b % 2 = b % 2 := fun h => ja_parity o (h4 (h0.resolve_left (by omega))) hb
  by_cases hC : ¬ a % 2 = 1 ∧ ¬ b % 2 = 1
  · -- coarse node: all four neighbours lie on odd lines and give nothing
    rw [if_pos (.inr (.inr hC)), giveD, selfD_one (.inr (.inr hC)), if_pos hlt, gL_zero (.inr (.inl ⟨by omega, hC.2⟩)),
      gB_zero (.inr (.inr ⟨hC.1, by omega⟩)), gT_zero (.inr (.inr ⟨hC.1, by omega⟩))]
    by_cases h : a = 0
    · rw [if_neg (show ¬ 0 < a by omega), if_pos h, gA_zero (.inr (by rw [pja h]; exact hC.2))]
      ring
    · rw [if_pos (show 0 < a by omega), gR_zero (.inr ⟨by omega, hC.2⟩), if_neg h]
      ring
  · rw [if_neg (not_or.mpr ⟨hA, not_or.mpr ⟨hB, hC⟩⟩), giveD, selfD_fine hlt h0 (by omega), if_pos hlt,
      gL_pos (Nat.succ_pos a) (by omega) (h0.imp (by omega) id), coeff1_succ, gB_pos hlt h0 (by omega), coeff3_jp o a hb,
      gT_pos hlt h0 (by omega), coeff4_jm]
    by_cases h : a = 0
    · subst h
      have hbc : o.bc = false := h0.resolve_left (Nat.lt_irrefl 0)
      rw [if_neg (Nat.lt_irrefl 0), if_pos rfl, gA_pos hbc (by rw [pja rfl]; omega), coeff1_ja o hnt heven (hk hbc) hb,
        if_pos rfl, if_pos rfl]
      unfold massValue diagValue centerValue
      ring
    · rw [if_pos (show 0 < a by omega), gR_pos (by omega) (by omega), coeff2_pred o b (by omega), if_neg h, if_neg h,
        if_neg h]
      unfold massValue diagValue centerValue
      ring

end
end ExSmootherGiveCode
