import GMGModel.Concrete
import GMGProofs.Lemmas.SparseLULemmas
import GMGProofs.Props.C06d
import GMGProofs.Props.C04c
/-!
# Memories, lists and row-major arrays under the concrete operators

The strict association-list interpreter `Concrete.execL` agrees with `MGCycle.exec` cell by cell (`LMem.get d (m.set r v)` is
`MGCycle.upd`).  The substitutions of the sparse LU return whenever the `tiny` test fires on no pivot (zero pivots included:
`x / 0` is a value) and map the zero right-hand side to the zero vector (`0 / d = 0`).  A row-major array of the grid's size is
determined by its node field on the grid; the transfers map zero to zero; the residual is affine and reads grid values only.
-/
namespace Concrete
open MGCycle

section Interpreter
variable {V : Type}

theorem LMem.find_filter_ne (m : LMem V) (r q : Ref) (h : q ≠ r) :
    (m.filter (fun e => e.1 != r)).find? (fun e => e.1 == q) = m.find? (fun e => e.1 == q) := by
  rw [List.find?_filter]
  congr 1
  funext e
  by_cases hq : e.1 = q
  · have : e.1 ≠ r := by rw [hq]; exact h
    simp [hq, h]
  · simp [hq]

theorem LMem.get_set (d : Ref → V) (m : LMem V) (r q : Ref) (v : V) :
    (m.set r v).get d q = if q = r then v else m.get d q := by
  unfold LMem.get LMem.set
  by_cases h : q = r
  · subst h
    rw [List.find?_cons_of_pos (by simp), if_pos rfl]
  · have h2 : (r == q) = false := beq_false_of_ne (fun h' => h h'.symm)
    rw [List.find?_cons_of_neg (by simp [h2]), LMem.find_filter_ne m r q h, if_neg h]

/-- the function memory an association list denotes -/
def LMem.den (d : Ref → V) (m : LMem V) : Mem V := fun r => m.get d r

theorem LMem.den_set (d : Ref → V) (m : LMem V) (r : Ref) (v : V) :
    LMem.den d (m.set r v) = upd (LMem.den d m) r v := by
  funext q
  exact LMem.get_set d m r q v

theorem stepL_den (o : Ops V) (d : Ref → V) (m : LMem V) (i : Instr) :
    LMem.den d (stepL o d m i) = stepI o (LMem.den d m) i := by
  cases i <;> simp only [stepL, stepI, LMem.den_set] <;> rfl

theorem execL_den (o : Ops V) (d : Ref → V) (p : List Instr) :
    ∀ m : LMem V, LMem.den d (execL o d p m) = exec o p (LMem.den d m) := by
  induction p with
  | nil => intro m; rfl
  | cons i rest ih =>
      intro m
      show LMem.den d (execL o d rest (stepL o d m i)) = exec o rest (stepI o (LMem.den d m) i)
      rw [ih, stepL_den]

theorem LMem.den_nil (d : Ref → V) : LMem.den d ([] : LMem V) = d := rfl

end Interpreter

/-- a kernel-evaluated sweep over the pivots of an assembled matrix, read as the hypothesis the theorems take -/
theorem pivots_not_tiny {α : Type} [Scalar α] (T : DirectCode.Tables) (o : Stencil.Op α) (tiny : α → Bool)
    (h : (DirectCode.assemble T o).all (fun M => (List.range M.rows).all fun r =>
      !tiny (SparseLU.den ((SparseLU.factorRows M).2.getD r []) r)) = true)
    (M : SparseLU.CSR α) (hM : DirectCode.assemble T o = some M) :
    ∀ r, r < M.rows → tiny (SparseLU.den ((SparseLU.factorRows M).2.getD r []) r) = false := by
  rw [hM] at h
  simpa only [Option.all_some, List.all_eq_true, List.mem_range, Bool.not_eq_true'] using h

open Stencil Scalar SparseLU
variable {K : Type} [_root_.Field K]

/-! ### zero lists through `SparseLU.solve` -/

theorem vget_replicate_zero (n k : Nat) : vget (List.replicate n (0 : K)) k = 0 := by
  unfold vget
  rw [List.getD_eq_getElem?_getD, List.getElem?_replicate]
  split <;> simp

theorem set_replicate_zero (n i : Nat) : (List.replicate n (0 : K)).set i 0 = List.replicate n 0 := by
  apply List.ext_getElem
  · simp
  · intro k h1 h2
    rw [List.getElem_set]
    split <;> simp

theorem fwdRow_zero (Li : Row K) (i n : Nat) :
    Li.foldl (fun b e => b.set i (vget b i - e.2 * vget b e.1)) (List.replicate n (0 : K)) = List.replicate n 0 := by
  induction Li with
  | nil => rfl
  | cons e rest ih =>
      rw [List.foldl_cons, vget_replicate_zero, vget_replicate_zero, mul_zero, sub_zero, set_replicate_zero, ih]

theorem fwdSolve_zero (L : List (Row K)) (n : Nat) : fwdSolve L (List.replicate n (0 : K)) = List.replicate n 0 := by
  unfold fwdSolve
  generalize List.range L.length = l
  induction l with
  | nil => rfl
  | cons i rest ih => rw [List.foldl_cons, fwdRow_zero, ih]

theorem bwdRow_zero (Ui : Row K) (hu : Uniq Ui) (i n : Nat) :
    bwdRow Ui i (List.replicate n (0 : K)) = (den Ui i, 0) := by
  rw [bwdRow_eq Ui hu]
  congr 1
  rw [vget_replicate_zero, Finset.sum_eq_zero, sub_zero]
  intro k _
  split
  · exact mul_zero _
  · rw [vget_replicate_zero, mul_zero]

theorem bwdSolve_zero (tiny : K → Bool) (U : List (Row K)) (hU : ∀ j, Uniq (U.getD j [])) (n : Nat) :
    ∀ i, (∀ j, j < i → tiny (den (U.getD j []) j) = false) →
      bwdSolve tiny U i (List.replicate n (0 : K)) = some (List.replicate n 0)
  | 0, _ => rfl
  | i + 1, h => by
      simp only [bwdSolve]
      rw [bwdRow_zero _ (hU i)]
      simp only [h i (Nat.lt_succ_self i), Bool.false_eq_true, if_false, zero_div, set_replicate_zero]
      exact bwdSolve_zero tiny U hU n i (fun j hj => h j (Nat.lt_succ_of_lt hj))

theorem solve_zero (tiny : K → Bool) (A : CSR K)
    (h : ∀ r, r < A.rows → tiny (den ((factorRows A).2.getD r []) r) = false) (n : Nat) :
    SparseLU.solve tiny (factorRows A) (List.replicate n (0 : K)) = some (List.replicate n 0) := by
  unfold SparseLU.solve
  rw [fwdSolve_zero, (factorRows_length A).2]
  exact bwdSolve_zero tiny _ (uniq_U A) n A.rows h

/-! ### row-major arrays and node fields -/

theorem fld_eq (nt : Nat) (a : Array K) (i j : Nat) : SmootherCode.fld nt a i j = a.getD (i * nt + j) 0 := by
  unfold SmootherCode.fld
  rw [Scalar.n_zero]

theorem getD_replicate_zero (m p : Nat) : (Array.replicate m (0 : K)).getD p 0 = 0 := by
  rw [Array.getD_eq_getD_getElem?, Array.getElem?_replicate]
  split <;> rfl

theorem fld_replicate_zero (nt n : Nat) : SmootherCode.fld nt (Array.replicate n (0 : K)) = fun _ _ => 0 := by
  funext i j
  rw [fld_eq, getD_replicate_zero]

omit [_root_.Field K] in
theorem ofField_congr (nr nt : Nat) (u u' : Stencil.Field K) (h : ∀ i j, i < nr → j < nt → u i j = u' i j) :
    SmootherCode.ofField nr nt u = SmootherCode.ofField nr nt u' := by
  unfold SmootherCode.ofField
  apply Array.ext
  · simp
  · intro p h1 h2
    rw [Array.getElem_ofFn, Array.getElem_ofFn]
    obtain ⟨hi, hj⟩ := idx_decomp (show p < nr * nt by simpa using h1)
    exact h _ _ hi hj

theorem ofField_zero (nr nt : Nat) : SmootherCode.ofField nr nt (fun _ _ => (0 : K)) = Array.replicate (nr * nt) 0 := by
  unfold SmootherCode.ofField
  apply Array.ext
  · simp
  · intro p h1 h2
    rw [Array.getElem_ofFn, Array.getElem_replicate]

theorem ofField_eq_replicate (nr nt : Nat) (u : Stencil.Field K) (h : ∀ i j, i < nr → j < nt → u i j = 0) :
    SmootherCode.ofField nr nt u = Array.replicate (nr * nt) 0 :=
  (ofField_congr nr nt u _ h).trans (ofField_zero nr nt)

theorem take_ofField_A (o : Op K) (nr nt : Nat) (v : Stencil.Field K) (i j : Nat) (hi : i < nr) (hj : j < nt) :
    take o (SmootherCode.fld nt (SmootherCode.ofField nr nt (A o v))) v i j = 0 := by
  rw [take_eq_sub_A, SmootherCode.fld_ofField nr nt _ i j hi hj, sub_self]

theorem array_eq_of_fld (nr nt : Nat) (a b : Array K) (ha : a.size = nr * nt) (hb : b.size = nr * nt)
    (h : ∀ i j, i < nr → j < nt → SmootherCode.fld nt a i j = SmootherCode.fld nt b i j) : a = b := by
  apply Array.ext
  · rw [ha, hb]
  · intro p h1 h2
    obtain ⟨hi, hj⟩ := idx_decomp (show p < nr * nt by rw [← ha]; exact h1)
    have := h _ _ hi hj
    rw [fld_eq, fld_eq, Nat.div_add_mod' p nt, Array.getD_eq_getD_getElem?, Array.getD_eq_getD_getElem?,
      Array.getElem?_eq_getElem h1, Array.getElem?_eq_getElem h2] at this
    exact this

theorem vget_toList (nt : Nat) (b : Array K) :
    (fun i j => vget b.toList (i * nt + j)) = SmootherCode.fld nt b := by
  funext i j
  unfold vget SmootherCode.fld
  rw [List.getD_eq_getElem?_getD, Array.getD_eq_getD_getElem?, Array.getElem?_toList]

theorem vget_toArray (nt : Nat) (xs : List K) :
    (fun i j => vget xs (i * nt + j)) = SmootherCode.fld nt xs.toArray := by
  funext i j
  unfold vget SmootherCode.fld
  rw [List.getD_eq_getElem?_getD, Array.getD_eq_getD_getElem?, List.getElem?_toArray]

/-! ### `x += y` -/

def addArr (x y : Array K) : Array K := Array.ofFn (n := x.size) fun p => x[p] + y.getD p.val 0

theorem addArr_size (x y : Array K) : (addArr x y).size = x.size := Array.size_ofFn

theorem getD_addArr (x y : Array K) (p : Nat) :
    (addArr x y).getD p 0 = if p < x.size then x.getD p 0 + y.getD p 0 else 0 := by
  unfold addArr
  simp only [Array.getD_eq_getD_getElem?, Array.getElem?_ofFn]
  split
  · rename_i h
    simp [Array.getElem?_eq_getElem h]
  · rfl

theorem array_ext_getD (a b : Array K) (hs : a.size = b.size) (h : ∀ p, p < a.size → a.getD p 0 = b.getD p 0) : a = b := by
  apply Array.ext hs
  intro p h1 h2
  have := h p h1
  rwa [Array.getD_eq_getD_getElem?, Array.getD_eq_getD_getElem?, Array.getElem?_eq_getElem h1,
    Array.getElem?_eq_getElem h2] at this

theorem fld_addArr_grid (nr nt : Nat) (x y : Array K) (hx : nr * nt ≤ x.size) (i j : Nat) (hi : i < nr) (hj : j < nt) :
    SmootherCode.fld nt (addArr x y) i j = SmootherCode.fld nt x i j + SmootherCode.fld nt y i j := by
  have hlt : i * nt + j < nr * nt := idx_lt hi hj
  rw [fld_eq, fld_eq, fld_eq, getD_addArr, if_pos (by omega)]

theorem addArr_comm_right (a b w : Array K) : addArr (addArr a w) b = addArr (addArr a b) w := by
  apply array_ext_getD
  · simp only [addArr_size]
  · intro p hp
    simp only [addArr_size] at hp
    simp only [getD_addArr, addArr_size, if_pos hp]
    ring

theorem addArr_zero (u : Array K) (m : Nat) : addArr u (Array.replicate m 0) = u := by
  apply array_ext_getD _ _ (addArr_size _ _)
  intro p hp
  rw [addArr_size] at hp
  rw [getD_addArr, if_pos hp, getD_replicate_zero, add_zero]

/-! ### the zero field through the transfers -/

theorem restrict_zero (p : Interp.Pair K) : Interp.restrict p (fun _ _ => (0 : K)) = fun _ _ => 0 := by
  funext I J
  simp [Interp.restrict]

theorem prolong_zero (p : Interp.Pair K) : Interp.prolong p (fun _ _ => (0 : K)) = fun _ _ => 0 := by
  funext i j
  simp [Interp.prolong]

theorem exRestrict_zero (p : Interp.Pair K) : Interp.exRestrict p (fun _ _ => (0 : K)) = fun _ _ => 0 := by
  funext I J
  simp [Interp.exRestrict]

theorem exProlong_zero (p : Interp.Pair K) : Interp.exProlong p (fun _ _ => (0 : K)) = fun _ _ => 0 := by
  funext i j
  simp [Interp.exProlong]

/-- `Interp.restrict` at the coarse node `(I, J)` reads the fine nodes `(2I + {-1,0,1}, 2J + {-1,0,1} mod ntF)`; these lie on an
    `nr × nt` grid when `2I < nr`, `2I + 1 < nr` whenever the pair looks at the next fine row, `2J + 1 < nt`, `ntF ≤ nt` -/
theorem restrict_congr_grid (p : Interp.Pair K) (nr nt : Nat) (y y' : Stencil.Field K)
    (h : ∀ a b, a < nr → b < nt → y a b = y' a b) (I J : Nat)
    (hI : 2 * I < nr) (hI1 : I + 1 < Interp.nrC p → 2 * I + 1 < nr) (hJ : 2 * J + 1 < nt) (hnt : p.ntF ≤ nt) :
    Interp.restrict p y I J = Interp.restrict p y' I J := by
  have hM1 : Interp.wF p (2 * J + p.ntF - 1) < nt := by
    unfold Interp.wF
    rcases Nat.eq_zero_or_pos p.ntF with h0 | h0
    · rw [h0, Nat.mod_zero]; omega
    · exact Nat.lt_of_lt_of_le (Nat.mod_lt _ h0) hnt
  have hP1 : Interp.wF p (2 * J + 1) < nt := by
    unfold Interp.wF
    exact Nat.lt_of_le_of_lt (Nat.mod_le _ _) hJ
  have e0 : ∀ b, b < nt → y (2 * I) b = y' (2 * I) b := fun b hb => h _ _ hI hb
  have em : ∀ b, b < nt → y (2 * I - 1) b = y' (2 * I - 1) b := fun b hb => h _ _ (by omega) hb
  unfold Interp.restrict
  simp only [e0 _ (by omega : 2 * J < nt), e0 _ hM1, e0 _ hP1, em _ (by omega : 2 * J < nt), em _ hM1, em _ hP1]
  by_cases h2 : I + 1 < Interp.nrC p
  · have ep : ∀ b, b < nt → y (2 * I + 1) b = y' (2 * I + 1) b := fun b hb => h _ _ (hI1 h2) hb
    simp only [if_pos h2, ep _ (by omega : 2 * J < nt), ep _ hM1, ep _ hP1]
  · simp only [if_neg h2]

/-! ### the residual -/

theorem take_zero_zero (o : Op K) (i j : Nat) : take o (fun _ _ => 0) (fun _ _ => 0) i j = 0 := by
  rw [take_eq_sub_A, Direct.A_zero, sub_self]

theorem take_add (o : Op K) (f g x w : Stencil.Field K) (i j : Nat) :
    take o (fun a b => f a b + g a b) (fun a b => x a b + w a b) i j = take o f x i j + take o g w i j := by
  rw [take_eq_sub_A, take_eq_sub_A, take_eq_sub_A, Direct.A_add]
  ring

theorem take_congr_rhs (o : Op K) (f f' x : Stencil.Field K) (i j : Nat) (h : f i j = f' i j) :
    take o f x i j = take o f' x i j := by
  rw [take_eq_sub_A, take_eq_sub_A, h]

/-- `take` on the grid reads grid values only — also on the degenerate grids `nr ≤ 1` when the inner boundary is Dirichlet -/
theorem take_congr_grid' (o : Op K) (f w w' : Stencil.Field K) (h01 : o.bc = true ∨ 2 ≤ o.nr)
    (h : ∀ a b, a < o.nr → b < o.nt → w a b = w' a b) (i j : Nat) (hi : i < o.nr) (hj : j < o.nt) :
    take o f w i j = take o f w' i j := by
  by_cases hnr : 2 ≤ o.nr
  · exact Smoother.take_congr_grid o f w w' hnr (by omega) h i j hi hj
  · obtain rfl : i = 0 := by omega
    rw [take_zero_dirichlet o f w (h01.resolve_right hnr), take_zero_dirichlet o f w' (h01.resolve_right hnr), h 0 j hi hj]

/-- the residual of a shifted pair: `(f + g) − A (x + w) = f − A x` where `A w = g`, all sums taken on the grid -/
theorem take_shift (o : Op K) (h01 : o.bc = true ∨ 2 ≤ o.nr) (f g x w F X : Stencil.Field K) (i j : Nat)
    (hi : i < o.nr) (hj : j < o.nt) (hF : F i j = f i j + g i j)
    (hX : ∀ a b, a < o.nr → b < o.nt → X a b = x a b + w a b) (hAw : take o g w i j = 0) :
    take o F X i j = take o f x i j := by
  rw [take_congr_rhs o F (fun a b => f a b + g a b) _ i j hF,
    take_congr_grid' o _ X (fun a b => x a b + w a b) h01 hX i j hi hj, take_add, hAw, add_zero]

end Concrete
