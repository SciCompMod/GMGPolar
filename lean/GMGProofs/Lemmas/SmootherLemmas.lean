import GMGModel.Smoother
import GMGProofs.Lemmas.StencilLemmas4
/-!
# Locality of the row equations, phases, lines

The row equation of node `(i, j)` only reads the 3×3 box around it (plus the antipode on circle 0 in the across-the-origin
mode), and only grid nodes.  Every stencil neighbour of a node is on the same smoother line or has a different phase
(`nbr_class`), hence a row equation never reads another line of its own phase (`decoupled`), and the sweep equations
determine the new iterate by induction over the phases.
-/
namespace Smoother
open Stencil
variable {K : Type} [_root_.Field K]

theorem take_congr (o : Op K) (f w w' : Stencil.Field K) (i j : Nat) (hnr : 2 ≤ o.nr) (hnt : 0 < o.nt)
    (hi : i < o.nr) (hj : j < o.nt)
    (h : ∀ a b, a < o.nr → b < o.nt → (a = i ∨ a + 1 = i ∨ a = i + 1) →
      (b = j ∨ b = jm o j ∨ b = jp o j ∨ (o.bc = false ∧ i = 0 ∧ a = 0 ∧ b = ja o j)) → w a b = w' a b) :
    take o f w i j = take o f w' i j := by
  -- the three nodes of the stencil on row `a`
  have hcol : ∀ a, a < o.nr → (a = i ∨ a + 1 = i ∨ a = i + 1) →
      w a j = w' a j ∧ w a (jm o j) = w' a (jm o j) ∧ w a (jp o j) = w' a (jp o j) := fun a ha hai =>
    ⟨h a j ha hj hai (Or.inl rfl), h a _ ha (jm_lt o hnt j) hai (Or.inr (Or.inl rfl)),
      h a _ ha (jp_lt o hnt j) hai (Or.inr (Or.inr (Or.inl rfl)))⟩
  obtain ⟨b1, b2, b3⟩ := hcol i hi (Or.inl rfl)
  rcases Nat.eq_zero_or_pos i with rfl | h0
  · cases hbc : o.bc
    · obtain ⟨c1, c2, c3⟩ := hcol 1 (by omega) (Or.inr (Or.inr rfl))
      rw [take_origin o f w hbc, take_origin o f w' hbc]
      simp only [takeOrigin, b1, b2, b3, c1, c2, c3,
        h 0 (ja o j) hi (ja_lt o hnt j) (Or.inl rfl) (Or.inr (Or.inr (Or.inr ⟨hbc, rfl, rfl, rfl⟩)))]
    · rw [take_zero_dirichlet o f w hbc, take_zero_dirichlet o f w' hbc, b1]
  · by_cases h1 : i + 1 < o.nr
    · obtain ⟨a1, a2, a3⟩ := hcol (i - 1) (by omega) (Or.inr (Or.inl (by omega)))
      obtain ⟨c1, c2, c3⟩ := hcol (i + 1) h1 (Or.inr (Or.inr rfl))
      rw [take_interior o f w j h0 h1, take_interior o f w' j h0 h1]
      simp only [takeInterior, a1, a2, a3, b1, b2, b3, c1, c2, c3]
    · rw [take_outer o f w j h0 (by omega), take_outer o f w' j h0 (by omega), b1]

theorem take_congr_grid (o : Op K) (f w w' : Stencil.Field K) (hnr : 2 ≤ o.nr) (hnt : 0 < o.nt)
    (h : ∀ a b, a < o.nr → b < o.nt → w a b = w' a b) (i j : Nat) (hi : i < o.nr) (hj : j < o.nt) :
    take o f w i j = take o f w' i j :=
  take_congr o f w w' i j hnr hnt hi hj (fun a b ha hb _ _ => h a b ha hb)

/-! ### phases and the mixed iterate -/

theorem phase_circle_iff {nc c : Nat} (hc : c < 2) (i j : Nat) :
    phase nc i j = c + 1 ↔ i < nc ∧ (nc - 1 - i) % 2 = c := by
  unfold phase; split_ifs <;> omega

theorem phase_radial_iff {nc c : Nat} (hc : c < 2) (i j : Nat) :
    phase nc i j = c + 3 ↔ nc ≤ i ∧ j % 2 = c := by
  unfold phase; split_ifs <;> omega

theorem phase_le_four (nc i j : Nat) : phase nc i j ≤ 4 := by
  unfold phase; split_ifs <;> omega

theorem one_le_phase (nc i j : Nat) : 1 ≤ phase nc i j := by
  unfold phase; split_ifs <;> omega

theorem phase_white_radial {nc i j : Nat} (hi : nc ≤ i) (hj : j % 2 = 1) : phase nc i j = 4 :=
  (phase_radial_iff (c := 1) (by omega) i j).mpr ⟨hi, hj⟩

section mixed
omit [_root_.Field K]

theorem mix_self (nc p : Nat) (u : Stencil.Field K) : mix nc p u u = u := by
  funext i j; unfold mix; split <;> rfl

theorem mix_of_le {nc p i j : Nat} (h : phase nc i j ≤ p) (x y : Stencil.Field K) : mix nc p x y i j = y i j := by
  unfold mix; rw [if_pos h]

theorem mix_of_lt {nc p i j : Nat} (h : p < phase nc i j) (x y : Stencil.Field K) : mix nc p x y i j = x i j := by
  unfold mix; rw [if_neg (by omega)]

theorem mix_of_eq {nc p i j : Nat} {x y : Stencil.Field K} {c : K} (hx : x i j = c) (hy : y i j = c) :
    mix nc p x y i j = c := by
  unfold mix; split
  exacts [hy, hx]

theorem mix_four (nc : Nat) (x y : Stencil.Field K) : mix nc 4 x y = y := by
  funext i j; exact mix_of_le (phase_le_four nc i j) x y

end mixed

theorem coarseNode_eq_true_iff (i j : Nat) : coarseNode i j = true ↔ i % 2 = 0 ∧ j % 2 = 0 := by
  simp only [coarseNode, Bool.and_eq_true, decide_eq_true_eq]

theorem coarseNode_eq_false_iff (i j : Nat) : coarseNode i j = false ↔ i % 2 = 1 ∨ j % 2 = 1 := by
  rw [← Bool.not_eq_true, coarseNode_eq_true_iff]; omega

theorem exDefect_of_coarse (o : Op K) (nc : Nat) (f x y : Stencil.Field K) {i j : Nat}
    (hc : coarseNode i j = true) : exDefect o nc f x y i j = y i j - x i j := if_pos hc

theorem exDefect_of_fine (o : Op K) (nc : Nat) (f x y : Stencil.Field K) {i j : Nat}
    (hc : coarseNode i j = false) : exDefect o nc f x y i j = defect o nc f x y i j :=
  if_neg (Bool.eq_false_iff.mp hc)

/-- all sweep equations hold -/
def IsSweep (o : Op K) (nc : Nat) (f x y : Stencil.Field K) : Prop :=
  ∀ i j, i < o.nr → j < o.nt → defect o nc f x y i j = 0

theorem isSweep_self {o : Op K} {f u : Stencil.Field K} (nc : Nat)
    (hu : ∀ i j, i < o.nr → j < o.nt → take o f u i j = 0) : IsSweep o nc f u u := fun i j hi hj => by
  rw [defect, mix_self]; exact hu i j hi hj

/-- the Dirichlet rows are identity rows: the sweep sets the boundary values -/
theorem dirichlet_set_outer (o : Op K) (nc : Nat) (hnr : 2 ≤ o.nr) (f x y : Stencil.Field K)
    (h : IsSweep o nc f x y) (j : Nat) (hj : j < o.nt) : y (o.nr - 1) j = f (o.nr - 1) j := by
  have := h (o.nr - 1) j (by omega) hj
  rw [defect, take_outer o _ _ j (by omega) (by omega), mix_of_le (le_refl _)] at this
  exact (sub_eq_zero.mp this).symm

theorem dirichlet_set_inner (o : Op K) (nc : Nat) (hnr : 1 ≤ o.nr) (hbc : o.bc = true)
    (f x y : Stencil.Field K) (h : IsSweep o nc f x y) (j : Nat) (hj : j < o.nt) : y 0 j = f 0 j := by
  have := h 0 j (by omega) hj
  rw [defect, take_zero_dirichlet o _ _ hbc, mix_of_le (le_refl _)] at this
  exact (sub_eq_zero.mp this).symm

/-- all equations of the extrapolated sweep hold -/
def IsExSweep (o : Op K) (nc : Nat) (f x y : Stencil.Field K) : Prop :=
  ∀ i j, i < o.nr → j < o.nt → exDefect o nc f x y i j = 0

/-! ### lines -/

/-- `(a, b)` is on the smoother line of `(i, j)`: circle `i` if `i < nc`, else the part `nc ≤ a` of the
    radial line `j` -/
def sameLine (nc i j a b : Nat) : Prop := if i < nc then a = i else (nc ≤ a ∧ b = j)

instance (nc i j a b : Nat) : Decidable (sameLine nc i j a b) := by unfold sameLine; infer_instance

theorem sameLine_of_lt {nc i : Nat} (h : i < nc) (j a b : Nat) : sameLine nc i j a b ↔ a = i := by
  unfold sameLine; rw [if_pos h]

theorem sameLine_of_ge {nc i : Nat} (h : nc ≤ i) (j a b : Nat) : sameLine nc i j a b ↔ nc ≤ a ∧ b = j := by
  unfold sameLine; rw [if_neg (by omega)]

theorem sameLine_refl (nc i j : Nat) : sameLine nc i j i j := by
  unfold sameLine; split <;> omega

theorem sameLine_phase {nc i j a b : Nat} (h : sameLine nc i j a b) : phase nc a b = phase nc i j := by
  unfold sameLine at h
  unfold phase
  split_ifs at h ⊢ <;> omega

theorem sameLine_congr {nc i j a b : Nat} (h : sameLine nc i j a b) (c d : Nat) :
    sameLine nc a b c d ↔ sameLine nc i j c d := by
  unfold sameLine at *
  split_ifs at h ⊢ <;> omega

omit [_root_.Field K] in
theorem nbr_class (o : Op K) (nc : Nat) (hnc : 1 ≤ nc ∨ o.bc = true) (heven : o.nt % 2 = 0)
    (i j a b : Nat) (hj : j < o.nt)
    (ha : a = i ∨ a + 1 = i ∨ a = i + 1)
    (hb : b = j ∨ b = jm o j ∨ b = jp o j ∨ (o.bc = false ∧ i = 0 ∧ a = 0 ∧ b = ja o j)) :
    phase nc a b ≠ phase nc i j ∨ sameLine nc i j a b := by
  -- an angular neighbour has the other parity; the antipode only occurs on circle 0, which is then a smoother circle
  have hb' : b = j ∨ b % 2 = (j + 1) % 2 ∨ (a = i ∧ i < nc) := by
    rcases hb with rfl | rfl | rfl | ⟨hbc, rfl, rfl, _⟩
    · exact Or.inl rfl
    · exact Or.inr (Or.inl (jm_parity o heven hj))
    · exact Or.inr (Or.inl (jp_parity o heven hj))
    · exact Or.inr (Or.inr ⟨rfl, hnc.resolve_right (by simp [hbc])⟩)
  unfold phase sameLine
  split_ifs <;> omega

theorem decoupled (o : Op K) (nc : Nat) (hnc : 1 ≤ nc ∨ o.bc = true) (hnr : 2 ≤ o.nr) (hnt : 2 ≤ o.nt)
    (heven : o.nt % 2 = 0) (f w w' : Stencil.Field K) (i j : Nat) (hi : i < o.nr) (hj : j < o.nt)
    (h : ∀ a b, a < o.nr → b < o.nt → (phase nc a b ≠ phase nc i j ∨ sameLine nc i j a b) → w a b = w' a b) :
    take o f w i j = take o f w' i j :=
  take_congr o f w w' i j hnr (by omega) hi hj
    (fun a b ha hb h1 h2 => h a b ha hb (nbr_class o nc hnc heven i j a b hj h1 h2))

/-! ### uniqueness of the sweep -/

/-- every line block is injective: with the values off the line fixed, the line residuals determine the
    line values -/
def LineInj (o : Op K) (nc : Nat) (f : Stencil.Field K) : Prop :=
  ∀ (w w' : Stencil.Field K) (i j : Nat), i < o.nr → j < o.nt →
    (∀ a b, a < o.nr → b < o.nt → ¬ sameLine nc i j a b → w a b = w' a b) →
    (∀ a b, a < o.nr → b < o.nt → sameLine nc i j a b → take o f w a b = take o f w' a b) →
    ∀ a b, a < o.nr → b < o.nt → sameLine nc i j a b → w a b = w' a b

theorem sweep_unique_of_lineInj (o : Op K) (nc : Nat) (hnc : 1 ≤ nc ∨ o.bc = true) (hnr : 2 ≤ o.nr)
    (hnt : 2 ≤ o.nt) (heven : o.nt % 2 = 0) (f x y y' : Stencil.Field K) (hL : LineInj o nc f)
    (hy : IsSweep o nc f x y) (hy' : IsSweep o nc f x y') :
    ∀ i j, i < o.nr → j < o.nt → y i j = y' i j := by
  have key : ∀ p, ∀ i j, i < o.nr → j < o.nt → phase nc i j = p → y i j = y' i j := by
    intro p
    induction p using Nat.strong_induction_on with
    | _ p ih =>
      intro i j hi hj hp
      -- the two mixed iterates and the hybrid: `w'` on the line of `(i, j)`, `w` elsewhere
      have hww' : ∀ c d, c < o.nr → d < o.nt → phase nc c d ≠ p →
          mix nc p x y c d = mix nc p x y' c d := by
        intro c d hc hd hne
        rcases Nat.lt_or_ge p (phase nc c d) with hlt | hge
        · rw [mix_of_lt hlt, mix_of_lt hlt]
        · rw [mix_of_le hge, mix_of_le hge]
          exact ih (phase nc c d) (by omega) c d hc hd rfl
      have h := hL (mix nc p x y)
        (fun a b => if sameLine nc i j a b then mix nc p x y' a b else mix nc p x y a b) i j hi hj
        (fun a b _ _ hn => by simp only [if_neg hn])
        (fun a b ha hb hs => by
          have hpa : phase nc a b = p := (sameLine_phase hs).trans hp
          have e1 : take o f (mix nc p x y) a b = 0 := hpa ▸ hy a b ha hb
          have e2 : take o f (mix nc p x y') a b = 0 := hpa ▸ hy' a b ha hb
          rw [e1, ← e2]
          apply decoupled o nc hnc hnr hnt heven f _ _ a b ha hb
          intro c d hc hd hcd
          rcases hcd with hne | hs'
          · rw [hpa] at hne
            have hnl : ¬ sameLine nc i j c d := fun hl => hne ((sameLine_phase hl).trans hp)
            simp only [if_neg hnl]
            exact (hww' c d hc hd hne).symm
          · have : sameLine nc i j c d := (sameLine_congr hs c d).mp hs'
            simp only [if_pos this])
        i j hi hj (sameLine_refl nc i j)
      simp only [if_pos (sameLine_refl nc i j)] at h
      rwa [mix_of_le (by omega), mix_of_le (by omega)] at h
  intro i j hi hj
  exact key _ i j hi hj rfl

end Smoother
