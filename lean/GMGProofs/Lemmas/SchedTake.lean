import GMGProofs.Lemmas.SchedBasic
/-!
# Race freedom of the four "take" (gather) assembly / residual regions (C11)

A call on circle `i < nc` writes row `i`, a call on line `j` writes line `j` from row `nc` outwards, and nothing is read
from a written array: any two different calls are independent.  Proved on the generated loops of `ResidualTake`; the three
assemblies are relabellings of it.
-/
namespace Sched.Lem
open Sched

theorem residualTake_intervals : intervals Gen.residualTake.loops = [[0, 1]] := by decide

theorem residualTake_raceFree (s : Shape) : RegionRaceFree s Gen.residualTake := by
  apply regionRaceFree_of_intervals _ residualTake_intervals
  simp only [List.forall_mem_cons, List.not_mem_nil, false_imp_iff, implies_true, and_true, true_and, and_assoc, Nat.le_refl,
    forall_const, Nat.reduceLeDiff]
  refine ⟨?_, ?_, ?_⟩
  -- two circles
  · exact loopsRaceFree_of_single (fun _ => rfl) (fun _ => rfl) fun t t' _ _ hne a r θ => by
      have := hne rfl
      footprints a
  -- a circle lies below row `nc`
  · exact loopsRaceFree_of_single (fun _ => rfl) (fun _ => rfl) fun t t' ht _ _ a r θ => by
      have : t < s.nc := ht.2.1
      footprints a
  -- two lines
  · exact loopsRaceFree_of_single (fun _ => rfl) (fun _ => rfl) fun t t' _ _ hne a r θ => by
      have := hne rfl
      footprints a

theorem directTake_raceFree (s : Shape) : RegionRaceFree s Gen.directTake :=
  (residualTake_raceFree s).of_relabel (canon_covers s) rfl

theorem smootherTakeAsc_raceFree (s : Shape) : RegionRaceFree s Gen.smootherTakeAsc :=
  (residualTake_raceFree s).of_relabel (canon_covers s) rfl

theorem exSmootherTakeAsc_raceFree (s : Shape) : RegionRaceFree s Gen.exSmootherTakeAsc :=
  (residualTake_raceFree s).of_relabel (canon_covers s) rfl

end Sched.Lem
