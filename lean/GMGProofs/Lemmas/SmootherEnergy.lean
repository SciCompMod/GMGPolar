import GMGProofs.Lemmas.DirectLemmas
import Mathlib.Tactic.Linarith
/-!
# Smoother energy — a zebra sweep does not increase the energy norm of the error

Dirichlet inner boundary, elliptic data.  `gridErr o v u` is the error `v - u` restricted to the grid.
`energy_step`: if the new error `e'` has zero `A`-image on a node set `S` and the correction `e - e'` is
supported in `S`, then `⟨A e', e'⟩ ≤ ⟨A e, e⟩` (orthogonal projection in the energy inner product).
`sweep_energy`: the four phases chained.
-/
namespace Smoother
open Stencil Finset Direct
variable {F : Type} [_root_.Field F] [LinearOrder F] [IsStrictOrderedRing F]

/-- error `v - u` restricted to the grid -/
def gridErr (o : Op F) (v u : Stencil.Field F) : Stencil.Field F :=
  fun i j => if i < o.nr ∧ j < o.nt then v i j - u i j else 0

omit [LinearOrder F] [IsStrictOrderedRing F] in
theorem gridErr_eq_zero {o : Op F} {v u : Stencil.Field F} {i j : Nat} (h : j < o.nt → v i j = u i j) :
    gridErr o v u i j = 0 := by
  unfold gridErr; split
  · rename_i hij; rw [h hij.2, sub_self]
  · rfl

omit [LinearOrder F] [IsStrictOrderedRing F] in
theorem inner_A_add (o : Op F) (a b : Stencil.Field F) :
    inner o (A o (fun i j => a i j + b i j)) (fun i j => a i j + b i j)
      = inner o (A o a) a + inner o (A o a) b + inner o (A o b) a + inner o (A o b) b := by
  unfold inner
  simp only [A_add, ← Finset.sum_add_distrib]
  apply Finset.sum_congr rfl; intro i _
  apply Finset.sum_congr rfl; intro j _
  ring

theorem energy_step (o : Op F) (hnr : 4 ≤ o.nr) (hnt : 2 ≤ o.nt) (heven : o.nt % 2 = 0)
    (hbc : o.bc = true) (he : Elliptic o) (e e' w : Stencil.Field F) (S : Nat → Nat → Prop)
    (hV : V0 o e') (hW : V0 o w)
    (hsplit : ∀ i j, e i j = e' i j + w i j)
    (hwS : ∀ i j, i < o.nr → j < o.nt → ¬ S i j → w i j = 0)
    (hAS : ∀ i j, i < o.nr → j < o.nt → S i j → A o e' i j = 0) :
    inner o (A o e') e' ≤ inner o (A o e) e ∧
    inner o (A o e) e = inner o (A o e') e' + inner o (A o w) w := by
  have hee : e = fun i j => e' i j + w i j := by funext i j; exact hsplit i j
  have h0 : inner o (A o e') w = 0 :=
    Finset.sum_eq_zero fun i hi => Finset.sum_eq_zero fun j hj => by
      by_cases hS : S i j
      · rw [hAS i j (mem_range.mp hi) (mem_range.mp hj) hS, zero_mul]
      · rw [hwS i j (mem_range.mp hi) (mem_range.mp hj) hS, mul_zero]
  have h1 : inner o (A o w) e' = 0 := by
    rw [A_symm o hnr hnt heven (not_across hbc) w e' hW hV, inner_comm, h0]
  have h2 : 0 ≤ inner o (A o w) w := A_psd_dirichlet o w hnr hnt heven hbc he hW
  rw [hee, inner_A_add, h0, h1]
  constructor
  · linarith
  · ring

section sweep
variable (o : Op F) (nc : Nat) (f u x y : Stencil.Field F)

omit [LinearOrder F] [IsStrictOrderedRing F] in
/-- at the Dirichlet nodes every mixed iterate carries the boundary data, like the solution -/
theorem mix_dirichlet (hnr : 4 ≤ o.nr) (hbc : o.bc = true)
    (hu : ∀ i j, i < o.nr → j < o.nt → take o f u i j = 0)
    (hxD : ∀ j, j < o.nt → x (o.nr - 1) j = f (o.nr - 1) j ∧ x 0 j = f 0 j)
    (hs : IsSweep o nc f x y) (q j : Nat) (hj : j < o.nt) :
    mix nc q x y (o.nr - 1) j = u (o.nr - 1) j ∧ mix nc q x y 0 j = u 0 j := by
  have hfix : IsSweep o nc f u u := isSweep_self nc hu
  have hu1 := dirichlet_set_outer o nc (by omega) f u u hfix j hj
  have hu0 := dirichlet_set_inner o nc (by omega) hbc f u u hfix j hj
  exact ⟨mix_of_eq ((hxD j hj).1.trans hu1.symm) ((dirichlet_set_outer o nc (by omega) f x y hs j hj).trans hu1.symm),
    mix_of_eq ((hxD j hj).2.trans hu0.symm) ((dirichlet_set_inner o nc (by omega) hbc f x y hs j hj).trans hu0.symm)⟩

omit [LinearOrder F] [IsStrictOrderedRing F] in
theorem gridErr_V0 (hnr : 4 ≤ o.nr) (hbc : o.bc = true)
    (hu : ∀ i j, i < o.nr → j < o.nt → take o f u i j = 0)
    (hxD : ∀ j, j < o.nt → x (o.nr - 1) j = f (o.nr - 1) j ∧ x 0 j = f 0 j)
    (hs : IsSweep o nc f x y) (q : Nat) : V0 o (gridErr o (mix nc q x y) u) :=
  have hm := mix_dirichlet o nc f u x y hnr hbc hu hxD hs q
  ⟨fun j => gridErr_eq_zero fun hj => (hm j hj).1, fun _ j => gridErr_eq_zero fun hj => (hm j hj).2⟩

theorem phase_energy (hnr : 4 ≤ o.nr) (hnt : 2 ≤ o.nt) (heven : o.nt % 2 = 0)
    (hbc : o.bc = true) (he : Elliptic o)
    (hu : ∀ i j, i < o.nr → j < o.nt → take o f u i j = 0)
    (hxD : ∀ j, j < o.nt → x (o.nr - 1) j = f (o.nr - 1) j ∧ x 0 j = f 0 j)
    (hs : IsSweep o nc f x y) (p : Nat) :
    inner o (A o (gridErr o (mix nc (p + 1) x y) u)) (gridErr o (mix nc (p + 1) x y) u)
      ≤ inner o (A o (gridErr o (mix nc p x y) u)) (gridErr o (mix nc p x y) u) := by
  have hV1 := gridErr_V0 o nc f u x y hnr hbc hu hxD hs (p + 1)
  have hV0 := gridErr_V0 o nc f u x y hnr hbc hu hxD hs p
  refine (energy_step o hnr hnt heven hbc he (gridErr o (mix nc p x y) u)
    (gridErr o (mix nc (p + 1) x y) u)
    (fun i j => gridErr o (mix nc p x y) u i j - gridErr o (mix nc (p + 1) x y) u i j)
    (fun i j => phase nc i j = p + 1) hV1 ?_ (fun i j => by ring) ?_ ?_).1
  · constructor
    · intro j; beta_reduce; rw [hV0.1 j, hV1.1 j]; ring
    · intro h j; beta_reduce; rw [hV0.2 h j, hV1.2 h j]; ring
  · intro i j hi hj hne
    simp only [gridErr, if_pos (And.intro hi hj)]
    have : mix nc p x y i j = mix nc (p + 1) x y i j := by
      unfold mix
      by_cases hle : phase nc i j ≤ p
      · rw [if_pos hle, if_pos (by omega)]
      · rw [if_neg hle, if_neg (by omega)]
    rw [this]; ring
  · intro i j hi hj hp
    rw [A_congr_grid o _ (fun a b => mix nc (p + 1) x y a b - u a b) (by omega) (by omega)
      (fun a b ha hb => by simp only [gridErr, if_pos (And.intro ha hb)]) i j hi hj, A_sub]
    have h1 := hs i j hi hj
    unfold defect at h1
    rw [hp, take_eq_sub_A] at h1
    have h2 := hu i j hi hj
    rw [take_eq_sub_A] at h2
    rw [← sub_eq_zero.mp h1, ← sub_eq_zero.mp h2]; ring

/-- **energy**: a full zebra sweep does not increase the energy norm of the error -/
theorem sweep_energy (hnr : 4 ≤ o.nr) (hnt : 2 ≤ o.nt) (heven : o.nt % 2 = 0)
    (hbc : o.bc = true) (he : Elliptic o)
    (hu : ∀ i j, i < o.nr → j < o.nt → take o f u i j = 0)
    (hxD : ∀ j, j < o.nt → x (o.nr - 1) j = f (o.nr - 1) j ∧ x 0 j = f 0 j)
    (hs : IsSweep o nc f x y) :
    inner o (A o (gridErr o y u)) (gridErr o y u) ≤ inner o (A o (gridErr o x u)) (gridErr o x u) := by
  have hE : ∀ p, inner o (A o (gridErr o (mix nc p x y) u)) (gridErr o (mix nc p x y) u)
      ≤ inner o (A o (gridErr o (mix nc 0 x y) u)) (gridErr o (mix nc 0 x y) u) := by
    intro p
    induction p with
    | zero => exact le_refl _
    | succ p ih => exact (phase_energy o nc f u x y hnr hnt heven hbc he hu hxD hs p).trans ih
  have m0 : mix nc 0 x y = x := by
    funext i j; exact mix_of_lt (by have := one_le_phase nc i j; omega) x y
  have := hE 4
  rwa [mix_four, m0] at this

end sweep
end Smoother
