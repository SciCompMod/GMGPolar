import GMGModel.Solve
/-!
# Generic facts about `exec`: append, frame (via the syntactic `writes`), repeated instructions
-/
namespace MGCycle
variable {V : Type}

@[simp] theorem upd_same (m : Mem V) (r : Ref) (v : V) : upd m r v r = v := by simp [upd]

theorem ref_ne_of_buf {l l' : Nat} {b b' : Buf} (h : b ≠ b') : ((l, b) : Ref) ≠ (l', b') := by
  intro e; exact h (congrArg Prod.snd e)

@[simp] theorem exec_nil (o : Ops V) (m : Mem V) : exec o [] m = m := rfl

@[simp] theorem exec_cons (o : Ops V) (i : Instr) (p : List Instr) (m : Mem V) :
    exec o (i :: p) m = exec o p (stepI o m i) := rfl

theorem exec_append (o : Ops V) (p q : List Instr) (m : Mem V) :
    exec o (p ++ q) m = exec o q (exec o p m) := by
  simp [exec, List.foldl_append]

theorem exec_replicate_succ (o : Ops V) (i : Instr) (n : Nat) (m : Mem V) :
    exec o (List.replicate (n + 1) i) m = exec o (List.replicate n i) (stepI o m i) := by
  simp [List.replicate_succ]

theorem exec_flatten_replicate_succ (o : Ops V) (p : List Instr) (n : Nat) (m : Mem V) :
    exec o (List.replicate (n + 1) p).flatten m = exec o (List.replicate n p).flatten (exec o p m) := by
  simp [List.replicate_succ, exec_append]

def iter (f : V → V) : Nat → V → V
  | 0, v => v
  | n + 1, v => iter f n (f v)

@[simp] theorem iter_zero (f : V → V) (v : V) : iter f 0 v = v := rfl
theorem iter_succ (f : V → V) (n : Nat) (v : V) : iter f (n + 1) v = iter f n (f v) := rfl

theorem iter_fixed (f : V → V) (v : V) (h : f v = v) : ∀ n, iter f n v = v
  | 0 => rfl
  | n + 1 => by rw [iter_succ, h]; exact iter_fixed f v h n

/-! ## what an instruction writes / reads -/

def writes : Instr → List Ref
  | .smooth _ x _ tmp => [x, tmp]
  | .exSmooth _ x _ tmp => [x, tmp]
  | .residual _ out _ _ => [out]
  | .restrict _ out _ => [out]
  | .exRestrict _ out _ => [out]
  | .inject _ out _ => [out]
  | .prolong _ out _ => [out]
  | .exProlong _ out _ => [out]
  | .fmgInterp _ out _ => [out]
  | .directSolve _ x => [x]
  | .zero x => [x]
  | .add x _ => [x]
  | .lin43 x _ => [x]
  | .copy x _ => [x]
  | .exResidual _ r _ => [r]

def reads : Instr → List Ref
  | .smooth _ x rhs tmp => [x, rhs, tmp]
  | .exSmooth _ x rhs tmp => [x, rhs, tmp]
  | .residual _ _ rhs x => [rhs, x]
  | .restrict _ _ inp => [inp]
  | .exRestrict _ _ inp => [inp]
  | .inject _ _ inp => [inp]
  | .prolong _ _ inp => [inp]
  | .exProlong _ _ inp => [inp]
  | .fmgInterp _ _ inp => [inp]
  | .directSolve _ x => [x]
  | .zero _ => []
  | .add x y => [x, y]
  | .lin43 x y => [x, y]
  | .copy _ y => [y]
  | .exResidual _ r nxt => [r, nxt]

theorem stepI_unwritten (o : Ops V) (m : Mem V) (i : Instr) (r : Ref) (h : r ∉ writes i) :
    stepI o m i r = m r := by
  cases i <;> simp_all [writes, stepI, upd]

theorem stepI_congr (o : Ops V) (m m' : Mem V) (i : Instr) (h : ∀ r ∈ reads i, m r = m' r) :
    ∀ r ∈ writes i, stepI o m i r = stepI o m' i r := by
  cases i <;> simp_all [writes, reads, stepI, upd]

def WritesIn (p : List Instr) (P : Ref → Prop) : Prop := ∀ i ∈ p, ∀ w ∈ writes i, P w

section
variable {P Q : Ref → Prop} {p q : List Instr} {i : Instr}

@[simp] theorem writesIn_nil : WritesIn [] P ↔ True := by simp [WritesIn]

@[simp] theorem writesIn_cons : WritesIn (i :: p) P ↔ (∀ w ∈ writes i, P w) ∧ WritesIn p P := by simp [WritesIn]

@[simp] theorem writesIn_append : WritesIn (p ++ q) P ↔ WritesIn p P ∧ WritesIn q P := by
  simp [WritesIn, or_imp, forall_and]

theorem WritesIn.cons {i : Instr} {p : List Instr} {P : Ref → Prop} (hi : ∀ w ∈ writes i, P w)
    (hp : WritesIn p P) : WritesIn (i :: p) P := writesIn_cons.2 ⟨hi, hp⟩

theorem WritesIn.mono (hp : WritesIn p P) (h : ∀ w, P w → Q w) : WritesIn p Q := fun i hi w hw => h w (hp i hi w hw)

theorem WritesIn.replicate (n : Nat) (hi : ∀ w ∈ writes i, P w) : WritesIn (List.replicate n i) P := by
  intro j hj; rw [(List.mem_replicate.1 hj).2]; exact hi

theorem WritesIn.flatten_replicate (n : Nat) (hp : WritesIn p P) : WritesIn (List.replicate n p).flatten P := by
  intro j hj
  obtain ⟨l, hl, hjl⟩ := List.mem_flatten.1 hj
  rw [(List.mem_replicate.1 hl).2] at hjl
  exact hp j hjl

end

theorem exec_frame (o : Ops V) {P : Ref → Prop} : ∀ (p : List Instr) (m : Mem V) (r : Ref),
    WritesIn p P → ¬ P r → exec o p m r = m r
  | [], _, _, _, _ => rfl
  | i :: p, m, r, hp, hr => by
      rw [exec_cons, exec_frame o p _ r (writesIn_cons.1 hp).2 hr]
      exact stepI_unwritten o m i r (fun hw => hr ((writesIn_cons.1 hp).1 r hw))

theorem exec_replicate_frame (o : Ops V) (i : Instr) (n : Nat) (m : Mem V) {r : Ref} (h : r ∉ writes i) :
    exec o (List.replicate n i) m r = m r :=
  exec_frame o _ m r (WritesIn.replicate n fun _ hw => hw) h

/-! ## a repeated instruction that updates `x` from `x` and an unwritten `rhs` -/

theorem exec_replicate_val (o : Ops V) (i : Instr) (x rhs : Ref) (F : V → V → V)
    (h1 : ∀ m : Mem V, stepI o m i x = F (m x) (m rhs)) (h2 : rhs ∉ writes i) :
    ∀ (n : Nat) (m : Mem V), exec o (List.replicate n i) m x = iter (fun v => F v (m rhs)) n (m x)
  | 0, m => rfl
  | n + 1, m => by
      rw [exec_replicate_succ, exec_replicate_val o i x rhs F h1 h2 n, h1, stepI_unwritten o m i rhs h2]; rfl

theorem exec_smooths (o : Ops V) (l : Nat) (x rhs tmp : Ref) (hxr : x ≠ rhs) (hrt : rhs ≠ tmp) (n : Nat) (m : Mem V) :
    exec o (List.replicate n (.smooth l x rhs tmp)) m x = iter (fun v => o.smooth l v (m rhs)) n (m x) :=
  exec_replicate_val o _ x rhs (fun a b => o.smooth l a b) (fun m => by simp [stepI])
    (by simp [writes, hxr.symm, hrt]) n m

theorem exec_exSmooths (o : Ops V) (l : Nat) (x rhs tmp : Ref) (hxr : x ≠ rhs) (hrt : rhs ≠ tmp) (n : Nat) (m : Mem V) :
    exec o (List.replicate n (.exSmooth l x rhs tmp)) m x = iter (fun v => o.exSmooth l v (m rhs)) n (m x) :=
  exec_replicate_val o _ x rhs (fun a b => o.exSmooth l a b) (fun m => by simp [stepI])
    (by simp [writes, hxr.symm, hrt]) n m

/-! ## a repeated program that updates `x` from `x` under an invariant -/

theorem exec_flatten_replicate_val (o : Ops V) (p : List Instr) (x : Ref) (F : V → V) (Inv : Mem V → Prop)
    (hI : ∀ m, Inv m → Inv (exec o p m)) (hv : ∀ m, Inv m → exec o p m x = F (m x)) :
    ∀ (n : Nat) (m : Mem V), Inv m →
      exec o (List.replicate n p).flatten m x = iter F n (m x) ∧ Inv (exec o (List.replicate n p).flatten m)
  | 0, m, h => ⟨rfl, h⟩
  | n + 1, m, h => by
      rw [exec_flatten_replicate_succ, iter_succ, ← hv m h]
      exact exec_flatten_replicate_val o p x F Inv hI hv n _ (hI m h)

end MGCycle
