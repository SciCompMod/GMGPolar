import GMGProofs.Lemmas.DirectCode2
/-!
# Code-level direct solver — the dense meaning of a stored row, and the operator's entries

A row of stores to pairwise distinct grid nodes reads, at column `(s, t)`, the sum of `value · oneHot s t node`.  The nodes a
grid node stores to are pairwise distinct grid columns (`4 ≤ nt`, `nt` even: the antipode `ja j` of the across-origin row
differs from `j`, `jm j`, `jp j`), hence the dense row of node `(i, j)` is the operator's row.
-/
namespace DirectCode
open Stencil SparseLU Direct
variable {K : Type} [_root_.Field K]

def nodes (ws : List (Pos × (Nat × Nat) × K)) : List (Nat × Nat) := ws.map (·.2.1)

omit [_root_.Field K] in
theorem uniq_nodeRow (o : Op K) (ws : List (Pos × (Nat × Nat) × K))
    (hlt : ∀ w ∈ ws, w.2.1.2 < o.nt) (hnd : (nodes ws).Nodup) : Uniq (nodeRow o ws) := by
  unfold Uniq keys nodeRow
  rw [List.map_map]
  have : ((fun x : Nat × K => x.1) ∘ fun w : Pos × (Nat × Nat) × K => (w.2.1.1 * o.nt + w.2.1.2, w.2.2))
      = (fun c : Nat × Nat => c.1 * o.nt + c.2) ∘ (·.2.1) := rfl
  rw [this, ← List.map_map]
  apply List.Nodup.map_on _ hnd
  intro c hc c' hc' h
  obtain ⟨w, hw, rfl⟩ := List.mem_map.mp hc
  obtain ⟨w', hw', rfl⟩ := List.mem_map.mp hc'
  have := idx_inj (hlt w hw) (hlt w' hw') h
  exact Prod.ext this.1 this.2

theorem den_nodeRow (o : Op K) (s t : Nat) (ht : t < o.nt) (ws : List (Pos × (Nat × Nat) × K))
    (hlt : ∀ w ∈ ws, w.2.1.2 < o.nt) (hnd : (nodes ws).Nodup) :
    den (nodeRow o ws) (s * o.nt + t) = (ws.map fun w => w.2.2 * oneHot s t w.2.1.1 w.2.1.2).sum := by
  -- the dot product of the row with the indicator of column `(s, t)`
  have h := rowSum_eq (nodeRow o ws) (uniq_nodeRow o ws hlt hnd)
    (fun m => if m = s * o.nt + t then 1 else 0) (s * o.nt + t + 1) (fun m hm => if_neg (by omega))
  simp only [mul_ite, mul_one, mul_zero, Finset.sum_ite_eq', Finset.mem_range, Nat.lt_succ_self,
    if_true] at h
  rw [← h, nodeRow, List.map_map]
  congr 1
  refine List.map_congr_left fun w hw => ?_
  simp only [Function.comp, oneHot]
  by_cases hc : w.2.1.1 = s ∧ w.2.1.2 = t
  · rw [if_pos hc, if_pos (by rw [hc.1, hc.2]), mul_one]
  · rw [if_neg hc, if_neg fun h' => hc (idx_inj (hlt w hw) ht h'), mul_zero]

section
variable (o : Op K)

omit [_root_.Field K] in
theorem jmp_distinct (hnt : 3 ≤ o.nt) {j : Nat} (hj : j < o.nt) :
    jm o j < o.nt ∧ jp o j < o.nt ∧ jm o j ≠ j ∧ jp o j ≠ j ∧ jm o j ≠ jp o j := by
  rw [jm_eq o hj, jp_eq o hj]
  split <;> split <;> omega

omit [_root_.Field K] in
theorem ja_distinct (hnt : 4 ≤ o.nt) (heven : o.nt % 2 = 0) {j : Nat} (hj : j < o.nt) :
    ja o j < o.nt ∧ ja o j ≠ j ∧ ja o j ≠ jm o j ∧ ja o j ≠ jp o j := by
  rw [jm_eq o hj, jp_eq o hj, ja_eq o heven hj]
  split <;> split <;> split <;> omega

theorem writes_nodes (hnt : 4 ≤ o.nt) (heven : o.nt % 2 = 0) {i j : Nat} (hi : i < o.nr)
    (hj : j < o.nt) : (∀ w ∈ writes o i j, w.2.1.2 < o.nt) ∧ (nodes (writes o i j)).Nodup := by
  obtain ⟨hm, hp, h1, h2, h3⟩ := jmp_distinct o (by omega) hj
  obtain ⟨ha, h4, h5, h6⟩ := ja_distinct o hnt heven hj
  have single : ∀ v : K, (∀ w ∈ [((Pos.Center, (i, j), v) : Pos × (Nat × Nat) × K)], w.2.1.2 < o.nt) ∧
      (nodes [((Pos.Center, (i, j), v) : Pos × (Nat × Nat) × K)]).Nodup := fun v =>
    ⟨by intro w hw; simp only [List.mem_singleton] at hw; subst hw; exact hj, by simp [nodes]⟩
  refine node_cases o hi ?_ ?_ ?_ ?_
  · intro hint
    rw [writes_int o j hint]
    refine ⟨by simp [hj, hm, hp], ?_⟩
    · simp only [nodes, List.map_cons, List.map_nil, List.nodup_cons, List.mem_cons, List.not_mem_nil,
        Prod.mk.injEq, or_false, not_or, List.nodup_nil, and_true, true_and, not_false_eq_true]
      omega
  · rintro rfl hb
    rw [writes_inner_db o j hb]; exact single _
  · rintro rfl hb
    rw [writes_origin o j hb]
    refine ⟨by simp [hj, hm, hp, ha], ?_⟩
    · simp only [nodes, List.map_cons, List.map_nil, List.nodup_cons, List.mem_cons, List.not_mem_nil,
        Prod.mk.injEq, or_false, not_or, List.nodup_nil, and_true, true_and, not_false_eq_true]
      omega
  · intro h0 hl
    rw [writes_outer o j h0 hl]; exact single _

theorem row_entries (hnt : 4 ≤ o.nt) (heven : o.nt % 2 = 0) {i j s t : Nat} (hi : i < o.nr)
    (hj : j < o.nt) (ht : t < o.nt) :
    den (nodeRow o (writes o i j)) (s * o.nt + t) = opEntry o i j s t := by
  obtain ⟨hlt, hnd⟩ := writes_nodes o hnt heven hi hj
  rw [den_nodeRow o s t ht _ hlt hnd]
  unfold opEntry A
  refine node_cases o hi ?_ ?_ ?_ ?_
  · intro hint
    rw [writes_int o j hint, take_interior o _ _ j hint.1 hint.2]
    simp only [List.map_cons, List.map_nil, List.sum_cons, List.sum_nil, takeInterior, centerValueD,
      SmootherCode.leftValue, SmootherCode.rightValue, SmootherCode.bottomValue, SmootherCode.topValue,
      SmootherCode.coeff1, SmootherCode.coeff2, SmootherCode.coeff3, SmootherCode.coeff4, SmootherCode.h1,
      if_neg (Nat.pos_iff_ne_zero.mp hint.1)]
    ring
  · rintro rfl hb
    rw [writes_inner_db o j hb, take_zero_dirichlet o _ _ hb]
    simp only [List.map_cons, List.map_nil, List.sum_cons, List.sum_nil, Scalar.n_one]
    ring
  · rintro rfl hb
    rw [writes_origin o j hb, take_origin o _ _ hb]
    simp only [List.map_cons, List.map_nil, List.sum_cons, List.sum_nil, takeOrigin, centerValueD,
      SmootherCode.leftValue, SmootherCode.rightValue, SmootherCode.bottomValue, SmootherCode.topValue,
      SmootherCode.coeff1, SmootherCode.coeff2, SmootherCode.coeff3, SmootherCode.coeff4, SmootherCode.h1,
      if_pos]
    ring
  · intro h0 hl
    rw [writes_outer o j h0 hl, take_outer o _ _ j h0 hl.ge]
    simp only [List.map_cons, List.map_nil, List.sum_cons, List.sum_nil, Scalar.n_one]
    ring

end
end DirectCode
