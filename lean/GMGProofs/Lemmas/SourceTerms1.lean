import GMGProofs.Lemmas.SymGeom
import Generated.InputFns
import Mathlib.Tactic.LinearCombination
/-!
# The PDE operator `Sym.Lu` on the circular geometry, in closed form (C19 source terms)

For the circular mapping `x = (r/R) cos θ`, `y = (r/R) sin θ` and ANY `u, α, β`:
`Lu = -R² [ α u_rr + α_r u_r + α u_r / r + (α u_θθ + α_θ u_θ) / r² ] + β u`  (`r ≠ 0`, `R ≠ 0`),
all derivatives being the symbolic ones (`Sym.Expr.D`).  When `u` and `α` depend on `r` and `R` through `ρ = r / R` only (`Scales`),
`Lu` is the same expression taken at `R = 1`, `r = ρ` (`Lu_circ_scale`).
-/
namespace Sym
open Expr InputFns

variable {env : Nat → ℝ} {r th : ℝ}

/-! `ev` of the symbolic derivative of a smart-constructor application, for second derivatives:
`D x (D x (mul a b))` is `D x (mkAdd …)`. -/
section evDmk
variable (x : Var) (a b : Expr)

theorem D_of_isZero {a : Expr} (h : a.isZero = true) : D x a = zero := by
  unfold Expr.isZero at h
  split at h
  · rfl
  · cases h

theorem ev_D_of_isZero {a : Expr} (h : a.isZero = true) : ev env r th (D x a) = 0 := by
  rw [D_of_isZero x h]; simp

theorem ev_D_of_isOne {a : Expr} (h : a.isOne = true) : ev env r th (D x a) = 0 := by
  unfold Expr.isOne at h
  split at h
  · simp
  · cases h

@[sym_ev] theorem ev_D_mkAdd : ev env r th (D x (mkAdd a b)) = ev env r th (D x a) + ev env r th (D x b) := by
  unfold mkAdd; split_ifs <;> simp [ev_D_of_isZero, *]

@[sym_ev] theorem ev_D_mkSub : ev env r th (D x (mkSub a b)) = ev env r th (D x a) - ev env r th (D x b) := by
  unfold mkSub; split_ifs <;> simp [ev_D_of_isZero, *]

@[sym_ev] theorem ev_D_mkMul : ev env r th (D x (mkMul a b)) =
    ev env r th (D x a) * ev env r th b + ev env r th a * ev env r th (D x b) := by
  unfold mkMul; split_ifs with h
  · rcases Bool.or_eq_true _ _ |>.mp h with h | h <;> simp [ev_of_isZero h, ev_D_of_isZero x h, Expr.zero]
  all_goals simp [ev_of_isOne, ev_D_of_isOne, *]

@[sym_ev] theorem ev_D_mkDiv : ev env r th (D x (mkDiv a b)) =
    (ev env r th (D x a) * ev env r th b - ev env r th a * ev env r th (D x b))
      / (ev env r th b * ev env r th b) := by
  unfold mkDiv; split_ifs <;> simp [ev_of_isZero, ev_D_of_isZero, Expr.zero, *]

@[sym_ev] theorem ev_D_mkNeg : ev env r th (D x (mkNeg a)) = -ev env r th (D x a) := by
  unfold mkNeg; split_ifs <;> simp [ev_D_of_isZero, Expr.zero, *]

@[sym_ev] theorem ev_D_zero : ev env r th (D x zero) = 0 := by simp [Expr.zero]
@[sym_ev] theorem ev_D_one : ev env r th (D x one) = 0 := by simp [Expr.one]
@[sym_ev] theorem ev_D_two : ev env r th (D x two) = 0 := by simp [Expr.two]

end evDmk

/-- unfold the inner symbolic derivatives to smart-constructor trees, then evaluate -/
macro "sym_eval" : tactic =>
  `(tactic| (simp only [D, reduceCtorEq, ↓reduceIte]; simp only [sym_ev, sym_clean, div_self_mul_self', Int.cast_natCast, Nat.cast_add, Nat.cast_one]))

section circ
variable (u a b : Expr)

/-- determinant and metric numerators of the circular mapping, as terms (exactly the sub-terms of `Sym.flux`) -/
def cDet : Expr := sub (mul (D .r Gen.CircularGeometry_Fx) (D .th Gen.CircularGeometry_Fy))
  (mul (D .th Gen.CircularGeometry_Fx) (D .r Gen.CircularGeometry_Fy))
def cA : Expr := add (mul (D .th Gen.CircularGeometry_Fx) (D .th Gen.CircularGeometry_Fx))
  (mul (D .th Gen.CircularGeometry_Fy) (D .th Gen.CircularGeometry_Fy))
def cB : Expr := neg (add (mul (D .r Gen.CircularGeometry_Fx) (D .th Gen.CircularGeometry_Fx))
  (mul (D .r Gen.CircularGeometry_Fy) (D .th Gen.CircularGeometry_Fy)))
def cC : Expr := add (mul (D .r Gen.CircularGeometry_Fx) (D .r Gen.CircularGeometry_Fx))
  (mul (D .r Gen.CircularGeometry_Fy) (D .r Gen.CircularGeometry_Fy))

theorem ev_cDet : ev env r th cDet = r / env 0 ^ 2 := by
  simp only [cDet, Gen.CircularGeometry_Fx, Gen.CircularGeometry_Fy, sym_ev, sym_clean]
  linear_combination r / env 0 ^ 2 * Real.cos_sq_add_sin_sq th
theorem ev_cDet_r (hR : env 0 ≠ 0) : ev env r th (D .r cDet) = 1 / env 0 ^ 2 := by
  simp only [cDet, Gen.CircularGeometry_Fx, Gen.CircularGeometry_Fy]; sym_eval; field_simp; linear_combination Real.cos_sq_add_sin_sq th
theorem ev_cDet_t (hR : env 0 ≠ 0) : ev env r th (D .th cDet) = 0 := by
  simp only [cDet, Gen.CircularGeometry_Fx, Gen.CircularGeometry_Fy]; sym_eval; field_simp; ring
theorem ev_cA (hR : env 0 ≠ 0) : ev env r th cA = r ^ 2 / env 0 ^ 2 := by
  simp only [cA, Gen.CircularGeometry_Fx, Gen.CircularGeometry_Fy]; sym_eval; field_simp; linear_combination r ^ 2 * Real.sin_sq_add_cos_sq th
theorem ev_cA_r (hR : env 0 ≠ 0) : ev env r th (D .r cA) = 2 * r / env 0 ^ 2 := by
  simp only [cA, Gen.CircularGeometry_Fx, Gen.CircularGeometry_Fy]; sym_eval; field_simp; linear_combination 2 * r * Real.sin_sq_add_cos_sq th
theorem ev_cB (hR : env 0 ≠ 0) : ev env r th cB = 0 := by
  simp only [cB, Gen.CircularGeometry_Fx, Gen.CircularGeometry_Fy]; sym_eval; field_simp; ring
theorem ev_cB_r (hR : env 0 ≠ 0) : ev env r th (D .r cB) = 0 := by
  simp only [cB, Gen.CircularGeometry_Fx, Gen.CircularGeometry_Fy]; sym_eval; field_simp; ring
theorem ev_cB_t (hR : env 0 ≠ 0) : ev env r th (D .th cB) = 0 := by
  simp only [cB, Gen.CircularGeometry_Fx, Gen.CircularGeometry_Fy]; sym_eval; field_simp; ring
theorem ev_cC (hR : env 0 ≠ 0) : ev env r th cC = 1 / env 0 ^ 2 := by
  simp only [cC, Gen.CircularGeometry_Fx, Gen.CircularGeometry_Fy]; sym_eval; field_simp; linear_combination Real.cos_sq_add_sin_sq th
theorem ev_cC_t (hR : env 0 ≠ 0) : ev env r th (D .th cC) = 0 := by
  simp only [cC, Gen.CircularGeometry_Fx, Gen.CircularGeometry_Fy]; sym_eval; field_simp; ring

theorem Lu_circ_formula (hR : env 0 ≠ 0) (hr : r ≠ 0) :
    ev env r th (Lu ⟨u, a, b, Gen.CircularGeometry_Fx, Gen.CircularGeometry_Fy⟩) =
      -(env 0 ^ 2 * (ev env r th a * ev env r th (D .r (D .r u)) + ev env r th (D .r a) * ev env r th (D .r u)
          + ev env r th a * ev env r th (D .r u) / r
          + (ev env r th a * ev env r th (D .th (D .th u)) + ev env r th (D .th a) * ev env r th (D .th u)) / r ^ 2))
        + ev env r th b * ev env r th u := by
  have h1 : (flux ⟨u, a, b, Gen.CircularGeometry_Fx, Gen.CircularGeometry_Fy⟩).1 =
      mul (mul a cDet) (add (mul (div cA (mul cDet cDet)) (D .r u)) (mul (div cB (mul cDet cDet)) (D .th u))) := rfl
  have h2 : (flux ⟨u, a, b, Gen.CircularGeometry_Fx, Gen.CircularGeometry_Fy⟩).2 =
      mul (mul a cDet) (add (mul (div cB (mul cDet cDet)) (D .r u)) (mul (div cC (mul cDet cDet)) (D .th u))) := rfl
  rw [ev_Lu, show detJ ⟨u, a, b, Gen.CircularGeometry_Fx, Gen.CircularGeometry_Fy⟩ = cDet from rfl, h1, h2]
  simp only [sym_ev, ev_cDet, ev_cDet_r hR, ev_cDet_t hR, ev_cA hR, ev_cA_r hR, ev_cB hR, ev_cB_r hR, ev_cB_t hR,
    ev_cC hR, ev_cC_t hR, sym_clean]
  field_simp
  ring

end circ

/-- `e` depends on `r` and `Rmax = env 0` through `ρ` only: its value and derivatives at `(env, r)` are those at `Rmax = 1`,
`r = ρ`, up to one factor `1 / Rmax` per `∂/∂r` -/
structure Scales (env : Nat → ℝ) (r th : ℝ) (e : Expr) : Prop where
  val : ev env r th e = ev (fun _ => 1) (r / env 0) th e
  dr : env 0 * ev env r th (D .r e) = ev (fun _ => 1) (r / env 0) th (D .r e)
  drr : env 0 ^ 2 * ev env r th (D .r (D .r e)) = ev (fun _ => 1) (r / env 0) th (D .r (D .r e))
  dt : ev env r th (D .th e) = ev (fun _ => 1) (r / env 0) th (D .th e)
  dtt : ev env r th (D .th (D .th e)) = ev (fun _ => 1) (r / env 0) th (D .th (D .th e))

theorem scales_num (n : Int) (d : Nat) : Scales env r th (.num n d) := by
  refine ⟨?_, ?_, ?_, ?_, ?_⟩ <;> simp only [D, Expr.zero, sym_ev, sym_clean]

/-- for `u`, `α` that scale, `Lu` on the circular geometry is a function of `ρ` and free of `Rmax`, up to the term `β u`:
with all derivatives taken at `Rmax = 1`, `Lu = -(ρ² (α u_ρρ + α_ρ u_ρ) + ρ α u_ρ + α u_θθ + α_θ u_θ) / ρ² + β u` -/
theorem Lu_circ_scale {u a : Expr} (b : Expr) (hR : env 0 ≠ 0) (hr : r ≠ 0) (hu : Scales env r th u)
    (ha : Scales env r th a) :
    ev env r th (Lu ⟨u, a, b, Gen.CircularGeometry_Fx, Gen.CircularGeometry_Fy⟩) =
      -(((r / env 0) ^ 2 * (ev (fun _ => 1) (r / env 0) th a * ev (fun _ => 1) (r / env 0) th (D .r (D .r u))
            + ev (fun _ => 1) (r / env 0) th (D .r a) * ev (fun _ => 1) (r / env 0) th (D .r u))
          + r / env 0 * (ev (fun _ => 1) (r / env 0) th a * ev (fun _ => 1) (r / env 0) th (D .r u))
          + (ev (fun _ => 1) (r / env 0) th a * ev (fun _ => 1) (r / env 0) th (D .th (D .th u))
            + ev (fun _ => 1) (r / env 0) th (D .th a) * ev (fun _ => 1) (r / env 0) th (D .th u))) / (r / env 0) ^ 2)
        + ev env r th b * ev env r th u := by
  rw [Lu_circ_formula _ _ _ hR hr, ← hu.dr, ← hu.drr, ← hu.dt, ← hu.dtt, ← ha.val, ← ha.dr, ← ha.dt]
  field_simp

/-! The generated source terms come in three shapes, `-N / ρ`, `G - N / ρ` and a polynomial in `ρ`; each is compared with
`-(M / ρ²) + E` by a polynomial identity. -/
theorem eq_of_neg_div {ρ N M E : ℝ} (hρ : ρ ≠ 0) (h : ρ * N = M - ρ ^ 2 * E) : -N / ρ = -(M / ρ ^ 2) + E := by
  have : M = ρ * N + ρ ^ 2 * E := by rw [h]; ring
  subst this; field_simp; ring

theorem eq_of_sub_div {ρ N M G E : ℝ} (hρ : ρ ≠ 0) (h : ρ * N = M + ρ ^ 2 * (G - E)) :
    G - N / ρ = -(M / ρ ^ 2) + E := by
  have : M = ρ * N - ρ ^ 2 * (G - E) := by rw [h]; ring
  subst this; field_simp; ring

theorem eq_of_mul_sq {ρ F M E : ℝ} (hρ : ρ ≠ 0) (h : ρ ^ 2 * F = ρ ^ 2 * E - M) : F = -(M / ρ ^ 2) + E := by
  have : M = ρ ^ 2 * E - ρ ^ 2 * F := by rw [h]; ring
  subst this; field_simp; ring

end Sym
