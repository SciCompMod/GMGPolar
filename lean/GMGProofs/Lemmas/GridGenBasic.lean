import GMGModel.GridGen
import Mathlib.Tactic.Ring
import Mathlib.Tactic.Linarith
import Mathlib.Tactic.Positivity
import Mathlib.Tactic.FieldSimp
import Mathlib.Tactic.NormNum
import Mathlib.Algebra.Order.Field.Rat
/-!
# Grid generation: outcomes, list-level lemmas, uniform division, midpoint refinement

Lists are read through `List.getD · 0`, the accessor the model itself uses.
-/
namespace GridGen

/-- the outcome is a value or an exception: no undefined behaviour was reached -/
def Out.NoUB {α : Type} (o : Out α) : Prop := ∀ w, o ≠ .ub w

namespace Out.NoUB
variable {α β : Type}

theorem ok (v : α) : (Out.ok v).NoUB := fun _ h => nomatch h
theorem throw (m : String) : (Out.throw m : Out α).NoUB := fun _ h => nomatch h

theorem bind {o : Out α} {f : α → Out β} (ho : o.NoUB) (hf : ∀ v, o = .ok v → (f v).NoUB) : (o >>= f).NoUB := by
  cases o with
  | ok v => exact hf v rfl
  | throw m => exact throw m
  | ub w => exact absurd rfl (ho w)

theorem cases {o : Out α} (h : o.NoUB) : (∃ v, o = .ok v) ∨ ∃ m, o = .throw m := by
  cases o with
  | ok v => exact Or.inl ⟨v, rfl⟩
  | throw m => exact Or.inr ⟨m, rfl⟩
  | ub w => exact absurd rfl (h w)

theorem guard {c : Prop} [Decidable c] (m : String) {o : Out α} (h : o.NoUB) : (if c then .throw m else o).NoUB := by
  split
  · exact throw m
  · exact h

end Out.NoUB
end GridGen

/-! `GridGenL` holds the lemmas about the model namespace `GridGen`. -/
namespace GridGenL
open GridGen

theorem ok_bind {α β} (v : α) (f : α → Out β) : (Out.ok v >>= f) = f v := rfl

theorem bind_eq_ok_iff {α β} {o : Out α} {f : α → Out β} {v : β} :
    (o >>= f) = .ok v ↔ ∃ t, o = .ok t ∧ f t = .ok v := by
  cases o with
  | ok t => exact ⟨fun h => ⟨t, rfl, h⟩, fun ⟨_, ht, h⟩ => by cases ht; exact h⟩
  | throw m => exact ⟨fun h => (nomatch (h : Out.throw m = .ok v)), fun ⟨_, ht, _⟩ => nomatch ht⟩
  | ub w => exact ⟨fun h => (nomatch (h : Out.ub w = .ok v)), fun ⟨_, ht, _⟩ => nomatch ht⟩

theorem guard_eq_ok_iff {α} {c : Prop} [Decidable c] {m : String} {o : Out α} {v : α} :
    (if c then .throw m else o) = .ok v ↔ ¬ c ∧ o = .ok v := by
  split
  · exact ⟨fun h => (nomatch h), fun h => absurd ‹c› h.1⟩
  · exact ⟨fun h => ⟨‹¬ c›, h⟩, fun h => h.2⟩

def StrictInc (l : List Rat) : Prop := List.Pairwise (· < ·) l

/-- every odd entry is the arithmetic mean of its two neighbours -/
def Midpoints (l : List Rat) : Prop :=
  ∀ i, i % 2 = 1 → i + 1 < l.length → l.getD i 0 = (l.getD (i - 1) 0 + l.getD (i + 1) 0) / 2

/-- arithmetic progression `s, s + h, …` of `n` entries -/
def ap (s h : Rat) (n : Nat) : List Rat := (List.range n).map fun (i : Nat) => s + ((i : Int) : Rat) * h

theorem getD_eq_getElem (l : List Rat) (i : Nat) (h : i < l.length) : l.getD i 0 = l[i] := by
  rw [List.getD_eq_getElem?_getD, List.getElem?_eq_getElem h, Option.getD_some]

theorem getD_map_range (f : Nat → Rat) (n i : Nat) (h : i < n) : ((List.range n).map f).getD i 0 = f i := by
  rw [getD_eq_getElem _ _ (by simpa using h), List.getElem_map, List.getElem_range]

theorem ext_getD (l₁ l₂ : List Rat) (hl : l₁.length = l₂.length)
    (h : ∀ i, i < l₁.length → l₁.getD i 0 = l₂.getD i 0) : l₁ = l₂ :=
  List.ext_getElem hl fun i h1 h2 => by rw [← getD_eq_getElem _ _ h1, ← getD_eq_getElem _ _ h2, h i h1]

theorem eq_map_range (l : List Rat) : l = (List.range l.length).map fun i => l.getD i 0 := by
  apply ext_getD
  · simp
  · intro i hi
    rw [getD_map_range _ _ _ hi]

theorem strictInc_of_step (l : List Rat)
    (h : ∀ k, k + 1 < l.length → l.getD k 0 < l.getD (k + 1) 0) : StrictInc l :=
  List.isChain_iff_pairwise.mp <| List.isChain_iff_getElem.mpr fun k hk => by
    rw [← getD_eq_getElem, ← getD_eq_getElem]; exact h k hk

theorem StrictInc.lt {l : List Rat} (h : StrictInc l) {i j : Nat} (hij : i < j) (hj : j < l.length) :
    l.getD i 0 < l.getD j 0 := by
  rw [getD_eq_getElem _ _ (by omega), getD_eq_getElem _ _ hj]
  exact List.pairwise_iff_getElem.mp h i j (by omega) hj hij

theorem StrictInc.pos {a : Rat} : ∀ {l : List Rat}, StrictInc l → l.head? = some a → 0 < a → ∀ r ∈ l, 0 < r
  | b :: t, h, ha, h0, r, hr => by
    cases ha
    rcases List.mem_cons.mp hr with rfl | hr
    · exact h0
    · exact lt_trans h0 ((List.pairwise_cons.mp h).1 r hr)

theorem head?_eq_getD (l : List Rat) (h : 0 < l.length) : l.head? = some (l.getD 0 0) := by
  rw [List.head?_eq_getElem?, getD_eq_getElem l 0 h, List.getElem?_eq_getElem h]

theorem getLast?_eq_getD (l : List Rat) (h : 0 < l.length) : l.getLast? = some (l.getD (l.length - 1) 0) := by
  rw [List.getLast?_eq_getElem?, getD_eq_getElem l _ (by omega), List.getElem?_eq_getElem (by omega)]

theorem getLastD_eq_getD (l : List Rat) (h : 0 < l.length) : l.getLastD 0 = l.getD (l.length - 1) 0 := by
  rw [List.getLastD_eq_getLast?, getLast?_eq_getD l h, Option.getD_some]

theorem ends_eq {l l' : List Rat} (h : 0 < l.length) (h' : 0 < l'.length) (h0 : l.getD 0 0 = l'.getD 0 0)
    (h1 : l.getD (l.length - 1) 0 = l'.getD (l'.length - 1) 0) :
    l.head? = l'.head? ∧ l.getLast? = l'.getLast? := by
  rw [head?_eq_getD l h, head?_eq_getD l' h', getLast?_eq_getD l h, getLast?_eq_getD l' h', h0, h1]
  exact ⟨rfl, rfl⟩

/-! ## arithmetic progressions -/

@[simp] theorem ap_length (s h : Rat) (n : Nat) : (ap s h n).length = n := by simp [ap]

theorem ap_getD (s h : Rat) (n i : Nat) (hi : i < n) : (ap s h n).getD i 0 = s + (i : Rat) * h := by
  unfold ap; rw [getD_map_range _ _ _ hi]; simp

theorem ap_strictInc (s h : Rat) (n : Nat) (hh : 0 < h) : StrictInc (ap s h n) := by
  apply strictInc_of_step
  intro k hk
  simp only [ap_length] at hk
  rw [ap_getD _ _ _ _ (by omega), ap_getD _ _ _ _ hk]
  push_cast
  linarith

theorem ap_succ (s h : Rat) (n : Nat) : ap s h (n + 1) = ap s h n ++ [s + (n : Rat) * h] := by
  unfold ap; rw [List.range_succ, List.map_append]; simp

/-- `n` equal steps followed by the end point written out, as the model builds `r_temp` -/
theorem ap_snoc (s h e : Rat) (n : Nat) (he : s + (n : Rat) * h = e) :
    (List.range n).map (fun (i : Nat) => s + ((i : Int) : Rat) * h) ++ [e] = ap s h (n + 1) := by
  rw [ap_succ, he]; rfl

theorem ap_ends (s h : Rat) (n : Nat) :
    (ap s h (n + 1)).head? = some s ∧ (ap s h (n + 1)).getLast? = some (s + (n : Rat) * h) := by
  rw [head?_eq_getD _ (by simp), getLast?_eq_getD _ (by simp), ap_length, Nat.add_sub_cancel,
    ap_getD _ _ _ _ (Nat.succ_pos _), ap_getD _ _ _ _ (Nat.lt_succ_self _)]
  simp

/-! ## uniform division -/

theorem uniformTemp_eq (R0 R : Rat) (nrExp : Int) (h1 : 1 ≤ nrExp) :
    uniformTemp R0 R nrExp
      = .ok (ap R0 ((R - R0) / ((2 ^ (nrExp.toNat - 1) : Nat) : Rat)) (2 ^ (nrExp.toNat - 1) + 1)) := by
  have hN : ((2 ^ (nrExp.toNat - 1) : Nat) : Rat) ≠ 0 := by positivity
  unfold uniformTemp
  rw [if_neg (by omega)]
  simp only [Nat.add_sub_cancel]
  rw [ap_snoc _ _ R _ (by rw [Int.cast_natCast]; field_simp; ring)]
  simp

/-! ## midpoint refinement -/

theorem midpointRefine_length (t : List Rat) : (midpointRefine t).length = 2 * t.length - 1 := by
  simp [midpointRefine]

theorem midpointRefine_even (t : List Rat) (k : Nat) (hk : k < t.length) :
    (midpointRefine t).getD (2 * k) 0 = t.getD k 0 := by
  unfold midpointRefine
  rw [getD_map_range _ _ _ (by omega)]
  simp

theorem midpointRefine_odd (t : List Rat) (k : Nat) (hk : k + 1 < t.length) :
    (midpointRefine t).getD (2 * k + 1) 0 = (t.getD k 0 + t.getD (k + 1) 0) / 2 := by
  unfold midpointRefine
  rw [getD_map_range _ _ _ (by omega)]
  have h1 : (2 * k + 1) % 2 = 1 := by omega
  have h2 : (2 * k + 1 - 1) / 2 = k := by omega
  have h3 : (2 * k + 1 + 1) / 2 = k + 1 := by omega
  simp only [h1, h2, h3]
  norm_num
  ring

theorem midpointRefine_midpoints (t : List Rat) : Midpoints (midpointRefine t) := by
  intro i hi hlen
  rw [midpointRefine_length] at hlen
  obtain ⟨k, rfl⟩ : ∃ k, i = 2 * k + 1 := ⟨i / 2, by omega⟩
  rw [midpointRefine_odd t k (by omega), show 2 * k + 1 - 1 = 2 * k by omega, show 2 * k + 1 + 1 = 2 * (k + 1) by omega,
    midpointRefine_even t k (by omega), midpointRefine_even t (k + 1) (by omega)]

theorem midpointRefine_strictInc (t : List Rat) (ht : StrictInc t) : StrictInc (midpointRefine t) := by
  apply strictInc_of_step
  intro i hi
  rw [midpointRefine_length] at hi
  -- either step `t[k] → mean → t[k+1]` is half of `t[k] < t[k+1]`
  rcases Nat.even_or_odd' i with ⟨k, rfl | rfl⟩
  · rw [midpointRefine_even t k (by omega), midpointRefine_odd t k (by omega)]
    linarith [ht.lt (i := k) (j := k + 1) (by omega) (by omega)]
  · rw [show 2 * k + 1 + 1 = 2 * (k + 1) by omega, midpointRefine_even t (k + 1) (by omega),
      midpointRefine_odd t k (by omega)]
    linarith [ht.lt (i := k) (j := k + 1) (by omega) (by omega)]

theorem midpointRefine_ends (t : List Rat) (ht : 0 < t.length) :
    (midpointRefine t).head? = t.head? ∧ (midpointRefine t).getLast? = t.getLast? := by
  apply ends_eq (by rw [midpointRefine_length]; omega) ht (midpointRefine_even t 0 ht)
  rw [midpointRefine_length, show 2 * t.length - 1 - 1 = 2 * (t.length - 1) by omega,
    midpointRefine_even t _ (by omega)]

end GridGenL
