import GMGProofs.Lemmas.ExSmootherGiveStar
/-!
# Code-level extrapolated smoother (give) — the radial section: scatter kernel and `temp` after one colour phase

`rC`, `rAcross` (twice), `rL`, `rR` are the five values `NODE_APPLY_ASC_ORTHO_RADIAL_GIVE` stores (`0` where it stores nothing), as
functions of the node and of whether its radial line has the colour of the phase (`own`); they branch in the order the
macro does.  A node of the phase's colour receives from itself and from its two neighbours on the radial line (same colour)
and from its two neighbours on the circle (other colour).  With `nr` odd the position classes of the macro collapse on the
radial section: the node before the outer boundary is odd, the boundary node even (`rC_own` … `rAcross_other`); `radial_recv`
adds the five values up to the gather kernel's `rhs - A_sc^ortho x` (`ExSmootherCode.orthoRadial`), and shows that every other
node receives nothing.
-/
namespace ExSmootherGiveCode
open Stencil SparseLU SmootherCode Finset GiveCommon
variable {K : Type} [_root_.Field K]

section
variable (o : Op K) (nc : Nat) (own : Bool) (f x : Stencil.Field K)

/-- to the node itself -/
def rC (i j : Nat) : K :=
  if nc < i ∧ i + 2 < o.nr then
    if own = true then
      if j % 2 = 1 then -(coeff3 o i j) * o.att i j * x i (jm o j) - coeff4 o i j * o.att i j * x i (jp o j)
      else if i % 2 = 1 then crossVal o x i j else 0
    else 0
  else if i + 1 = nc then 0
  else if i = nc then
    if own = true then
      if j % 2 = 1 then
        -(coeff1 o i j) * o.arr i j * x (i - 1) j - coeff3 o i j * o.att i j * x i (jm o j)
          - coeff4 o i j * o.att i j * x i (jp o j)
      else if i % 2 = 1 then crossVal o x i j else 0
    else 0
  else if i + 2 = o.nr then
    if own = true then
      if j % 2 = 1 then
        (-(coeff3 o i j) * o.att i j * x i (jm o j) - coeff4 o i j * o.att i j * x i (jp o j))
          + (-(coeff2 o i j) * o.arr i j * f (i + 1) j)
      else crossVal o x i j
    else 0
  else 0

/-- to `(i, j-1)` and to `(i, j+1)`: `v` is `bottomVal` resp. `topVal` of the node -/
def rAcross (v : K) (i j : Nat) : K :=
  if nc < i ∧ i + 2 < o.nr then
    if own = true then 0
    else if j % 2 = 1 then (if i % 2 = 1 then v else 0)
    else v
  else if i + 1 = nc then 0
  else if i = nc then
    if own = true then 0 else if i % 2 = 1 ∨ ¬ j % 2 = 1 then v else 0
  else if i + 2 = o.nr then
    if own = true then 0 else v
  else 0

/-- to `(i-1, j)` -/
def rL (i j : Nat) : K :=
  if nc < i ∧ i + 2 < o.nr then
    if own = true then
      if j % 2 = 1 then -quarter * o.art i j * x i (jp o j) + quarter * o.art i j * x i (jm o j)
      else if i % 2 = 1 then 0 else leftVal o x i j
    else 0
  else if i + 1 = nc then 0
  else if i = nc then 0
  else if i + 2 = o.nr then
    if own = true then
      if j % 2 = 1 then -quarter * o.art i j * x i (jp o j) + quarter * o.art i j * x i (jm o j) else 0
    else 0
  else if i + 1 = o.nr then
    if own = true then
      if j % 2 = 1 then
        (-quarter * o.art i j * x i (jp o j) + quarter * o.art i j * x i (jm o j)) + (-(coeff1 o i j) * o.arr i j * f i j)
      else leftVal o x i j
    else 0
  else 0

/-- to `(i+1, j)` -/
def rR (i j : Nat) : K :=
  if nc < i ∧ i + 2 < o.nr then
    if own = true then
      if j % 2 = 1 then quarter * o.art i j * x i (jp o j) - quarter * o.art i j * x i (jm o j)
      else if i % 2 = 1 then 0 else rightVal o x i j
    else 0
  else if i + 1 = nc then
    if own = true then (if ¬ i % 2 = 1 ∨ j % 2 = 1 then rightVal o x i j else 0) else 0
  else if i = nc then
    if own = true then
      if j % 2 = 1 then quarter * o.art i j * x i (jp o j) - quarter * o.art i j * x i (jm o j)
      else if i % 2 = 1 then 0 else rightVal o x i j
    else 0
  else 0

def radialStar (i j : Nat) : List (Stencil.Upd K) :=
  star o i j (rC o nc own f x i j) (rAcross o nc own (bottomVal o x i j) i j) (rAcross o nc own (topVal o x i j) i j)
    (rL o nc own f x i j) (rR o nc own x i j)

/-- **uniform description of `NODE_APPLY_ASC_ORTHO_RADIAL_GIVE`**: as far as any target can tell, node `(i, j)` scatters the
    star of its five values -/
theorem recv_radialGive (black : Bool) (i j a b : Nat) :
    recv (radialGive o nc black f x i j) a b = recv (radialStar o nc ((!decide (j % 2 = 1)) == black) f x i j) a b := by
  unfold radialGive radialStar star rC rAcross rL rR leftVal rightVal bottomVal topVal crossVal
  simp only [ite_self]
  generalize ((!decide (j % 2 = 1)) == black) = own
  by_cases h1 : nc < i ∧ i + 2 < o.nr
  · simp only [if_pos h1]
    split_ifs <;> simp only [recv_cons, recv_nil, ite_self, add_zero, zero_add]
  by_cases h2 : i + 1 = nc
  · simp only [if_neg h1, if_pos h2]
    split_ifs <;> simp only [recv_cons, recv_nil, ite_self, add_zero, zero_add]
  by_cases h3 : i = nc
  · simp only [if_neg h1, if_neg h2, if_pos h3]
    split_ifs <;> simp only [recv_cons, recv_nil, ite_self, add_zero, zero_add]
  by_cases h4 : i + 2 = o.nr
  · simp only [if_neg h1, if_neg h2, if_neg h3, if_pos h4]
    split_ifs <;> simp only [recv_cons, recv_nil, ite_self, add_zero, zero_add]
    -- the symmetry shift is a second store to the node itself
    simp only [ite_add_zero]
    ring
  by_cases h5 : i + 1 = o.nr
  · simp only [if_neg h1, if_neg h2, if_neg h3, if_neg h4, if_pos h5]
    split_ifs <;> simp only [recv_cons, recv_nil, ite_self, add_zero, zero_add]
    exact ite_add_zero.symm
  · simp only [if_neg h1, if_neg h2, if_neg h3, if_neg h4, if_neg h5, recv_cons, recv_nil, ite_self, add_zero]

/-! the circle section below the outermost circle takes no part in the radial kernel, and only the outermost circle gives
to the radial section -/

theorem rC_low (hnr : nc + 3 ≤ o.nr) (i j : Nat) (hi : i < nc) : rC o nc own f x i j = 0 := by
  unfold rC
  simp only [if_neg (by omega : ¬ (nc < i ∧ i + 2 < o.nr)), if_neg (by omega : ¬ i = nc), if_neg (by omega : ¬ i + 2 = o.nr),
    ite_self]

theorem rAcross_low (hnr : nc + 3 ≤ o.nr) (v : K) (i j : Nat) (hi : i < nc) : rAcross o nc own v i j = 0 := by
  unfold rAcross
  simp only [if_neg (by omega : ¬ (nc < i ∧ i + 2 < o.nr)), if_neg (by omega : ¬ i = nc), if_neg (by omega : ¬ i + 2 = o.nr),
    ite_self]

theorem rL_low (hnr : nc + 3 ≤ o.nr) (i j : Nat) (hi : i ≤ nc) : rL o nc own f x i j = 0 := by
  unfold rL
  simp only [if_neg (by omega : ¬ (nc < i ∧ i + 2 < o.nr)), if_neg (by omega : ¬ i + 2 = o.nr),
    if_neg (by omega : ¬ i + 1 = o.nr), ite_self]

theorem rR_low (i j : Nat) (hi : i + 1 < nc) : rR o nc own x i j = 0 := by
  unfold rR
  simp only [if_neg (by omega : ¬ (nc < i ∧ i + 2 < o.nr)), if_neg (by omega : ¬ i + 1 = nc), if_neg (by omega : ¬ i = nc)]

theorem radialStar_low (hnr : nc + 3 ≤ o.nr) (i j a b : Nat) (hi : i + 1 < nc) :
    recv (radialStar o nc own f x i j) a b = 0 := by
  simp only [radialStar, star, rC_low o nc own f x hnr i j (by omega), rAcross_low o nc own hnr _ i j (by omega), rL_low o nc own f x hnr i j (by omega), rR_low o nc own x i j hi, recv_cons,
    recv_nil, ite_self, add_zero]

theorem sum_shift (m n : Nat) (hmn : m ≤ n) (g : Nat → K) (hz : ∀ i, i < m → g i = 0) :
    ∑ t ∈ range (n - m), g (m + t) = ∑ i ∈ range n, g i := by
  have : n = m + (n - m) := by omega
  conv_rhs => rw [this, Finset.sum_range_add]
  rw [Finset.sum_eq_zero (fun i hi => hz i (by simpa using hi)), zero_add]

/-- **the received total of `for i_theta: applyAscOrthoRadialSection(i_theta, color)`**: one giver per direction -/
theorem radial_phase_recv (black : Bool) (hnc : 2 ≤ nc) (hnr : nc + 3 ≤ o.nr) (a b : Nat) (ha : a < o.nr) (hb : b < o.nt) :
    recv (radialPhase o nc black f x) a b =
      rC o nc ((!decide (b % 2 = 1)) == black) f x a b
        + rAcross o nc ((!decide (jp o b % 2 = 1)) == black) (bottomVal o x a (jp o b)) a (jp o b)
        + rAcross o nc ((!decide (jm o b % 2 = 1)) == black) (topVal o x a (jm o b)) a (jm o b)
        + (if a + 1 < o.nr then rL o nc ((!decide (b % 2 = 1)) == black) f x (a + 1) b else 0)
        + (if 0 < a then rR o nc ((!decide (b % 2 = 1)) == black) x (a - 1) b else 0) := by
  unfold radialPhase
  rw [recv_flatMap, list_range_sum]
  simp only [recv_flatMap, list_range_sum, recv_radialGive]
  have e : ∀ j, ∑ t ∈ range (o.nr - (nc - 1)), recv (radialStar o nc ((!decide (j % 2 = 1)) == black) f x (nc - 1 + t) j) a b
      = ∑ i ∈ range o.nr, recv (radialStar o nc ((!decide (j % 2 = 1)) == black) f x i j) a b := fun j =>
    sum_shift (nc - 1) o.nr (by omega) _ fun i hi => radialStar_low o nc _ f x hnr i j a b (by omega)
  simp only [e]
  rw [Finset.sum_comm]
  have h := sum_recv_star o o.nr (fun i j => rC o nc ((!decide (j % 2 = 1)) == black) f x i j)
    (fun i j => rAcross o nc ((!decide (j % 2 = 1)) == black) (bottomVal o x i j) i j)
    (fun i j => rAcross o nc ((!decide (j % 2 = 1)) == black) (topVal o x i j) i j)
    (fun i j => rL o nc ((!decide (j % 2 = 1)) == black) f x i j) (fun i j => rR o nc ((!decide (j % 2 = 1)) == black) x i j)
    (fun j => rL_low o nc _ f x hnr 0 j (by omega)) a b hb
  rw [if_pos ha] at h
  simp only [show (0 < a ∧ a - 1 < o.nr) ↔ 0 < a from ⟨fun h => h.1, fun h => ⟨h, by omega⟩⟩] at h
  exact h

end

section
variable (o : Op K) (nc : Nat) (black : Bool) (f x : Stencil.Field K)

/-- position class and parity facts about a radial index that `omega` decides -/
macro "rad_facts " i:term ", " nc:term ", " nr:term : tactic => `(tactic| (
  harvest ($nc < $i ∧ $i + 2 < $nr)
  harvest ($i + 1 = $nc)
  harvest ($i = $nc)
  harvest ($i + 2 = $nr)
  harvest ($i + 1 = $nr)
  harvest ($i % 2 = 1)))

/-- the two neighbours of a radial line have the other colour -/
theorem own_flip {j j' : Nat} (h : j' % 2 ≠ j % 2) :
    ((!decide (j' % 2 = 1)) == black) = !((!decide (j % 2 = 1)) == black) := by
  by_cases hj : j % 2 = 1
  · rw [decide_eq_true hj, decide_eq_false (by omega : ¬ j' % 2 = 1)]; cases black <;> rfl
  · rw [decide_eq_false hj, decide_eq_true (by omega : j' % 2 = 1)]; cases black <;> rfl

variable {nc}
theorem rC_own (hnr : nc + 3 ≤ o.nr) (hodd : o.nr % 2 = 1) {i : Nat} (j : Nat) (h0 : nc ≤ i) (hi : i < o.nr) :
    rC o nc true f x i j =
      if j % 2 = 1 then
        if i + 1 = o.nr then 0
        else -(coeff3 o i j) * o.att i j * x i (jm o j) - coeff4 o i j * o.att i j * x i (jp o j)
          + ((if i = nc then -(coeff1 o i j) * o.arr i j * x (i - 1) j else 0)
            + (if i + 2 = o.nr then -(coeff2 o i j) * o.arr i j * f (i + 1) j else 0))
      else if i % 2 = 1 then crossVal o x i j else 0 := by
  unfold rC
  rcases (by omega : (nc < i ∧ i + 2 < o.nr) ∨ i = nc ∨ i + 2 = o.nr ∨ i + 1 = o.nr) with h | h | h | h
  · simp only [if_pos h, if_true, if_neg (by omega : ¬ i + 1 = o.nr), if_neg (by omega : ¬ i = nc),
      if_neg (by omega : ¬ i + 2 = o.nr), add_zero]
  · simp only [if_neg (by omega : ¬ (nc < i ∧ i + 2 < o.nr)), if_neg (by omega : ¬ i + 1 = nc), if_pos h, if_true,
      if_neg (by omega : ¬ i + 1 = o.nr), if_neg (by omega : ¬ i + 2 = o.nr), add_zero]
    split <;> [ring; rfl]
  · simp only [if_neg (by omega : ¬ (nc < i ∧ i + 2 < o.nr)), if_neg (by omega : ¬ i + 1 = nc),
      if_neg (by omega : ¬ i = nc), if_pos h, if_true, if_neg (by omega : ¬ i + 1 = o.nr), zero_add,
      if_pos (by omega : i % 2 = 1)]
  · simp only [if_neg (by omega : ¬ (nc < i ∧ i + 2 < o.nr)), if_neg (by omega : ¬ i + 1 = nc),
      if_neg (by omega : ¬ i = nc), if_neg (by omega : ¬ i + 2 = o.nr), if_pos h, if_true,
      if_neg (by omega : ¬ i % 2 = 1), ite_self]

theorem rL_own (hodd : o.nr % 2 = 1) {i : Nat} (j : Nat) (h0 : nc < i) (hi : i < o.nr) :
    rL o nc true f x i j =
      if j % 2 = 1 then
        -quarter * o.art i j * x i (jp o j) + quarter * o.art i j * x i (jm o j)
          + (if i + 1 = o.nr then -(coeff1 o i j) * o.arr i j * f i j else 0)
      else if i % 2 = 1 then 0 else leftVal o x i j := by
  unfold rL
  rcases (by omega : i + 2 < o.nr ∨ i + 2 = o.nr ∨ i + 1 = o.nr) with h | h | h
  · simp only [if_pos (⟨h0, h⟩ : nc < i ∧ i + 2 < o.nr), if_true, if_neg (by omega : ¬ i + 1 = o.nr), add_zero]
  · simp only [if_neg (by omega : ¬ (nc < i ∧ i + 2 < o.nr)), if_neg (by omega : ¬ i + 1 = nc),
      if_neg (by omega : ¬ i = nc), if_pos h, if_true, if_neg (by omega : ¬ i + 1 = o.nr), add_zero,
      if_pos (by omega : i % 2 = 1)]
  · simp only [if_neg (by omega : ¬ (nc < i ∧ i + 2 < o.nr)), if_neg (by omega : ¬ i + 1 = nc),
      if_neg (by omega : ¬ i = nc), if_neg (by omega : ¬ i + 2 = o.nr), if_pos h, if_true,
      if_neg (by omega : ¬ i % 2 = 1)]

theorem rR_own (hnr : nc + 3 ≤ o.nr) {i : Nat} (j : Nat) (h0 : nc ≤ i + 1) :
    rR o nc true x i j =
      if i + 2 < o.nr then
        if j % 2 = 1 then
          if i + 1 = nc then rightVal o x i j
          else quarter * o.art i j * x i (jp o j) - quarter * o.art i j * x i (jm o j)
        else if i % 2 = 1 then 0 else rightVal o x i j
      else 0 := by
  unfold rR
  rcases (by omega : (nc < i ∧ i + 2 < o.nr) ∨ i + 1 = nc ∨ i = nc ∨ (nc < i ∧ ¬ i + 2 < o.nr)) with h | h | h | h
  · simp only [if_pos h, if_pos h.2, if_true, if_neg (by omega : ¬ i + 1 = nc)]
  · simp only [if_neg (by omega : ¬ (nc < i ∧ i + 2 < o.nr)), if_pos h, if_true]
    split_ifs <;> first | rfl | omega
  · simp only [if_neg (by omega : ¬ (nc < i ∧ i + 2 < o.nr)), if_neg (by omega : ¬ i + 1 = nc), if_pos h, if_true]
    split_ifs <;> first | rfl | omega
  · simp only [if_neg (by omega : ¬ (nc < i ∧ i + 2 < o.nr)), if_neg (by omega : ¬ i + 1 = nc),
      if_neg (by omega : ¬ i = nc), if_neg h.2]

theorem rAcross_other (hnr : nc + 3 ≤ o.nr) (hodd : o.nr % 2 = 1) (v : K) {i : Nat} (j : Nat) (h0 : nc ≤ i)
    (hi : i < o.nr) :
    rAcross o nc false v i j = if i + 1 = o.nr then 0 else if j % 2 = 1 then (if i % 2 = 1 then v else 0) else v := by
  unfold rAcross
  simp only [Bool.false_eq_true, if_false]
  rcases (by omega : (nc < i ∧ i + 2 < o.nr) ∨ i = nc ∨ i + 2 = o.nr ∨ i + 1 = o.nr) with h | h | h | h
  · simp only [if_pos h, if_neg (by omega : ¬ i + 1 = o.nr)]
  · simp only [if_neg (by omega : ¬ (nc < i ∧ i + 2 < o.nr)), if_neg (by omega : ¬ i + 1 = nc), if_pos h,
      if_neg (by omega : ¬ i + 1 = o.nr)]
    split_ifs <;> first | rfl | omega
  · simp only [if_neg (by omega : ¬ (nc < i ∧ i + 2 < o.nr)), if_neg (by omega : ¬ i + 1 = nc),
      if_neg (by omega : ¬ i = nc), if_pos h, if_neg (by omega : ¬ i + 1 = o.nr), if_pos (by omega : i % 2 = 1), ite_self]
  · simp only [if_neg (by omega : ¬ (nc < i ∧ i + 2 < o.nr)), if_neg (by omega : ¬ i + 1 = nc),
      if_neg (by omega : ¬ i = nc), if_neg (by omega : ¬ i + 2 = o.nr), if_pos h]

variable (nc)

/-- the gather kernel off the lines between coarse nodes -/
theorem orthoRadial_even (hnr : nc + 3 ≤ o.nr) (hodd : o.nr % 2 = 1) {a b : Nat} (h0 : nc ≤ a) (ha : a < o.nr)
    (hb : ¬ b % 2 = 1) :
    ExSmootherCode.orthoRadial o nc f x a b =
      if a % 2 = 1 then f a b - diagTerms o x a b (ExSmootherCode.crossTerms o x a b) else x a b := by
  unfold ExSmootherCode.orthoRadial
  simp only [if_neg hb]
  rcases (by omega : (nc < a ∧ a + 2 < o.nr) ∨ a = nc ∨ a + 2 = o.nr ∨ a + 1 = o.nr) with h | h | h | h
  · rw [if_pos h]
  · rw [if_neg (by omega), if_pos h]
  · rw [if_neg (by omega), if_neg (by omega), if_pos h, if_pos (by omega)]
  · rw [if_neg (by omega), if_neg (by omega), if_neg (by omega), if_pos h, if_neg (by omega)]

/-- **what a colour phase of the radial section subtracts from `temp`**: on a radial line of the phase's colour it turns the
    initial value into the gather kernel's `rhs - A_sc^ortho x`; the lines of the other colour and the circle section receive
    nothing -/
theorem radial_recv (hnc : 3 ≤ nc) (hnr : nc + 3 ≤ o.nr) (hodd : o.nr % 2 = 1) (heven : o.nt % 2 = 0) (a b : Nat)
    (ha : a < o.nr) (hb : b < o.nt) :
    recv (radialPhase o nc black f x) a b =
      if nc ≤ a ∧ (!decide (b % 2 = 1)) = black then initTemp f x a b - ExSmootherCode.orthoRadial o nc f x a b else 0 := by
  have pjp : jp o b % 2 ≠ b % 2 := by have := Stencil.jp_parity o heven hb; omega
  have pjm : jm o b % 2 ≠ b % 2 := by have := Stencil.jm_parity o heven hb; omega
  rw [radial_phase_recv o nc f x black (by omega) hnr a b ha hb, own_flip black pjp, own_flip black pjm]
  by_cases h : nc ≤ a ∧ (!decide (b % 2 = 1)) = black
  · rw [if_pos h]
    obtain ⟨h0, hcol⟩ := h
    have hp0 : 0 < a := by omega
    have eL : (if a + 1 < o.nr then rL o nc true f x (a + 1) b else 0) =
        if a + 1 < o.nr then
          if b % 2 = 1 then
            -quarter * o.art (a + 1) b * x (a + 1) (jp o b) + quarter * o.art (a + 1) b * x (a + 1) (jm o b)
              + (if a + 2 = o.nr then -(coeff1 o (a + 1) b) * o.arr (a + 1) b * f (a + 1) b else 0)
          else if (a + 1) % 2 = 1 then 0 else leftVal o x (a + 1) b
        else 0 := by
      split
      · next hl => rw [rL_own o f x hodd b (by omega) hl]
      · rfl
    rw [hcol, beq_self_eq_true, Bool.not_true, if_pos hp0, rC_own o f x hnr hodd b h0 ha,
      rAcross_other o hnr hodd (bottomVal o x a (jp o b)) _ h0 ha, rAcross_other o hnr hodd (topVal o x a (jm o b)) _ h0 ha, rR_own o x hnr b (by omega), eL]
    simp only [show a - 1 + 2 < o.nr ↔ a + 1 < o.nr by omega, show a - 1 + 1 = nc ↔ a = nc by omega]
    by_cases hbo : b % 2 = 1
    · have j1 : ¬ jp o b % 2 = 1 := by omega
      have j2 : ¬ jm o b % 2 = 1 := by omega
      have hI : initTemp f x a b = f a b := if_pos (Or.inr hbo)
      unfold ExSmootherCode.orthoRadial
      simp only [hI, if_pos hbo, if_neg j1, if_neg j2, bottomVal, topVal, rightVal, diagTerms]
      rw [coeff3_jp o a hb, coeff4_jm, coeff1_succ, coeff2_pred o b hp0]
      rcases (by omega : (nc < a ∧ a + 2 < o.nr) ∨ a = nc ∨ a + 2 = o.nr ∨ a + 1 = o.nr) with h | h | h | h
      · simp only [if_pos h, if_neg (by omega : ¬ a + 1 = o.nr), if_neg (by omega : ¬ a = nc),
          if_neg (by omega : ¬ a + 2 = o.nr), if_pos (by omega : a + 1 < o.nr)]
        ring
      · simp only [if_neg (by omega : ¬ (nc < a ∧ a + 2 < o.nr)), if_neg (by omega : ¬ a + 1 = o.nr), if_pos h,
          if_neg (by omega : ¬ a + 2 = o.nr), if_pos (by omega : a + 1 < o.nr)]
        ring
      · simp only [if_neg (by omega : ¬ (nc < a ∧ a + 2 < o.nr)), if_neg (by omega : ¬ a + 1 = o.nr),
          if_neg (by omega : ¬ a = nc), if_pos h, if_pos (by omega : a + 1 < o.nr)]
        ring
      · simp only [if_neg (by omega : ¬ (nc < a ∧ a + 2 < o.nr)), if_pos h, if_neg (by omega : ¬ a = nc),
          if_neg (by omega : ¬ a + 2 = o.nr), if_neg (by omega : ¬ a + 1 < o.nr)]
        ring
    · have j1 : jp o b % 2 = 1 := by omega
      have j2 : jm o b % 2 = 1 := by omega
      rw [orthoRadial_even o nc f x hnr hodd h0 ha hbo]
      simp only [if_neg hbo, if_pos j1, if_pos j2]
      by_cases hao : a % 2 = 1
      · have hI : initTemp f x a b = f a b := if_pos (Or.inl hao)
        simp only [hI, if_pos hao, if_neg (by omega : ¬ a + 1 = o.nr), if_pos (by omega : a + 1 < o.nr),
          if_neg (by omega : ¬ (a + 1) % 2 = 1), if_neg (by omega : ¬ (a - 1) % 2 = 1), cross_identity x hp0 hb,
          sub_sub_cancel]
      · have hI : initTemp f x a b = x a b := if_neg (by omega)
        simp only [hI, if_neg hao, if_pos (by omega : (a + 1) % 2 = 1), if_pos (by omega : (a - 1) % 2 = 1), ite_self,
          add_zero, sub_self]
  · -- a line of the other colour only has givers of the other colour, the circle section none that reach it
    rw [if_neg h]
    by_cases h0 : nc ≤ a
    · have hown : ((!decide (b % 2 = 1)) == black) = false := by
        cases hc : (!decide (b % 2 = 1)) == black
        · rfl
        · exact absurd ⟨h0, beq_iff_eq.mp hc⟩ h
      simp only [hown, Bool.not_false, rC, rL, rR, rAcross, Bool.false_eq_true, if_false, if_true, ite_self, add_zero]
    · simp only [rC_low o nc _ f x hnr a _ (by omega), rAcross_low o nc _ hnr _ a _ (by omega),
        rL_low o nc _ f x hnr (a + 1) _ (by omega), ite_self, add_zero, zero_add]
      split
      · exact rR_low o nc _ x _ _ (by omega)
      · rfl

theorem radial_temp_own (hnc : 3 ≤ nc) (hnr : nc + 3 ≤ o.nr) (hodd : o.nr % 2 = 1) (heven : o.nt % 2 = 0)
    (t : Stencil.Field K) (a b : Nat) (ha0 : nc ≤ a) (ha : a < o.nr) (hb : b < o.nt)
    (hcol : (!decide (b % 2 = 1)) = black) (ht : t a b = initTemp f x a b) :
    ((radialPhase o nc black f x).foldl Stencil.applyUpd t) a b = ExSmootherCode.orthoRadial o nc f x a b := by
  rw [foldl_applyUpd, radial_recv o nc black f x hnc hnr hodd heven a b ha hb, if_pos ⟨ha0, hcol⟩, ht, sub_sub_cancel]

theorem radial_temp_other (hnc : 3 ≤ nc) (hnr : nc + 3 ≤ o.nr) (hodd : o.nr % 2 = 1) (heven : o.nt % 2 = 0)
    (t : Stencil.Field K) (a b : Nat) (ha : a < o.nr) (hb : b < o.nt)
    (h : a < nc ∨ ¬ (!decide (b % 2 = 1)) = black) :
    ((radialPhase o nc black f x).foldl Stencil.applyUpd t) a b = t a b := by
  rw [foldl_applyUpd, radial_recv o nc black f x hnc hnr hodd heven a b ha hb,
    if_neg fun h' => h.elim (by omega) fun hc => hc h'.2, sub_zero]

end
end ExSmootherGiveCode
