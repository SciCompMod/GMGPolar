import GMGProofs.Lemmas.InterpAdjoint
import Mathlib.Algebra.Order.Field.Basic
import Mathlib.Tactic.Linarith
import Mathlib.Tactic.Positivity
import Mathlib.Tactic.FieldSimp
/-!
# Pointwise facts about `prolong` (C08): constants, linear data, convexity

`Pr` and `Pt` are one two-point rule `mix` at different arguments; constants, bounds and the convex weights are facts
about `mix`, carried to `prolong` by the tensor form `prolong = Pr ⊗ Pt` of `InterpAdjoint`.
-/
open InterpSums

namespace Interp
variable {K : Type} [_root_.Field K]

/-- at an odd node the mean of the two neighbouring coarse values `u`, `v` with the code's weights `a`, `b`,
    at an even node the coincident coarse value `u` -/
def mix (odd : Prop) [Decidable odd] (a b u v : K) : K := if odd then (a * u + b * v) / (a + b) else u

theorem Pr_eq_mix (h u : ℕ → K) (i : ℕ) : Pr h u i = mix (i % 2 = 1) (h (i - 1)) (h i) (u (i / 2)) (u (i / 2 + 1)) := rfl

theorem Pt_eq_mix (nt ntc : ℕ) (k v : ℕ → K) (j : ℕ) :
    Pt nt ntc k v j = mix (j % 2 = 1) (k ((j + nt - 1) % nt)) (k j) (v (j / 2)) (v ((j / 2 + 1) % ntc)) := rfl

theorem mix_const (odd : Prop) [Decidable odd] (a b c : K) (h : a + b ≠ 0) : mix odd a b c c = c := by
  unfold mix
  split_ifs
  · rw [div_eq_iff h]; ring
  · rfl

theorem Pr_const (h : ℕ → K) (c : K) (i : ℕ) (hh : h (i - 1) + h i ≠ 0) : Pr h (fun _ => c) i = c :=
  mix_const _ _ _ c hh

theorem Pt_const (nt ntc : ℕ) (k : ℕ → K) (c : K) (j : ℕ) (hk : k ((j + nt - 1) % nt) + k j ≠ 0) :
    Pt nt ntc k (fun _ => c) j = c :=
  mix_const _ _ _ c hk

/-! ### linear data: the code's weights give `r i + (h i - h (i-1))` instead of `r i` at odd nodes -/

theorem Pr_linear (h r : ℕ → K) (a b : K) (i : ℕ) (hr : ∀ i, r (i + 1) = r i + h i)
    (hh : h (i - 1) + h i ≠ 0) :
    Pr h (fun I => a + b * r (2 * I)) i = a + b * (r i + (if i % 2 = 1 then h i - h (i - 1) else 0)) := by
  rcases Nat.even_or_odd' i with ⟨t, rfl | rfl⟩
  · simp [Pr_even]
  · rw [Nat.add_sub_cancel] at hh
    rw [Pr_odd, mul_add 2 t 1, hr (2 * t + 1), hr (2 * t), div_eq_iff hh]
    simp; ring

theorem Pt_linear (q : ℕ) (k θ : ℕ → K) (a b : K) (j : ℕ) (hj : j + 1 < 2 * q) (hθ : ∀ j, θ (j + 1) = θ j + k j)
    (hk : k (j - 1) + k j ≠ 0) :
    Pt (2 * q) q k (fun J => a + b * θ (2 * J)) j
      = a + b * (θ j + (if j % 2 = 1 then k j - k (j - 1) else 0)) := by
  rcases Nat.even_or_odd' j with ⟨t, rfl | rfl⟩
  · simp [Pt_even]
  · rw [Nat.add_sub_cancel] at hk
    rw [Pt_odd q k _ t (by omega), Nat.mod_eq_of_lt (by omega : t + 1 < q), mul_add 2 t 1, hθ (2 * t + 1), hθ (2 * t),
      div_eq_iff hk]
    simp; ring

section Ordered
variable [LinearOrder K] [IsStrictOrderedRing K]

structure PosSpacing (p : Pair K) : Prop where
  hF : ∀ i, 0 < p.hF i
  kF : ∀ j, 0 < p.kF j
  hC : ∀ I, 0 < p.hC I
  kC : ∀ J, 0 < p.kC J

theorem mix_convex (odd : Prop) [Decidable odd] (a b : K) (h : odd → 0 < a ∧ 0 < b) :
    ∃ s t : K, 0 ≤ s ∧ 0 ≤ t ∧ s + t = 1 ∧ ∀ u v, mix odd a b u v = s * u + t * v := by
  by_cases c : odd
  · obtain ⟨ha, hb⟩ := h c
    have hab : a + b ≠ 0 := by positivity
    exact ⟨a / (a + b), b / (a + b), by positivity, by positivity, by field_simp,
      fun u v => by rw [mix, if_pos c]; field_simp⟩
  · exact ⟨1, 0, zero_le_one, le_refl _, add_zero _, fun u v => by rw [mix, if_neg c]; ring⟩

theorem mix_bounds (odd : Prop) [Decidable odd] (a b : K) (h : odd → 0 < a ∧ 0 < b) {u v lo hi : K}
    (hu : lo ≤ u ∧ u ≤ hi) (hv : lo ≤ v ∧ v ≤ hi) : lo ≤ mix odd a b u v ∧ mix odd a b u v ≤ hi := by
  obtain ⟨s, t, hs, ht, hst, e⟩ := mix_convex odd a b h
  have eb : ∀ c : K, s * c + t * c = c := fun c => by rw [← add_mul, hst, one_mul]
  rw [e]
  exact ⟨(eb lo).symm.trans_le (add_le_add (mul_le_mul_of_nonneg_left hu.1 hs) (mul_le_mul_of_nonneg_left hv.1 ht)),
    (add_le_add (mul_le_mul_of_nonneg_left hu.2 hs) (mul_le_mul_of_nonneg_left hv.2 ht)).trans_eq (eb hi)⟩

/-- `prolong` at the fine node `(i, j)` is a convex combination of the four surrounding coarse values as soon as the spacings
    READ at that node are positive: `hF (i-1)`, `hF i` if `i` is odd, `kF (j-1 wrapped)`, `kF j` if `j` is odd;
    the weights are the products of the 1-D weights -/
theorem prolong_convex_local (p : Pair K) (i j : ℕ)
    (hh : i % 2 = 1 → 0 < p.hF (i - 1) ∧ 0 < p.hF i)
    (hkk : j % 2 = 1 → 0 < p.kF (wF p (j + p.ntF - 1)) ∧ 0 < p.kF j) :
    ∃ w00 w10 w01 w11 : K, 0 ≤ w00 ∧ 0 ≤ w10 ∧ 0 ≤ w01 ∧ 0 ≤ w11 ∧ w00 + w10 + w01 + w11 = 1 ∧
      ∀ x : Field K, prolong p x i j = w00 * x (i / 2) (j / 2) + w10 * x (i / 2 + 1) (j / 2)
        + w01 * x (i / 2) (wC p (j / 2 + 1)) + w11 * x (i / 2 + 1) (wC p (j / 2 + 1)) := by
  obtain ⟨s, t, hs, ht, hst, hr⟩ := mix_convex _ _ _ hh
  obtain ⟨s', t', hs', ht', hst', hθ⟩ := mix_convex (j % 2 = 1) (p.kF ((j + p.ntF - 1) % p.ntF)) (p.kF j) hkk
  refine ⟨s * s', t * s', s * t', t * t', by positivity, by positivity, by positivity, by positivity, ?_, fun x => ?_⟩
  · rw [show s * s' + t * s' + s * t' + t * t' = (s + t) * (s' + t') by ring, hst, hst', one_mul]
  · rw [prolong_eq_tensor, Pr_eq_mix, hr]
    simp only [Pt_eq_mix, hθ, wC]
    ring

end Ordered

end Interp
