import GMGProofs.Lemmas.SmootherGiveStores
/-!
# The scatter kernels of the give sweep: after a pass `temp` holds `rhs - A_sc^ortho x` on its lines

The updates of a kernel are blocks, each guarded by one condition on the node's position and colour (`circleGives`,
`radialGives`).  Every update of a kernel with `smoother_color = c` goes to a line of colour `c` of its own section, so a pass
does not touch the other lines; on a line of the pass colour, an entry that held `rhs` before the pass holds
`SmootherCode.orthoCircle` / `SmootherCode.orthoRadial` of the iterate afterwards.
-/
namespace SmootherGiveCode
open Stencil SmootherCode Finset GiveCommon
variable {K : Type} [_root_.Field K]

/-- total the updates of `l` subtract from `temp(p, q)` -/
def tval (p q : Nat) (l : List (TUpd K)) : K := (l.map fun u => if u.1 = p ∧ u.2.1 = q then u.2.2 else 0).sum

theorem tval_eq_total (p q : Nat) (l : List (TUpd K)) :
    tval p q l = Scatter.total (fun u => u.1 = p ∧ u.2.1 = q) (·.2.2) l := rfl

@[simp] theorem tval_nil (p q : Nat) : tval p q ([] : List (TUpd K)) = 0 := rfl

theorem tval_cons (p q : Nat) (u : TUpd K) (l : List (TUpd K)) :
    tval p q (u :: l) = (if p = u.1 ∧ q = u.2.1 then u.2.2 else 0) + tval p q l := by
  simp only [tval, List.map_cons, List.sum_cons, eq_comm]

theorem tval_append (p q : Nat) (l l' : List (TUpd K)) : tval p q (l ++ l') = tval p q l + tval p q l' :=
  Scatter.total_append ..

theorem tval_ite (p q : Nat) (c : Prop) [Decidable c] (l l' : List (TUpd K)) :
    tval p q (if c then l else l') = if c then tval p q l else tval p q l' :=
  Scatter.total_ite ..

theorem applyT_size (nt : Nat) (t : Array K) (u : TUpd K) : (applyT nt t u).size = t.size := by
  simp [applyT]

theorem applyAll_size (nt : Nat) (us : List (TUpd K)) : ∀ t : Array K, (applyAll nt t us).size = t.size := by
  unfold applyAll
  induction us with
  | nil => intro t; rfl
  | cons u us ih => intro t; rw [List.foldl_cons, ih, applyT_size]

theorem applyT_fld (nt : Nat) (t : Array K) (u : TUpd K) (hu : u.2.1 < nt) (p q : Nat) (hq : q < nt)
    (hlt : p * nt + q < t.size) :
    fld nt (applyT nt t u) p q = fld nt t p q - (if p = u.1 ∧ q = u.2.1 then u.2.2 else 0) := by
  unfold fld applyT
  simp only [Array.getD_eq_getD_getElem?, Array.getElem?_modify]
  by_cases h : p = u.1 ∧ q = u.2.1
  · rw [if_pos h, if_pos (by rw [h.1, h.2]), Array.getElem?_eq_getElem hlt]
    simp
  · rw [if_neg h, if_neg]
    · simp
    · intro h'
      exact h (idx_inj hq hu h'.symm)

/-- **`temp` after a list of updates with grid angles**: every entry lost the total addressed to it -/
theorem applyAll_fld (nt : Nat) (us : List (TUpd K)) (hus : ∀ u ∈ us, u.2.1 < nt) (p q : Nat) (hq : q < nt) :
    ∀ t : Array K, p * nt + q < t.size → fld nt (applyAll nt t us) p q = fld nt t p q - tval p q us := by
  unfold applyAll
  induction us with
  | nil => intro t _; simp
  | cons u us ih =>
    intro t hlt
    rw [List.foldl_cons, ih (fun w hw => hus w (List.mem_cons_of_mem _ hw)) _ (by rw [applyT_size]; exact hlt),
      applyT_fld nt t u (hus u List.mem_cons_self) p q hq hlt, tval_cons]
    ring

theorem circleColour_eq_iff (nc a p : Nat) : circleColour nc a = circleColour nc p ↔ a % 2 = p % 2 := by
  unfold circleColour
  split_ifs <;> simp <;> omega

theorem circleColour_black_iff (nc p : Nat) : circleColour nc p = .black ↔ (nc + p) % 2 = 1 := by
  unfold circleColour
  split_ifs <;> simp <;> omega

theorem circleColour_white_iff (nc p : Nat) : circleColour nc p = .white ↔ (nc + p) % 2 = 0 := by
  unfold circleColour
  split_ifs <;> simp <;> omega

theorem radialColour_eq_iff (b q : Nat) : radialColour b = radialColour q ↔ b % 2 = q % 2 := by
  unfold radialColour
  split_ifs <;> simp <;> omega

theorem radialColour_black_iff (q : Nat) : radialColour q = .black ↔ q % 2 = 0 := by
  unfold radialColour
  split_ifs <;> simp <;> omega

theorem radialColour_white_iff (q : Nat) : radialColour q = .white ↔ q % 2 = 1 := by
  unfold radialColour
  split_ifs <;> simp <;> omega

section
variable (o : Op K) (nc : Nat)

/-! ### the circle kernel -/

/-- the updates of `NODE_APPLY_ASC_ORTHO_CIRCLE_GIVE` at node `(a, b)`, `a ≤ nc`: a node of the pass colour updates its own
    circle, any other node gives to the circles inside and outside, where they exist and are no Dirichlet rows -/
def circleGives (c : Colour) (x : Stencil.Field K) (a b : Nat) : List (TUpd K) :=
  (if (0 < a ∧ a < nc) ∧ circleColour nc a = c then
    [(a, b, -(coeff1 o a b) * o.arr a b * x (a - 1) b - coeff2 o a b * o.arr a b * x (a + 1) b),
     (a, jm o b, -quarter * o.art a b * x (a + 1) b + quarter * o.art a b * x (a - 1) b),
     (a, jp o b, quarter * o.art a b * x (a + 1) b - quarter * o.art a b * x (a - 1) b)] else []) ++
  (if (a = 0 ∧ !o.bc) ∧ circleColour nc a = c then
    [(0, b, -(coeff2 o 0 b) * o.arr 0 b * x 1 b),
     (0, jm o b, -quarter * o.art 0 b * x 1 b),
     (0, jp o b, quarter * o.art 0 b * x 1 b)] else []) ++
  (if (0 < a ∧ a ≤ nc) ∧ circleColour nc a ≠ c ∧ (1 < a ∨ !o.bc) then [giveLeft o x a b] else []) ++
  (if a + 1 < nc ∧ circleColour nc a ≠ c then [giveRight o x a b] else [])

theorem circleOrtho_eq (hnc : 2 ≤ nc) (c : Colour) (x : Stencil.Field K) (a b : Nat) (ha : a ≤ nc) :
    circleOrtho o nc c x a b = circleGives o nc c x a b := by
  unfold circleOrtho circleGives
  rcases (by omega : (0 < a ∧ a < nc) ∨ a = 0 ∨ a = nc) with h | h | h
  · have h1 : ¬ a = 0 := by omega
    have h2 : a ≤ nc := by omega
    by_cases hc : circleColour nc a = c
    · simp only [h, h1, h2, hc, if_true, if_false, false_and, and_true, ne_eq, not_true_eq_false, and_false,
        List.append_nil]
    · simp only [h, h1, h2, hc, if_true, if_false, true_and, false_and, and_true, and_false, ne_eq, not_false_eq_true,
        List.nil_append]
  · subst h
    have h1 : 0 + 1 < nc := by omega
    by_cases hc : circleColour nc 0 = c <;> cases o.bc <;>
      simp only [Nat.lt_irrefl, h1, hc, if_true, if_false, true_and, false_and, and_true, and_false, ne_eq, not_true_eq_false,
        not_false_eq_true, Bool.not_true, Bool.not_false, Bool.false_eq_true, List.nil_append, List.append_nil]
  · subst h
    have h0 : 0 < a := by omega
    have h2 : ¬ a = 0 := by omega
    have h4 : 1 < a := by omega
    have h5 : ¬ a + 1 < a := by omega
    have h6 : circleColour a a = .white := by rw [circleColour_white_iff]; omega
    cases c <;>
      simp only [Nat.lt_irrefl, Nat.le_refl, h0, h2, h4, h5, h6, if_true, if_false, false_and, and_true, and_false,
        true_or, ne_eq, reduceCtorEq, not_true_eq_false, not_false_eq_true, List.nil_append, List.append_nil]

theorem circleColour_flip {a a' : Nat} {c : Colour} (h : a % 2 ≠ a' % 2) (hc : circleColour nc a ≠ c) :
    circleColour nc a' = c := by
  cases c
  · rw [ne_eq, circleColour_black_iff] at hc; rw [circleColour_black_iff]; omega
  · rw [ne_eq, circleColour_white_iff] at hc; rw [circleColour_white_iff]; omega

/-- every update of the circle kernel with `smoother_color = c` goes to a circle of colour `c`, with a grid angle -/
theorem circleOrtho_target (hnc : 2 ≤ nc) (hnt : 0 < o.nt) (c : Colour) (x : Stencil.Field K) (a b : Nat) (ha : a ≤ nc)
    (hb : b < o.nt) : ∀ u ∈ circleOrtho o nc c x a b, u.1 < nc ∧ circleColour nc u.1 = c ∧ u.2.1 < o.nt := by
  have hm := jm_lt o hnt b
  have hp := jp_lt o hnt b
  intro u hu
  rw [circleOrtho_eq o nc hnc c x a b ha] at hu
  simp only [circleGives, giveLeft, giveRight, List.mem_append, List.mem_ite_nil_right, List.mem_cons, List.not_mem_nil,
    or_false] at hu
  rcases hu with ((⟨hG, rfl | rfl | rfl⟩ | ⟨hG, rfl | rfl | rfl⟩) | ⟨hG, rfl⟩) | ⟨hG, rfl⟩
  · exact ⟨hG.1.2, hG.2, hb⟩
  · exact ⟨hG.1.2, hG.2, hm⟩
  · exact ⟨hG.1.2, hG.2, hp⟩
  · exact ⟨by omega, hG.1.1 ▸ hG.2, hb⟩
  · exact ⟨by omega, hG.1.1 ▸ hG.2, hm⟩
  · exact ⟨by omega, hG.1.1 ▸ hG.2, hp⟩
  · exact ⟨by omega, circleColour_flip nc (by omega) hG.2.1, hb⟩
  · exact ⟨hG.1, circleColour_flip nc (by omega) hG.2, hb⟩

/-- the share of node `(a, b)`, `a ≤ nc`, in `temp(p, q)` during the pass of the colour of circle `0 < p < nc`: the node
    itself (three updates of its own circle) and the nodes outside and inside on the same ray -/
theorem tval_circleOrtho (hnc : 2 ≤ nc) (x : Stencil.Field K) (p q a b : Nat) (hp0 : 0 < p) (hp : p < nc) (ha : a ≤ nc) :
    tval p q (circleOrtho o nc (circleColour nc p) x a b) =
      (if p = a ∧ q = b then -(coeff1 o a b) * o.arr a b * x (a - 1) b - coeff2 o a b * o.arr a b * x (a + 1) b else 0)
      + (if p = a ∧ q = jm o b then -quarter * o.art a b * x (a + 1) b + quarter * o.art a b * x (a - 1) b else 0)
      + (if p = a ∧ q = jp o b then quarter * o.art a b * x (a + 1) b - quarter * o.art a b * x (a - 1) b else 0)
      + (if p + 1 = a ∧ q = b then (giveLeft o x a b).2.2 else 0)
      + (if p = a + 1 ∧ q = b then (giveRight o x a b).2.2 else 0) := by
  have h0 : ¬ p = 0 := by omega
  have e1 : ((0 < a ∧ a < nc) ∧ a % 2 = p % 2) ∧ p = a ↔ p = a := by omega
  have e3 : ((0 < a ∧ a ≤ nc) ∧ ¬ a % 2 = p % 2 ∧ (1 < a ∨ (!o.bc) = true)) ∧ p = a - 1 ↔ p + 1 = a :=
    ⟨fun ⟨⟨h1, h2, _⟩, h3⟩ => by omega, fun h => ⟨⟨by omega, by omega, .inl (by omega)⟩, by omega⟩⟩
  have e4 : (a + 1 < nc ∧ ¬ a % 2 = p % 2) ∧ p = a + 1 ↔ p = a + 1 := by omega
  rw [circleOrtho_eq o nc hnc _ x a b ha]
  simp only [circleGives, giveLeft, giveRight, tval_append, tval_ite, tval_cons, tval_nil, circleColour_eq_iff, ne_eq, h0,
    false_and, if_false, add_zero, ite_self, ite_add_zero, add_assoc, ← ite_and, guard_and e1, guard_and e3, guard_and e4]

/-- … of the innermost circle across the origin: "Left" is not in `A_sc^ortho`, the node outside gives -/
theorem tval_circleOrtho_zero (hnc : 2 ≤ nc) (hbc : o.bc = false) (x : Stencil.Field K) (q a b : Nat) (ha : a ≤ nc) :
    tval 0 q (circleOrtho o nc (circleColour nc 0) x a b) =
      (if 0 = a ∧ q = b then -(coeff2 o 0 b) * o.arr 0 b * x 1 b else 0)
      + (if 0 = a ∧ q = jm o b then -quarter * o.art 0 b * x 1 b else 0)
      + (if 0 = a ∧ q = jp o b then quarter * o.art 0 b * x 1 b else 0)
      + (if 1 = a ∧ q = b then (giveLeft o x a b).2.2 else 0) := by
  have e1 : ¬ (((0 < a ∧ a < nc) ∧ a % 2 = 0 % 2) ∧ 0 = a) := by omega
  have e2 : a = 0 ∧ a % 2 = 0 % 2 ↔ 0 = a := by omega
  have e3 : ((0 < a ∧ a ≤ nc) ∧ ¬ a % 2 = 0 % 2) ∧ 0 = a - 1 ↔ 1 = a := by omega
  have e4 : ¬ ((a + 1 < nc ∧ ¬ a % 2 = 0 % 2) ∧ 0 = a + 1) := by omega
  rw [circleOrtho_eq o nc hnc _ x a b ha]
  simp only [circleGives, giveLeft, giveRight, tval_append, tval_ite, tval_cons, tval_nil, circleColour_eq_iff, ne_eq, hbc,
    Bool.not_false, or_true, and_true, true_and, false_and, if_false, add_zero, zero_add, ite_add_zero, add_assoc, ← ite_and,
    guard_and (iff_false_intro e1), e2, guard_and e3, guard_and (iff_false_intro e4)]

/-- … of the Dirichlet circle: nothing -/
theorem tval_circleOrtho_dirichlet (hnc : 2 ≤ nc) (hbc : o.bc = true) (x : Stencil.Field K) (q a b : Nat) (ha : a ≤ nc) :
    tval 0 q (circleOrtho o nc (circleColour nc 0) x a b) = 0 := by
  have e1 : ¬ (((0 < a ∧ a < nc) ∧ a % 2 = 0 % 2) ∧ 0 = a) := by omega
  have e3 : ¬ (((0 < a ∧ a ≤ nc) ∧ ¬ a % 2 = 0 % 2 ∧ 1 < a) ∧ 0 = a - 1) := by omega
  have e4 : ¬ ((a + 1 < nc ∧ ¬ a % 2 = 0 % 2) ∧ 0 = a + 1) := by omega
  rw [circleOrtho_eq o nc hnc _ x a b ha]
  simp only [circleGives, giveLeft, giveRight, tval_append, tval_ite, tval_cons, tval_nil, circleColour_eq_iff, ne_eq, hbc,
    Bool.not_true, Bool.false_eq_true, or_false, and_false, false_and, if_false, add_zero, ite_add_zero,
    ← ite_and, guard_and (iff_false_intro e1), guard_and (iff_false_intro e3), guard_and (iff_false_intro e4)]

/-! ### the radial kernel -/

/-- the updates of `NODE_APPLY_ASC_ORTHO_RADIAL_GIVE` at node `(a, b)`, `nc - 1 ≤ a < nr`: a node on a line of the pass colour
    updates its own line (its own entry and those of its two neighbours, where they are no Dirichlet rows; the last circle
    gives to the first radial node; the outer Dirichlet datum comes from `f`), any other node gives to the two lines next to
    it -/
def radialGives (c : Colour) (f x : Stencil.Field K) (a b : Nat) : List (TUpd K) :=
  (if a + 1 = nc ∧ radialColour b = c then [giveRight o x a b] else []) ++
  (if (nc ≤ a ∧ a + 1 < o.nr) ∧ radialColour b = c then
    [(a, b, if a = nc then -(coeff1 o a b) * o.arr a b * x (a - 1) b - coeff3 o a b * o.att a b * x a (jm o b)
                - coeff4 o a b * o.att a b * x a (jp o b)
            else -(coeff3 o a b) * o.att a b * x a (jm o b) - coeff4 o a b * o.att a b * x a (jp o b))] else []) ++
  (if (nc < a ∧ a < o.nr) ∧ radialColour b = c then
    [(a - 1, b, -quarter * o.art a b * x a (jp o b) + quarter * o.art a b * x a (jm o b))] else []) ++
  (if (nc ≤ a ∧ a + 2 < o.nr) ∧ radialColour b = c then
    [(a + 1, b, quarter * o.art a b * x a (jp o b) - quarter * o.art a b * x a (jm o b))] else []) ++
  (if a + 2 = o.nr ∧ radialColour b = c then [(a, b, -(coeff2 o a b) * o.arr a b * f (a + 1) b)] else []) ++
  (if a + 1 = o.nr ∧ radialColour b = c then [(a - 1, b, -(coeff1 o a b) * o.arr a b * f a b)] else []) ++
  (if (nc ≤ a ∧ a + 1 < o.nr) ∧ radialColour b ≠ c then [giveBottom o x a b] else []) ++
  (if (nc ≤ a ∧ a + 1 < o.nr) ∧ radialColour b ≠ c then [giveTop o x a b] else [])

theorem radialOrtho_eq (hnc : 2 ≤ nc) (hnr : nc + 3 ≤ o.nr) (c : Colour) (f x : Stencil.Field K) (a b : Nat)
    (ha : nc - 1 ≤ a) (ha' : a < o.nr) : radialOrtho o nc c f x a b = radialGives o nc c f x a b := by
  unfold radialOrtho radialGives
  rcases (by omega : (nc < a ∧ a + 2 < o.nr) ∨ a + 1 = nc ∨ a = nc ∨ a + 2 = o.nr ∨ a + 1 = o.nr) with h | h | h | h | h <;>
    by_cases hc : radialColour b = c <;>
    simp (disch := omega) only [hc, if_pos, if_neg, and_true, and_false, ne_eq, not_true_eq_false, not_false_eq_true,
      if_true, if_false, List.nil_append, List.append_nil, List.cons_append]

theorem radialColour_flip {b b' : Nat} {c : Colour} (h : b % 2 ≠ b' % 2) (hc : radialColour b ≠ c) : radialColour b' = c := by
  cases c
  · rw [ne_eq, radialColour_black_iff] at hc; rw [radialColour_black_iff]; omega
  · rw [ne_eq, radialColour_white_iff] at hc; rw [radialColour_white_iff]; omega

/-- every update of the radial kernel with `smoother_color = c` goes to a radial line of colour `c` -/
theorem radialOrtho_target (hnc : 2 ≤ nc) (hnr : nc + 3 ≤ o.nr) (heven : o.nt % 2 = 0) (c : Colour) (f x : Stencil.Field K)
    (a b : Nat) (ha : nc - 1 ≤ a) (ha' : a < o.nr) (hb : b < o.nt) :
    ∀ u ∈ radialOrtho o nc c f x a b, nc ≤ u.1 ∧ u.1 < o.nr ∧ radialColour u.2.1 = c ∧ u.2.1 < o.nt := by
  have hm := jm_lt o (by omega) b
  have hp := jp_lt o (by omega) b
  intro u hu
  rw [radialOrtho_eq o nc hnc hnr c f x a b ha ha'] at hu
  simp only [radialGives, giveRight, giveBottom, giveTop, List.mem_append, List.mem_ite_nil_right, List.mem_cons,
    List.not_mem_nil, or_false] at hu
  rcases hu with ((((((⟨hG, rfl⟩ | ⟨hG, rfl⟩) | ⟨hG, rfl⟩) | ⟨hG, rfl⟩) | ⟨hG, rfl⟩) | ⟨hG, rfl⟩) | ⟨hG, rfl⟩) | ⟨hG, rfl⟩
  · exact ⟨by omega, by omega, hG.2, hb⟩
  · exact ⟨hG.1.1, ha', hG.2, hb⟩
  · exact ⟨by omega, by omega, hG.2, hb⟩
  · exact ⟨by omega, by omega, hG.2, hb⟩
  · exact ⟨by omega, ha', hG.2, hb⟩
  · exact ⟨by omega, by omega, hG.2, hb⟩
  · exact ⟨hG.1.1, ha', radialColour_flip (b := b) (b' := jm o b) (by have := Stencil.jm_parity o heven hb; omega) hG.2, hm⟩
  · exact ⟨hG.1.1, ha', radialColour_flip (b := b) (b' := jp o b) (by have := Stencil.jp_parity o heven hb; omega) hG.2, hp⟩

/-- the share of node `(a, b)`, `nc - 1 ≤ a < nr`, in `temp(p, q)`, `nc ≤ p < nr`, during the pass of the colour of radial
    line `q` (`nt` even: angular neighbours have the other colour) -/
theorem tval_radialOrtho (hnc : 2 ≤ nc) (hnr : nc + 3 ≤ o.nr) (heven : o.nt % 2 = 0) (f x : Stencil.Field K)
    (p q a b : Nat) (hp : nc ≤ p) (hp' : p < o.nr) (ha : nc - 1 ≤ a) (ha' : a < o.nr) (hb : b < o.nt) :
    tval p q (radialOrtho o nc (radialColour q) f x a b) =
      (if p - 1 = a ∧ q = b then (if a + 1 = nc then (giveRight o x a b).2.2 else 0) else 0)
      + (if p = a ∧ q = b then
          (if a + 1 < o.nr then
            (if a = nc then -(coeff1 o a b) * o.arr a b * x (a - 1) b - coeff3 o a b * o.att a b * x a (jm o b)
                - coeff4 o a b * o.att a b * x a (jp o b)
             else -(coeff3 o a b) * o.att a b * x a (jm o b) - coeff4 o a b * o.att a b * x a (jp o b)) else 0) else 0)
      + (if p + 1 = a ∧ q = b then -quarter * o.art a b * x a (jp o b) + quarter * o.art a b * x a (jm o b) else 0)
      + (if p - 1 = a ∧ q = b then
          (if nc ≤ a ∧ a + 2 < o.nr then quarter * o.art a b * x a (jp o b) - quarter * o.art a b * x a (jm o b) else 0)
          else 0)
      + (if p = a ∧ q = b then (if a + 2 = o.nr then -(coeff2 o a b) * o.arr a b * f (a + 1) b else 0) else 0)
      + (if p + 1 = a ∧ q = b then (if a + 1 = o.nr then -(coeff1 o a b) * o.arr a b * f a b else 0) else 0)
      + (if p = a ∧ q = jm o b then (if a + 1 < o.nr then (giveBottom o x a b).2.2 else 0) else 0)
      + (if p = a ∧ q = jp o b then (if a + 1 < o.nr then (giveTop o x a b).2.2 else 0) else 0) := by
  have hpm := Stencil.jm_parity o heven hb
  have hpp := Stencil.jp_parity o heven hb
  rw [radialOrtho_eq o nc hnc hnr _ f x a b ha ha']
  simp only [radialGives, giveRight, giveBottom, giveTop, tval_append, tval_ite, tval_cons, tval_nil, radialColour_eq_iff,
    ne_eq, add_zero, ← ite_and,
    (by omega : (a + 1 = nc ∧ b % 2 = q % 2) ∧ p = a + 1 ∧ q = b ↔ (p - 1 = a ∧ q = b) ∧ a + 1 = nc),
    (by omega : ((nc ≤ a ∧ a + 1 < o.nr) ∧ b % 2 = q % 2) ∧ p = a ∧ q = b ↔ (p = a ∧ q = b) ∧ a + 1 < o.nr),
    (by omega : ((nc < a ∧ a < o.nr) ∧ b % 2 = q % 2) ∧ p = a - 1 ∧ q = b ↔ p + 1 = a ∧ q = b),
    (by omega : ((nc ≤ a ∧ a + 2 < o.nr) ∧ b % 2 = q % 2) ∧ p = a + 1 ∧ q = b ↔ (p - 1 = a ∧ q = b) ∧ nc ≤ a ∧ a + 2 < o.nr),
    (by omega : (a + 2 = o.nr ∧ b % 2 = q % 2) ∧ p = a ∧ q = b ↔ (p = a ∧ q = b) ∧ a + 2 = o.nr),
    (by omega : (a + 1 = o.nr ∧ b % 2 = q % 2) ∧ p = a - 1 ∧ q = b ↔ (p + 1 = a ∧ q = b) ∧ a + 1 = o.nr),
    (by omega : ((nc ≤ a ∧ a + 1 < o.nr) ∧ ¬ b % 2 = q % 2) ∧ p = a ∧ q = jm o b ↔ (p = a ∧ q = jm o b) ∧ a + 1 < o.nr),
    (by omega : ((nc ≤ a ∧ a + 1 < o.nr) ∧ ¬ b % 2 = q % 2) ∧ p = a ∧ q = jp o b ↔ (p = a ∧ q = jp o b) ∧ a + 1 < o.nr)]

end

theorem tval_eq_zero (p q : Nat) (us : List (TUpd K)) (h : ∀ u ∈ us, ¬ (u.1 = p ∧ u.2.1 = q)) : tval p q us = 0 :=
  Scatter.total_eq_zero _ _ h

theorem tval_flatMap {β : Type} (p q : Nat) (l : List β) (g : β → List (TUpd K)) :
    tval p q (l.flatMap g) = (l.map fun i => tval p q (g i)).sum :=
  Scatter.total_flatMap ..

section
variable (o : Op K) (nc : Nat)

/-! ### circle passes -/

theorem circlePass_targets (hnc : 2 ≤ nc) (hnt : 0 < o.nt) (c : Colour) (x : Stencil.Field K) (imax : Nat)
    (him : imax ≤ nc + 1) :
    ∀ u ∈ (List.range imax).flatMap (circleSection o nc c x), u.1 < nc ∧ circleColour nc u.1 = c ∧ u.2.1 < o.nt := by
  intro u hu
  obtain ⟨a, ha, hu⟩ := List.mem_flatMap.mp hu
  unfold circleSection at hu
  obtain ⟨b, hb, hu⟩ := List.mem_flatMap.mp hu
  exact circleOrtho_target o nc hnc hnt c x a b (by have := List.mem_range.mp ha; omega) (List.mem_range.mp hb) u hu

/-- the white pass runs over the circles only: the first radial node gives nothing to a white circle -/
theorem whitePass_range (hnc : 2 ≤ nc) (x : Stencil.Field K) :
    (List.range nc).flatMap (circleSection o nc .white x) = (List.range (nc + 1)).flatMap (circleSection o nc .white x) := by
  have : circleSection o nc .white x nc = [] := by
    unfold circleSection circleOrtho
    simp only [if_neg (by omega : ¬ (0 < nc ∧ nc < nc)), if_neg (by omega : ¬ nc = 0), if_true, reduceCtorEq, if_false]
    simp
  rw [List.range_succ, List.flatMap_append, List.flatMap_singleton, this, List.append_nil]

theorem circlePass_off (hnc : 2 ≤ nc) (hnt : 0 < o.nt) (c : Colour) (x : Stencil.Field K) (imax : Nat) (him : imax ≤ nc + 1)
    (t : Array K) (p q : Nat) (hq : q < o.nt) (hlt : p * o.nt + q < t.size) (hoff : ¬ (p < nc ∧ circleColour nc p = c)) :
    fld o.nt (applyAll o.nt t ((List.range imax).flatMap (circleSection o nc c x))) p q = fld o.nt t p q := by
  have ht := circlePass_targets o nc hnc hnt c x imax him
  rw [applyAll_fld o.nt _ (fun u hu => (ht u hu).2.2) p q hq t hlt, tval_eq_zero, sub_zero]
  intro u hu h
  apply hoff
  rw [← h.1]
  exact ⟨(ht u hu).1, (ht u hu).2.1⟩

/-- **on a circle of the pass colour `temp` becomes `rhs - A_sc^ortho x`** -/
theorem circlePass_on (hnc : 2 ≤ nc) (hnt : 0 < o.nt) (f x : Stencil.Field K) (t : Array K)
    (p q : Nat) (hp : p < nc) (hq : q < o.nt) (hlt : p * o.nt + q < t.size) (hf : fld o.nt t p q = f p q) :
    fld o.nt (applyAll o.nt t ((List.range (nc + 1)).flatMap (circleSection o nc (circleColour nc p) x))) p q
      = orthoCircle o nc f x p q := by
  have ht := circlePass_targets o nc hnc hnt (circleColour nc p) x (nc + 1) (le_refl _)
  rw [applyAll_fld o.nt _ (fun u hu => (ht u hu).2.2) p q hq t hlt, hf, tval_flatMap, list_range_sum]
  have e : ∀ a, tval p q (circleSection o nc (circleColour nc p) x a)
      = ∑ b ∈ range o.nt, tval p q (circleOrtho o nc (circleColour nc p) x a b) := by
    intro a; unfold circleSection; rw [tval_flatMap, list_range_sum]
  simp only [e]
  unfold orthoCircle
  rcases Nat.eq_zero_or_pos p with rfl | hp0
  · rw [if_neg (by omega), if_pos rfl]
    cases hbc : o.bc
    · rw [sum_grid_congr (fun a ha b _ => tval_circleOrtho_zero o nc hnc hbc x q a b (by omega))]
      simp only [Finset.sum_add_distrib]
      rw [sum_row_lt (by omega), sum_row_lt (by omega), sum_row_lt (by omega), sum_row_lt (by omega), sum_ite_self hq,
        sum_ite_jm o hq, sum_ite_jp o hq, sum_ite_self hq]
      simp only [giveLeft, Bool.false_eq_true, if_false, coeff1_succ, Nat.sub_self]
      ring
    · rw [sum_grid_congr (fun a ha b _ => tval_circleOrtho_dirichlet o nc hnc hbc x q a b (by omega))]
      simp only [Finset.sum_const_zero, sub_zero, if_true]
  · rw [if_pos ⟨hp0, hp⟩, sum_grid_congr (fun a ha b _ => tval_circleOrtho o nc hnc x p q a b hp0 hp (by omega))]
    simp only [Finset.sum_add_distrib]
    rw [sum_row_lt (by omega), sum_row_lt (by omega), sum_row_lt (by omega), sum_row_lt (by omega),
      sum_row_succ_pos hp0 (by omega), sum_ite_self hq, sum_ite_jm o hq, sum_ite_jp o hq, sum_ite_self hq, sum_ite_self hq]
    simp only [giveLeft, giveRight, diagTerms, Nat.add_sub_cancel, Nat.sub_add_cancel hp0, coeff1_succ,
      coeff2_pred o q hp0]
    ring

/-! ### radial passes -/

theorem radialPass_targets (hnc : 2 ≤ nc) (hnr : nc + 3 ≤ o.nr) (heven : o.nt % 2 = 0) (c : Colour) (f x : Stencil.Field K) :
    ∀ u ∈ (List.range o.nt).flatMap (radialSection o nc c f x),
      nc ≤ u.1 ∧ u.1 < o.nr ∧ radialColour u.2.1 = c ∧ u.2.1 < o.nt := by
  intro u hu
  obtain ⟨b, hb, hu⟩ := List.mem_flatMap.mp hu
  unfold radialSection at hu
  obtain ⟨s, hs, hu⟩ := List.mem_flatMap.mp hu
  exact radialOrtho_target o nc hnc hnr heven c f x (nc - 1 + s) b (by omega) (by have := List.mem_range.mp hs; omega)
    (List.mem_range.mp hb) u hu

theorem radialPass_off (hnc : 2 ≤ nc) (hnr : nc + 3 ≤ o.nr) (heven : o.nt % 2 = 0) (c : Colour) (f x : Stencil.Field K)
    (t : Array K) (p q : Nat) (hq : q < o.nt) (hlt : p * o.nt + q < t.size) (hoff : ¬ (nc ≤ p ∧ radialColour q = c)) :
    fld o.nt (applyAll o.nt t ((List.range o.nt).flatMap (radialSection o nc c f x))) p q = fld o.nt t p q := by
  have ht := radialPass_targets o nc hnc hnr heven c f x
  rw [applyAll_fld o.nt _ (fun u hu => (ht u hu).2.2.2) p q hq t hlt, tval_eq_zero, sub_zero]
  intro u hu h
  apply hoff
  rw [← h.1, ← h.2]
  exact ⟨(ht u hu).1, (ht u hu).2.2.1⟩

/-- **on a radial line of the pass colour `temp` becomes `rhs - A_sc^ortho x`** -/
theorem radialPass_on (hnc : 2 ≤ nc) (hnr : nc + 3 ≤ o.nr) (heven : o.nt % 2 = 0) (f x : Stencil.Field K) (t : Array K)
    (p q : Nat) (hp : nc ≤ p) (hp' : p < o.nr) (hq : q < o.nt) (hlt : p * o.nt + q < t.size) (hf : fld o.nt t p q = f p q) :
    fld o.nt (applyAll o.nt t ((List.range o.nt).flatMap (radialSection o nc (radialColour q) f x))) p q
      = orthoRadial o nc f x p q := by
  have ht := radialPass_targets o nc hnc hnr heven (radialColour q) f x
  rw [applyAll_fld o.nt _ (fun u hu => (ht u hu).2.2.2) p q hq t hlt, hf, tval_flatMap, list_range_sum]
  have e : ∀ b, tval p q (radialSection o nc (radialColour q) f x b)
      = ∑ s ∈ range (o.nr - (nc - 1)), tval p q (radialOrtho o nc (radialColour q) f x (nc - 1 + s) b) := by
    intro b; unfold radialSection; rw [tval_flatMap, list_range_sum]
  simp only [e]
  rw [Finset.sum_comm,
    sum_grid_congr (fun s hs b hb => tval_radialOrtho o nc hnc hnr heven f x p q (nc - 1 + s) b hp hp' (by omega)
      (by omega) hb)]
  simp only [Finset.sum_add_distrib, sum_row_shift, sum_ite_self hq, sum_ite_jm o hq, sum_ite_jp o hq]
  have e0 : nc - 1 + (p - (nc - 1)) = p := by omega
  have e1 : nc - 1 + (p - 1 - (nc - 1)) = p - 1 := by omega
  have e2 : nc - 1 + (p + 1 - (nc - 1)) = p + 1 := by omega
  have e3 : p - 1 + 1 = p := by omega
  unfold orthoRadial
  by_cases hlast : p + 1 = o.nr
  · simp (disch := omega) only [e0, e1, if_pos, if_neg, add_zero, sub_zero]
  · simp (disch := omega) only [if_pos]
    simp only [e0, e1, e2, e3, giveRight, giveBottom, giveTop, diagTerms, coeff3_jp o p hq, coeff4_jm, coeff1_succ,
      coeff2_pred o q (by omega : 0 < p)]
    rcases (by omega : p = nc ∨ (nc < p ∧ p + 2 < o.nr) ∨ (nc < p ∧ p + 2 = o.nr)) with h | h | h
    · simp (disch := omega) only [if_pos, if_neg, add_zero]
      ring
    · simp (disch := omega) only [if_pos, if_neg, add_zero, zero_add]
      ring
    · simp (disch := omega) only [if_pos, if_neg, zero_add]
      ring

end
end SmootherGiveCode
