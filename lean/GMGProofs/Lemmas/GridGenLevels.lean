import GMGProofs.Lemmas.GridGenBasic
/-!
# `chooseNumberOfLevels`
-/
namespace GridGenL
open GridGen

/-- radial size after `l` coarsenings (`n ↦ (n+1)/2`) -/
def coarsenR : Nat → Nat → Nat
  | 0, n => n
  | l + 1, n => coarsenR l ((n + 1) / 2)
/-- angular size after `l` coarsenings (`n ↦ n/2`) -/
def coarsenT : Nat → Nat → Nat
  | 0, n => n
  | l + 1, n => coarsenT l (n / 2)

theorem coarsenR_eq_iterate : ∀ l n, coarsenR l n = (fun n => (n + 1) / 2)^[l] n
  | 0, _ => rfl
  | l + 1, _ => coarsenR_eq_iterate l _

theorem coarsenT_eq_iterate : ∀ l n, coarsenT l n = (fun n => n / 2)^[l] n
  | 0, _ => rfl
  | l + 1, _ => coarsenT_eq_iterate l _

/-- A level counter `f` that, given fuel, counts one more level as long as the test `c` holds and then moves on to the
coarser size `nx n`, can only reach `l + 2` when `c` held at the first `l + 1` sizes. -/
theorem fuel_spec (c : Nat → Prop) [DecidablePred c] (nx : Nat → Nat) (f : Nat → Nat → Nat) (hf0 : ∀ n, f 0 n = 1)
    (hf : ∀ k n, f (k + 1) n = if c n then 1 + f k (nx n) else 1) :
    ∀ fuel n, 1 ≤ f fuel n ∧ ∀ l, l + 1 < f fuel n → c (nx^[l] n)
  | 0, n => by rw [hf0]; exact ⟨le_refl 1, fun l hl => by omega⟩
  | fuel + 1, n => by
    rw [hf]
    split
    · refine ⟨by omega, fun l hl => ?_⟩
      cases l with
      | zero => assumption
      | succ l => exact (fuel_spec c nx f hf0 hf fuel (nx n)).2 l (by omega)
    · exact ⟨le_refl 1, fun l hl => by omega⟩

theorem radialMax_pos (fuel n : Nat) : 1 ≤ radialMax fuel n :=
  (fuel_spec _ _ radialMax (fun _ => rfl) (fun _ _ => rfl) fuel n).1

theorem angularMax_pos (fuel n : Nat) : 1 ≤ angularMax fuel n :=
  (fuel_spec _ _ angularMax (fun _ => rfl) (fun _ _ => rfl) fuel n).1

theorem radialMax_spec (fuel : Nat) : ∀ n L, L ≤ radialMax fuel n → ∀ l, l + 1 < L →
    coarsenR l n % 2 = 1 ∧ 5 ≤ coarsenR (l + 1) n := by
  intro n L hL l hl
  have := (fuel_spec _ _ radialMax (fun _ => rfl) (fun _ _ => rfl) fuel n).2 l (by omega)
  rw [coarsenR_eq_iterate, coarsenR_eq_iterate, Function.iterate_succ_apply']
  omega

theorem angularMax_spec (fuel : Nat) : ∀ n L, L ≤ angularMax fuel n → ∀ l, l + 1 < L →
    coarsenT l n % 4 = 0 ∧ 4 ≤ coarsenT (l + 1) n := by
  intro n L hL l hl
  have := (fuel_spec _ _ angularMax (fun _ => rfl) (fun _ _ => rfl) fuel n).2 l (by omega)
  rw [coarsenT_eq_iterate, coarsenT_eq_iterate, Function.iterate_succ_apply']
  omega

theorem chooseLevels_ok_iff {nr nt : Nat} {maxLevels : Int} {L : Nat} :
    chooseLevels nr nt maxLevels = .ok L ↔ 2 ≤ L ∧
      L = if maxLevels > 0 then min maxLevels.toNat (min (radialMax nr nr) (angularMax nt nt))
          else min (radialMax nr nr) (angularMax nt nt) := by
  unfold chooseLevels
  rw [guard_eq_ok_iff, Out.ok.injEq]
  omega

theorem chooseLevels_noUB (nr nt : Nat) (maxLevels : Int) : (chooseLevels nr nt maxLevels).NoUB :=
  .guard _ (.ok _)

theorem chooseLevels_ok {nr nt : Nat} {maxLevels : Int} {L : Nat} (h : chooseLevels nr nt maxLevels = .ok L) :
    2 ≤ L ∧ L ≤ radialMax nr nr ∧ L ≤ angularMax nt nt := by
  obtain ⟨h2, rfl⟩ := chooseLevels_ok_iff.mp h
  refine ⟨h2, ?_⟩
  split <;> omega

end GridGenL
