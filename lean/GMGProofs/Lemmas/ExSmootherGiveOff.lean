import GMGProofs.Lemmas.ExSmootherGiveStores
/-!
# Code-level extrapolated smoother (give): the off-diagonal entries

An off-diagonal slot stores a matrix entry (row node, column node): `sub_diagonal(q)` of an odd circle is the entry
`((i,q),(i,q+1))`, its `cyclic_corner_element()` the entry `((i,0),(i,nt-1))`, `sub_diagonal(t)` of an odd radial line the
entry `((nc+t,j),(nc+t+1,j))`, slot 1 of row `r` of the inner matrix the entry `((0,r),(0,ja r))`.  Only the stores into the
node's own odd circle or odd radial line, and the two `Left` stores across the origin, are off the diagonal; every entry has
one or two givers.
-/
namespace ExSmootherGiveCode
open Stencil SparseLU SmootherCode Scalar Finset GiveCommon
open DirectCode (Pos)
open DirectGiveCode (massValue diagValue nodeOrder)
open ExSmootherCode (innerNnz)
variable {K : Type} [_root_.Field K]

section
variable (T : Tables) (o : Op K) (nc : Nat)


/-- the off-diagonal matrix entry a slot stores: row node, column node -/
def offEntry : Arr → Nat → Option (Nat × Nat × Nat × Nat)
  | .ctSub k, q => some (2 * k + 1, q, 2 * k + 1, q + 1)
  | .ctCorner k, _ => some (2 * k + 1, 0, 2 * k + 1, o.nt - 1)
  | .rtSub k, t => some (nc + t, 2 * k + 1, nc + t + 1, 2 * k + 1)
  | .rtCorner k, _ => some (nc, 2 * k + 1, o.nr - 1, 2 * k + 1)
  | .inner r, q => if q = 1 then some (0, r, 0, ja o r) else none
  | _, _ => none

def offOf (u : Upd K) : Option (Nat × Nat × Nat × Nat) :=
  match target o nc u with
  | .slot a q => offEntry o nc a q
  | _ => none

section
omit [_root_.Field K]

theorem offOf_ctri (k r c : Nat) (v : K) :
    offOf o nc (.ctri k r c v) =
      if r = c then none
      else if r + 1 = c then some (2 * k + 1, r, 2 * k + 1, r + 1)
      else if r = 0 ∧ c + 1 = o.nt then some (2 * k + 1, 0, 2 * k + 1, o.nt - 1) else none :=
  apply_triTarget (fun t => match t with | .slot a q => offEntry o nc a q | _ => none) ..

theorem offOf_rtri (k r c : Nat) (v : K) :
    offOf o nc (.rtri k r c v) =
      if r = c then none
      else if r + 1 = c then some (nc + r, 2 * k + 1, nc + r + 1, 2 * k + 1)
      else if r = 0 ∧ c + 1 = o.nr - nc then some (nc, 2 * k + 1, o.nr - 1, 2 * k + 1) else none :=
  apply_triTarget (fun t => match t with | .slot a q => offEntry o nc a q | _ => none) ..

theorem offOf_csr_zero (r c : Nat) (v : K) : offOf o nc (.csr r 0 c v) = none := rfl
theorem offOf_csr_one (r c : Nat) (v : K) : offOf o nc (.csr r 1 c v) = some (0, r, 0, ja o r) := rfl

end

set_option linter.unusedSectionVars false in
theorem offOf_cdiag (k r : Nat) (v : K) : offOf o nc (.cdiag k r v) = none := rfl
set_option linter.unusedSectionVars false in
theorem offOf_rdiag (k r : Nat) (v : K) : offOf o nc (.rdiag k r v) = none := rfl

/-- total value a list of stores addresses to the off-diagonal entry `e` -/
def osum (us : List (Upd K)) (e : Nat × Nat × Nat × Nat) : K :=
  (us.map fun u => if offOf o nc u = some e then u.val else 0).sum

theorem osum_eq_total (us : List (Upd K)) (e : Nat × Nat × Nat × Nat) :
    osum o nc us e = Scatter.total (fun u => offOf o nc u = some e) Upd.val us := rfl

@[simp] theorem osum_nil (e : Nat × Nat × Nat × Nat) : osum o nc ([] : List (Upd K)) e = 0 := rfl
theorem osum_cons (u : Upd K) (l : List (Upd K)) (e : Nat × Nat × Nat × Nat) :
    osum o nc (u :: l) e = (if offOf o nc u = some e then u.val else 0) + osum o nc l e :=
  Scatter.total_cons ..
theorem osum_append (l l' : List (Upd K)) (e : Nat × Nat × Nat × Nat) :
    osum o nc (l ++ l') e = osum o nc l e + osum o nc l' e :=
  Scatter.total_append ..

theorem osum_cons_none {u : Upd K} (h : offOf o nc u = none) (l : List (Upd K)) (e : Nat × Nat × Nat × Nat) :
    osum o nc (u :: l) e = osum o nc l e := by
  rw [osum_cons, h, if_neg nofun, zero_add]

section
omit [_root_.Field K]

theorem offOf_ctri_self (k r : Nat) (v : K) : offOf o nc (.ctri k r r v) = none := by rw [offOf_ctri, if_pos rfl]
theorem offOf_rtri_self (k r : Nat) (v : K) : offOf o nc (.rtri k r r v) = none := by rw [offOf_rtri, if_pos rfl]

/-- "row == column + 1": the macro has no branch for the lower off-diagonal -/
theorem offOf_rtri_lower (k : Nat) {r c : Nat} (v : K) (h : c + 1 = r) : offOf o nc (.rtri k r c v) = none := by
  rw [offOf_rtri, if_neg (by omega), if_neg (by omega), if_neg (by omega)]

theorem offOf_rtri_upper (k : Nat) {r c : Nat} (v : K) (h : r + 1 = c) :
    offOf o nc (.rtri k r c v) = some (nc + r, 2 * k + 1, nc + r + 1, 2 * k + 1) := by
  rw [offOf_rtri, if_neg (by omega), if_pos h]

end

/-- what node `(i, j)` adds to the off-diagonal entries of its own odd circle -/
def oCirc (i j : Nat) (e : Nat × Nat × Nat × Nat) : K :=
  (if (i % 2 = 1 ∧ 0 < i ∧ i < nc) ∧ j = 0 ∧ (i, 0, i, o.nt - 1) = e then -(coeff3 o i j) * o.att i j else 0)
    + (if (i % 2 = 1 ∧ 0 < i ∧ i < nc) ∧ j + 1 < o.nt ∧ (i, j, i, j + 1) = e then -(coeff4 o i j) * o.att i j else 0)
    + (if (i % 2 = 1 ∧ 0 < i ∧ i < nc) ∧ 0 < j ∧ (i, j - 1, i, j) = e then -(coeff3 o i j) * o.att i j else 0)
    + (if (i % 2 = 1 ∧ 0 < i ∧ i < nc) ∧ j + 1 = o.nt ∧ (i, 0, i, o.nt - 1) = e then -(coeff4 o i j) * o.att i j else 0)

theorem oCirc_of_not {i : Nat} (j : Nat) (e : Nat × Nat × Nat × Nat) (h : ¬ (i % 2 = 1 ∧ 0 < i ∧ i < nc)) :
    oCirc o nc i j e = 0 := by
  have n : ∀ A : Prop, ¬ ((i % 2 = 1 ∧ 0 < i ∧ i < nc) ∧ A) := fun _ hh => h hh.1
  rw [oCirc, if_neg (n _), if_neg (n _), if_neg (n _), if_neg (n _)]
  simp only [add_zero]

/-! the four stores off the diagonal of an odd circle (`nt ≥ 3`): "Bottom" of node `0` is the corner element, "Top" the
    sub-diagonal entry unless `j = nt - 1`, where it is the corner; the rows of `(i, j-1)`, `(i, j+1)` symmetrically -/
section circle
variable (hnt : 3 ≤ o.nt) (k : Nat) {j : Nat} (hj : j < o.nt) (v : K)
include hnt hj

omit [_root_.Field K] in
theorem offOf_ctri_jm :
    offOf o nc (.ctri k j (jm o j) v) = if j = 0 then some (2 * k + 1, 0, 2 * k + 1, o.nt - 1) else none := by
  rw [offOf_ctri, jm_eq o hj]
  by_cases h : j = 0
  · subst h
    rw [if_pos rfl, if_pos rfl, if_neg (by omega), if_neg (by omega), if_pos ⟨rfl, by omega⟩]
  · rw [if_neg h, if_neg h, if_neg (by omega), if_neg (by omega), if_neg fun hh => h hh.1]

omit [_root_.Field K] in
theorem offOf_ctri_jp :
    offOf o nc (.ctri k j (jp o j) v) = if j + 1 < o.nt then some (2 * k + 1, j, 2 * k + 1, j + 1) else none := by
  rw [offOf_ctri, jp_eq o hj]
  by_cases h : j + 1 = o.nt
  · rw [if_pos h, if_neg (by omega), if_neg (by omega), if_neg (by omega), if_neg (by omega)]
  · rw [if_neg h, if_neg (by omega), if_pos rfl, if_pos (by omega)]

omit [_root_.Field K] in
theorem offOf_jm_ctri :
    offOf o nc (.ctri k (jm o j) j v) = if 0 < j then some (2 * k + 1, j - 1, 2 * k + 1, j) else none := by
  rw [offOf_ctri, jm_eq o hj]
  by_cases h : j = 0
  · subst h
    rw [if_pos rfl, if_neg (by omega), if_neg (by omega), if_neg (by omega), if_neg (by omega)]
  · rw [if_neg h, if_neg (by omega), if_pos (by omega), if_pos (by omega), show j - 1 + 1 = j by omega]

omit [_root_.Field K] in
theorem offOf_jp_ctri :
    offOf o nc (.ctri k (jp o j) j v) = if j + 1 = o.nt then some (2 * k + 1, 0, 2 * k + 1, o.nt - 1) else none := by
  rw [offOf_ctri, jp_eq o hj]
  by_cases h : j + 1 = o.nt
  · rw [if_pos h, if_pos h, if_neg (by omega), if_neg (by omega), if_pos ⟨rfl, h⟩]
  · rw [if_neg h, if_neg h, if_neg (by omega), if_neg (by omega), if_neg (by omega)]

theorem osum_circleTriRows {i : Nat} (hi : i % 2 = 1 ∧ 0 < i ∧ i < nc) (e : Nat × Nat × Nat × Nat) :
    osum o nc (circleTriRows o i j) e = oCirc o nc i j e := by
  have hI : 2 * (i / 2) + 1 = i := by omega
  unfold circleTriRows oCirc
  simp only [osum_cons, osum_nil, offOf_ctri_self, offOf_ctri_jm o nc hnt _ hj, offOf_ctri_jp o nc hnt _ hj,
    offOf_jm_ctri o nc hnt _ hj, offOf_jp_ctri o nc hnt _ hj, Upd.val, hI, Option.ite_none_right_eq_some,
    Option.some.injEq, reduceCtorEq, if_false, hi, true_and, add_zero, zero_add, add_assoc]

end circle

/-- … of its own odd radial line: "Right", and "Fill matrix row of (i-1,j)" -/
def oRad (i j : Nat) (e : Nat × Nat × Nat × Nat) : K :=
  (if j % 2 = 1 ∧ nc ≤ i ∧ i + 2 < o.nr ∧ (i, j, i + 1, j) = e then -(coeff2 o i j) * o.arr i j else 0)
    + (if j % 2 = 1 ∧ nc < i ∧ i + 1 < o.nr ∧ (i - 1, j, i, j) = e then -(coeff1 o i j) * o.arr i j else 0)

/-- … across the origin: "Left", and "Fill matrix row of (i-1,j)" in the row of the antipode -/
def oInner (i j : Nat) (e : Nat × Nat × Nat × Nat) : K :=
  (if i = 0 ∧ o.bc = false ∧ j % 2 = 1 ∧ (0, j, 0, ja o j) = e then -(coeff1 o i j) * o.arr i j else 0)
    + (if i = 0 ∧ o.bc = false ∧ j % 2 = 1 ∧ (0, ja o j, 0, ja o (ja o j)) = e then -(coeff1 o i j) * o.arr i j else 0)

/-- what node `(i, j)` adds to the off-diagonal entry `e` -/
def oRhs (i j : Nat) (e : Nat × Nat × Nat × Nat) : K := oCirc o nc i j e + oRad o nc i j e + oInner o i j e

theorem oRad_of_not {i j : Nat} (e : Nat × Nat × Nat × Nat) (h : ¬ (j % 2 = 1 ∧ nc ≤ i)) : oRad o nc i j e = 0 := by
  rw [oRad, if_neg fun hh => h ⟨hh.1, hh.2.1⟩, if_neg fun hh => h ⟨hh.1, hh.2.1.le⟩, add_zero]

theorem oInner_of_not {i j : Nat} (e : Nat × Nat × Nat × Nat) (h : ¬ (i = 0 ∧ o.bc = false ∧ j % 2 = 1)) :
    oInner o i j e = 0 := by
  rw [oInner, if_neg fun hh => h ⟨hh.1, hh.2.1, hh.2.2.1⟩, if_neg fun hh => h ⟨hh.1, hh.2.1, hh.2.2.1⟩, add_zero]

theorem osum_eq_zero {l : List (Upd K)} (h : ∀ u ∈ l, offOf o nc u = none) (e : Nat × Nat × Nat × Nat) :
    osum o nc l e = 0 :=
  Scatter.total_eq_zero _ _ fun u hu => by rw [h u hu]; nofun

theorem osum_node (hT : GoodTables T) (hnc : 3 ≤ nc) (hnr : nc + 3 ≤ o.nr) (hodd : o.nr % 2 = 1)
    (hnt : 3 ≤ o.nt) (i j r1 r2 c1 c2 : Nat) (hi : i < o.nr) (hj : j < o.nt) :
    osum o nc (nodeUpdates T o nc i j) (r1, r2, c1, c2) = oRhs o nc i j (r1, r2, c1, c2) := by
  generalize (r1, r2, c1, c2) = e
  rw [oRhs]
  rcases branches o nc i hi with h | h | h | h | h | h | h
  · rw [nodeUpdates_circ T o nc j h, oRad_of_not o nc e (by omega), oInner_of_not o e (by omega), add_zero, add_zero,
      off_center T o hT]
    by_cases hio : i % 2 = 1
    · rw [if_pos hio, osum_append, osum_circleTriRows o nc hnt hj ⟨hio, h.1, by omega⟩, osum_eq_zero o nc ?_ e, add_zero]
      split_ifs <;> simp only [List.cons_append, List.nil_append, List.forall_mem_cons, offOf_cdiag, offOf_csr_zero,
        List.not_mem_nil, false_imp_iff, implies_true, and_true]
    · rw [if_neg hio, oCirc_of_not o nc j e fun hh => hio hh.1, osum_eq_zero o nc ?_ e]
      split_ifs <;> simp only [List.cons_append, List.nil_append, List.forall_mem_cons, offOf_cdiag, offOf_ctri_self,
        List.not_mem_nil, false_imp_iff, implies_true, and_true]
  · rw [nodeUpdates_rad T o nc j h, oCirc_of_not o nc j e (by omega), oInner_of_not o e (by omega), zero_add, add_zero]
    by_cases hjo : j % 2 = 1
    · have eJ : 2 * (j / 2) + 1 = j := by omega
      have ec : nc + (i - nc) = i := by omega
      have el : nc + (i - nc - 1) = i - 1 := by omega
      have e1 : i - 1 + 1 = i := by omega
      have g6 : i + 1 < o.nr := by omega
      rw [if_pos hjo, osum_append, osum_eq_zero o nc (l := ite _ _ _) ?_ e, oRad]
      · simp only [osum_cons, osum_nil, offOf_rtri_self, offOf_rtri_lower o nc _ _ (show i - nc - 1 + 1 = i - nc by omega),
          offOf_rtri_lower o nc _ _ (rfl : i - nc + 1 = i - nc + 1), offOf_rtri_upper o nc _ _ (rfl : i - nc + 1 = i - nc + 1),
          offOf_rtri_upper o nc _ _ (show i - nc - 1 + 1 = i - nc by omega), Upd.val, eJ, ec, el, e1, Option.some.injEq,
          reduceCtorEq, g6, hjo, h.1, h.1.le, h.2, true_and, if_false, add_zero, zero_add]
      · split_ifs <;> simp only [List.forall_mem_cons, offOf_rdiag, List.not_mem_nil, false_imp_iff, implies_true, and_true]
    · rw [if_neg hjo, oRad_of_not o nc e fun hh => hjo hh.1, osum_eq_zero o nc ?_ e]
      split_ifs <;> simp only [List.cons_append, List.nil_append, List.forall_mem_cons, offOf_rdiag, offOf_rtri_self,
        List.not_mem_nil, false_imp_iff, implies_true, and_true]
  · rw [h, nodeUpdates_zero T o nc j hnc, oCirc_of_not o nc j e (by omega), oRad_of_not o nc e (by omega),
      add_zero (0 : K), zero_add (oInner o 0 j e), off_center T o hT]
    cases hb : o.bc
    · rw [if_neg nofun]
      by_cases hjo : j % 2 = 1
      · rw [if_pos hjo, off_left T o hT j hjo hb, oInner]
        simp only [osum_cons, osum_nil, offOf_csr_zero, offOf_csr_one, offOf_ctri_self, Upd.val, Option.some.injEq,
          reduceCtorEq, hb, hjo, true_and, if_false, add_zero, zero_add]
      · rw [if_neg hjo, oInner_of_not o e fun hh => hjo hh.2.2, osum_eq_zero o nc ?_ e]
        simp only [List.forall_mem_cons, offOf_csr_zero, offOf_ctri_self, List.not_mem_nil, false_imp_iff, implies_true,
          and_true]
    · rw [if_pos rfl, oInner_of_not o e fun hh => (by rw [hb] at hh; cases hh.2.1), osum_eq_zero o nc ?_ e]
      simp only [List.forall_mem_cons, offOf_csr_zero, offOf_ctri_self, List.not_mem_nil, false_imp_iff, implies_true,
        and_true]
  · rw [nodeUpdates_lastCirc T o nc j hnc h, oRad_of_not o nc e (by omega), oInner_of_not o e (by omega), add_zero,
      add_zero]
    by_cases hio : i % 2 = 1
    · have hc := osum_circleTriRows o nc hnt hj ⟨hio, by omega, by omega⟩ e
      rw [if_pos hio]
      by_cases hjo : j % 2 = 1
      · rw [if_pos hjo, osum_append, hc, osum_eq_zero o nc ?_ e, add_zero]
        simp only [List.forall_mem_cons, offOf_cdiag, offOf_rtri_self, List.not_mem_nil, false_imp_iff, implies_true,
          and_true]
      · rw [if_neg hjo, hc]
    · rw [if_neg hio, oCirc_of_not o nc j e fun hh => hio hh.1, osum_eq_zero o nc ?_ e]
      split_ifs <;> simp only [List.forall_mem_cons, offOf_cdiag, offOf_rdiag, offOf_ctri_self, offOf_rtri_self,
        List.not_mem_nil, false_imp_iff, implies_true, and_true]
  · rw [h, nodeUpdates_firstRad T o nc j hnc, oCirc_of_not o nc j e (by omega), oInner_of_not o e (by omega), zero_add,
      add_zero]
    by_cases hjo : j % 2 = 1
    · have eJ : 2 * (j / 2) + 1 = j := by omega
      have g5 : nc + 2 < o.nr := by omega
      rw [if_pos hjo, oRad]
      by_cases hio : nc % 2 = 1
      · rw [if_pos hio]
        simp only [osum_cons, osum_nil, offOf_rtri_self, offOf_cdiag, offOf_rdiag,
          offOf_rtri_lower o nc _ _ (rfl : 0 + 1 = 1), offOf_rtri_upper o nc _ _ (rfl : 0 + 1 = 1), Upd.val, eJ,
          Option.some.injEq, reduceCtorEq, g5, hjo, Nat.le_refl, Nat.lt_irrefl, true_and, false_and,
          and_false, if_false, add_zero, zero_add]
      · rw [if_neg hio]
        simp only [osum_cons, osum_nil, offOf_rtri_self, offOf_ctri_self,
          offOf_rtri_lower o nc _ _ (rfl : 0 + 1 = 1), offOf_rtri_upper o nc _ _ (rfl : 0 + 1 = 1), Upd.val, eJ,
          Option.some.injEq, reduceCtorEq, g5, hjo, Nat.le_refl, Nat.lt_irrefl, true_and, false_and,
          and_false, if_false, add_zero, zero_add]
    · rw [if_neg hjo, oRad_of_not o nc e fun hh => hjo hh.1, osum_eq_zero o nc ?_ e]
      split_ifs <;> simp only [List.forall_mem_cons, offOf_rdiag, offOf_rtri_self, offOf_ctri_self, List.not_mem_nil,
        false_imp_iff, implies_true, and_true]
  · rw [nodeUpdates_penult T o nc j hnc hnr h, oCirc_of_not o nc j e (by omega), oInner_of_not o e (by omega), zero_add,
      add_zero]
    by_cases hjo : j % 2 = 1
    · have eJ : 2 * (j / 2) + 1 = j := by omega
      have el : nc + (i - nc - 1) = i - 1 := by omega
      have e1 : i - 1 + 1 = i := by omega
      have g5 : ¬ i + 2 < o.nr := by omega
      have g6 : nc < i ∧ i + 1 < o.nr := by omega
      rw [if_pos hjo, oRad]
      simp only [osum_cons, osum_nil, offOf_rtri_self, offOf_rdiag,
        offOf_rtri_lower o nc _ _ (show i - nc - 1 + 1 = i - nc by omega),
        offOf_rtri_upper o nc _ _ (show i - nc - 1 + 1 = i - nc by omega), Upd.val, eJ, el, e1, Option.some.injEq,
        reduceCtorEq, g5, g6, hjo, true_and, false_and, and_false, if_false, add_zero, zero_add]
    · rw [if_neg hjo, oRad_of_not o nc e fun hh => hjo hh.1, osum_eq_zero o nc ?_ e]
      simp only [List.forall_mem_cons, offOf_rdiag, offOf_rtri_self, List.not_mem_nil, false_imp_iff, implies_true,
        and_true]
  · have g5 : ¬ i + 2 < o.nr := by omega
    have g6 : ¬ i + 1 < o.nr := by omega
    rw [nodeUpdates_last T o nc j hnc hnr h, oCirc_of_not o nc j e (by omega), oInner_of_not o e (by omega), oRad,
      osum_eq_zero o nc ?_ e]
    · simp only [g5, g6, false_and, and_false, if_false, add_zero]
    · split_ifs <;> simp only [List.forall_mem_cons, offOf_rdiag, offOf_rtri_self, List.not_mem_nil, false_imp_iff,
        implies_true, and_true]

/-- the slot that holds an off-diagonal entry -/
def offSlot (e : Nat × Nat × Nat × Nat) : Arr × Nat :=
  if e.1 = 0 then (.inner e.2.1, 1)
  else if e.1 < nc then (if e.2.2.2 = e.2.1 + 1 then (.ctSub (e.1 / 2), e.2.1) else (.ctCorner (e.1 / 2), 0))
  else if e.2.2.1 = e.1 + 1 then (.rtSub (e.2.1 / 2), e.1 - nc) else (.rtCorner (e.2.1 / 2), 0)

omit [_root_.Field K] in
theorem offSlot_offEntry (hnc : 3 ≤ nc) (hnr : nc + 3 ≤ o.nr) (hnt : 3 ≤ o.nt) {a : Arr} {q : Nat}
    {e : Nat × Nat × Nat × Nat} (h : offEntry o nc a q = some e) (hq : q < alloc o nc a) : offSlot nc e = (a, q) := by
  unfold offSlot
  cases a <;> simp only [offEntry, alloc, lt_ite_zero, reduceCtorEq, Option.ite_none_right_eq_some, Option.some.injEq]
    at h hq
  case ctSub k => subst h; rw [if_neg (by omega), if_pos (by omega), if_pos rfl, show (2 * k + 1) / 2 = k by omega]
  case ctCorner k =>
    subst h
    dsimp only
    rw [if_neg (by omega), if_pos (by omega), if_neg (by omega), show (2 * k + 1) / 2 = k by omega,
      show q = 0 by omega]
  case rtSub k =>
    subst h; rw [if_neg (by omega), if_neg (by omega), if_pos rfl, show (2 * k + 1) / 2 = k by omega,
      Nat.add_sub_cancel_left]
  case rtCorner k =>
    subst h
    dsimp only
    rw [if_neg (by omega), if_neg (by omega), if_neg (by omega), show (2 * k + 1) / 2 = k by omega, show q = 0 by omega]
  case inner r => obtain ⟨rfl, rfl⟩ := h; rfl

theorem slotSum_off (hT : GoodTables T) (hnc : 3 ≤ nc) (hnr : nc + 3 ≤ o.nr) (hnt : 3 ≤ o.nt)
    (heven : o.nt % 2 = 0) (h4 : o.bc = false → o.nt % 4 = 0) {a : Arr} {q : Nat} {e : Nat × Nat × Nat × Nat}
    (hd : offEntry o nc a q = some e) (hq : q < alloc o nc a) :
    slotSum o nc (allUpdates T o nc) a q = osum o nc (allUpdates T o nc) e :=
  slotSum_entry o nc (offEntry o nc) (offSlot nc) (offSlot_offEntry o nc hnc hnr hnt)
    (allUpdates_ok T o nc hT hnc hnr (by omega) heven h4) hd hq

theorem osum_all (hT : GoodTables T) (hnc : 3 ≤ nc) (hnr : nc + 3 ≤ o.nr) (hodd : o.nr % 2 = 1)
    (hnt : 3 ≤ o.nt) (r1 r2 c1 c2 : Nat) :
    osum o nc (allUpdates T o nc) (r1, r2, c1, c2)
      = ∑ i ∈ range o.nr, ∑ j ∈ range o.nt, oRhs o nc i j (r1, r2, c1, c2) := by
  rw [osum_eq_total, total_allUpdates T o nc hnc hnr]
  exact Finset.sum_congr rfl fun i hi => Finset.sum_congr rfl fun j hj =>
    osum_node T o nc hT hnc hnr hodd hnt i j r1 r2 c1 c2 (by simpa using hi) (by simpa using hj)

theorem oCirc_eq_zero (i j : Nat) {r1 : Nat} (r2 c1 c2 : Nat) (h : ¬ (0 < r1 ∧ r1 < nc)) :
    oCirc o nc i j (r1, r2, c1, c2) = 0 := by
  have n : ∀ (A : Prop) (x y z : Nat), ¬ ((i % 2 = 1 ∧ 0 < i ∧ i < nc) ∧ A ∧ (i, x, y, z) = (r1, r2, c1, c2)) :=
    fun A x y z hh => h (by have := (Prod.mk.inj hh.2.2).1; omega)
  rw [oCirc, if_neg (n _ _ _ _), if_neg (n _ _ _ _), if_neg (n _ _ _ _), if_neg (n _ _ _ _)]
  simp only [add_zero]

theorem oRad_eq_zero (i j : Nat) {r1 : Nat} (r2 c1 c2 : Nat) (h : r1 < nc) : oRad o nc i j (r1, r2, c1, c2) = 0 := by
  rw [oRad, if_neg fun hh => by have := (Prod.mk.inj hh.2.2.2).1; omega,
    if_neg fun hh => by have := (Prod.mk.inj hh.2.2.2).1; omega, add_zero]

theorem oInner_eq_zero (i j : Nat) {r1 : Nat} (r2 c1 c2 : Nat) (h : r1 ≠ 0) : oInner o i j (r1, r2, c1, c2) = 0 := by
  rw [oInner, if_neg fun hh => h (Prod.mk.inj hh.2.2.2).1.symm, if_neg fun hh => h (Prod.mk.inj hh.2.2.2).1.symm,
    add_zero]

section closed
variable (hT : GoodTables T) (hnc : 3 ≤ nc) (hnr : nc + 3 ≤ o.nr) (hodd : o.nr % 2 = 1) (hnt : 3 ≤ o.nt)
include hT hnc hnr hodd hnt

/-- an entry of an odd circle only receives from that circle -/
theorem osum_all_circ {r1 : Nat} (r2 c1 c2 : Nat) (h : 0 < r1 ∧ r1 < nc) :
    osum o nc (allUpdates T o nc) (r1, r2, c1, c2) = ∑ i ∈ range o.nr, ∑ j ∈ range o.nt, oCirc o nc i j (r1, r2, c1, c2) := by
  rw [osum_all T o nc hT hnc hnr hodd hnt]
  simp only [oRhs, oRad_eq_zero o nc _ _ _ _ _ h.2, oInner_eq_zero o _ _ _ _ _ (show r1 ≠ 0 by omega), add_zero]

/-- an entry of the radial section only receives from its radial line -/
theorem osum_all_rad {r1 : Nat} (r2 c1 c2 : Nat) (h : nc ≤ r1) :
    osum o nc (allUpdates T o nc) (r1, r2, c1, c2) = ∑ i ∈ range o.nr, ∑ j ∈ range o.nt, oRad o nc i j (r1, r2, c1, c2) := by
  rw [osum_all T o nc hT hnc hnr hodd hnt]
  simp only [oRhs, oCirc_eq_zero o nc _ _ _ _ _ (show ¬ (0 < r1 ∧ r1 < nc) by omega),
    oInner_eq_zero o _ _ _ _ _ (show r1 ≠ 0 by omega), add_zero, zero_add]

/-- `sub_diagonal(q)` of the odd circle `i`: "Top" of node `q` and "Fill matrix row of (i,j-1)" of node `q + 1` -/
theorem osum_ctSub (i q : Nat) (hi0 : 0 < i) (hinc : i < nc) (hio : i % 2 = 1) (hq : q + 1 < o.nt) :
    osum o nc (allUpdates T o nc) (i, q, i, q + 1)
      = -(coeff4 o i q) * o.att i q + -(coeff3 o i (q + 1)) * o.att i (q + 1) := by
  rw [osum_all_circ T o nc hT hnc hnr hodd hnt _ _ _ ⟨hi0, hinc⟩]
  simp only [oCirc, Finset.sum_add_distrib]
  trans 0 + -(coeff4 o i q) * o.att i q + -(coeff3 o i (q + 1)) * o.att i (q + 1) + 0
  · congr 1; congr 1; congr 1
    · exact sum2_none _ _ _ _ fun a b _ _ hp => by simp only [Prod.mk.injEq] at hp; omega
    · exact sum2_single o.nr o.nt i q _ (fun i j => -(coeff4 o i j) * o.att i j) ⟨⟨hio, hi0, hinc⟩, by omega, rfl⟩
        (by omega) (by omega) fun a b _ _ hp => by simp only [Prod.mk.injEq] at hp; omega
    · exact sum2_single o.nr o.nt i (q + 1) _ (fun i j => -(coeff3 o i j) * o.att i j)
        ⟨⟨hio, hi0, hinc⟩, by omega, rfl⟩ (by omega) (by omega) fun a b _ _ hp => by
          simp only [Prod.mk.injEq] at hp; omega
    · exact sum2_none _ _ _ _ fun a b _ _ hp => by simp only [Prod.mk.injEq] at hp; omega
  · ring

/-- `cyclic_corner_element()` of the odd circle `i`: "Bottom" of node `0` and "Fill matrix row of (i,j+1)" of node `nt - 1` -/
theorem osum_ctCorner (i : Nat) (hi0 : 0 < i) (hinc : i < nc) (hio : i % 2 = 1) :
    osum o nc (allUpdates T o nc) (i, 0, i, o.nt - 1)
      = -(coeff3 o i 0) * o.att i 0 + -(coeff4 o i (o.nt - 1)) * o.att i (o.nt - 1) := by
  rw [osum_all_circ T o nc hT hnc hnr hodd hnt _ _ _ ⟨hi0, hinc⟩]
  simp only [oCirc, Finset.sum_add_distrib]
  trans -(coeff3 o i 0) * o.att i 0 + 0 + 0 + -(coeff4 o i (o.nt - 1)) * o.att i (o.nt - 1)
  · congr 1; congr 1; congr 1
    · exact sum2_single o.nr o.nt i 0 _ (fun i j => -(coeff3 o i j) * o.att i j) ⟨⟨hio, hi0, hinc⟩, rfl, rfl⟩
        (by omega) (by omega) fun a b _ _ hp => by simp only [Prod.mk.injEq] at hp; omega
    · exact sum2_none _ _ _ _ fun a b _ _ hp => by simp only [Prod.mk.injEq] at hp; omega
    · exact sum2_none _ _ _ _ fun a b _ _ hp => by simp only [Prod.mk.injEq] at hp; omega
    · exact sum2_single o.nr o.nt i (o.nt - 1) _ (fun i j => -(coeff4 o i j) * o.att i j)
        ⟨⟨hio, hi0, hinc⟩, by omega, rfl⟩ (by omega) (by omega) fun a b _ _ hp => by
          simp only [Prod.mk.injEq] at hp; omega
  · ring

/-- `sub_diagonal(t)` of the odd radial line `j`: "Right" of node `nc + t` and "Fill matrix row of (i-1,j)" of node
    `nc + t + 1`; nothing at `nc + t = nr - 2` -/
theorem osum_rtSub (i j : Nat) (hi0 : nc ≤ i) (hi1 : i + 1 < o.nr) (hj : j < o.nt) (hjo : j % 2 = 1) :
    osum o nc (allUpdates T o nc) (i, j, i + 1, j)
      = if i + 2 < o.nr then -(coeff2 o i j) * o.arr i j + -(coeff1 o (i + 1) j) * o.arr (i + 1) j else 0 := by
  rw [osum_all_rad T o nc hT hnc hnr hodd hnt _ _ _ hi0]
  simp only [oRad, Finset.sum_add_distrib]
  rw [sum2_unique o.nr o.nt i j _ (fun i j => -(coeff2 o i j) * o.arr i j) fun a b _ _ hp => by
      simp only [Prod.mk.injEq] at hp; omega,
    sum2_unique o.nr o.nt (i + 1) j _ (fun i j => -(coeff1 o i j) * o.arr i j) fun a b _ _ hp => by
      simp only [Prod.mk.injEq] at hp; omega]
  by_cases h : i + 2 < o.nr
  · rw [if_pos h, if_pos ⟨by omega, hj, hjo, hi0, h, rfl⟩, if_pos ⟨by omega, hj, hjo, by omega, by omega, rfl⟩]
  · rw [if_neg h, if_neg fun hh => h hh.2.2.2.2.1, if_neg fun hh => h hh.2.2.2.2.1, add_zero]

/-- the corner element of a radial solver is never addressed -/
theorem osum_rtCorner (j : Nat) : osum o nc (allUpdates T o nc) (nc, j, o.nr - 1, j) = 0 := by
  rw [osum_all_rad T o nc hT hnc hnr hodd hnt _ _ _ (Nat.le_refl nc)]
  refine Finset.sum_eq_zero fun a _ => Finset.sum_eq_zero fun b _ => ?_
  rw [oRad, if_neg fun hh => by simp only [Prod.mk.injEq] at hh; omega,
    if_neg fun hh => by simp only [Prod.mk.injEq] at hh; omega, add_zero]

end closed

/-- slot 1 of the odd row `r` of the inner matrix: "Left" of node `r` and "Fill matrix row of (i-1,j)" of the antipode -/
theorem osum_inner (hT : GoodTables T) (hnc : 3 ≤ nc) (hnr : nc + 3 ≤ o.nr) (hodd : o.nr % 2 = 1)
    (hnt : 3 ≤ o.nt) (h4 : o.nt % 4 = 0) (hb : o.bc = false) (r : Nat) (hr : r < o.nt) (hro : r % 2 = 1) :
    osum o nc (allUpdates T o nc) (0, r, 0, ja o r)
      = -(coeff1 o 0 r) * o.arr 0 r + -(coeff1 o 0 (ja o r)) * o.arr 0 (ja o r) := by
  have heven : o.nt % 2 = 0 := by omega
  have hpos : 0 < o.nt := by omega
  rw [osum_all T o nc hT hnc hnr hodd hnt]
  simp only [oRhs, oCirc_eq_zero o nc _ _ _ _ _ (show ¬ (0 < 0 ∧ 0 < nc) by omega), oRad_eq_zero o nc _ _ _ _ _
    (show 0 < nc by omega), zero_add, oInner, Finset.sum_add_distrib]
  congr 1
  · exact sum2_single o.nr o.nt 0 r _ (fun i j => -(coeff1 o i j) * o.arr i j) ⟨rfl, hb, hro, rfl⟩ (by omega) hr
      fun a b _ _ hp => ⟨hp.1, (Prod.mk.inj (Prod.mk.inj hp.2.2.2).2).1⟩
  · exact sum2_single o.nr o.nt 0 (ja o r) _ (fun i j => -(coeff1 o i j) * o.arr i j)
      ⟨rfl, hb, by rw [ja_parity o h4 hr]; exact hro, by rw [ja_ja o heven hr]⟩ (by omega) (ja_lt o hpos r)
      fun a b _ hb' hp => ⟨hp.1, by rw [← (Prod.mk.inj (Prod.mk.inj hp.2.2.2).2).1, ja_ja o heven hb']⟩

end
end ExSmootherGiveCode
