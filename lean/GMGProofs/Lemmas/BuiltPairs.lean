import GMGModel.Build
import GMGProofs.Lemmas.InterpPointwise
/-!
# Pairs built from level grids (`Build.pairOf`): shape, and positivity of the spacings on the index range only

`Interp.PosSpacing` asks for positive spacings at EVERY index; a built pair has them only where the grid has nodes, which is
what `Interp.prolong_convex_local` asks for.
-/
namespace Build
open Interp Cache
section
variable {K : Type} [_root_.Field K]

theorem pairOf_admissible (GF GC : GridData K) (hodd : GF.g.nr % 2 = 1) (hnr : 3 ≤ GF.g.nr) (heven : GF.g.nt % 2 = 0)
    (hnt : 4 ≤ GF.g.nt) : Admissible (pairOf GF GC) := ⟨hodd, hnr, heven, hnt⟩

@[simp] theorem nrC_pairOf (GF GC : GridData K) : nrC (pairOf GF GC) = (GF.g.nr + 1) / 2 := rfl
@[simp] theorem ntC_pairOf (GF GC : GridData K) : ntC (pairOf GF GC) = GF.g.nt / 2 := rfl

variable [LinearOrder K] [IsStrictOrderedRing K]

theorem pairOf_hF_pos (GF GC : GridData K) (hinc : ∀ i, i + 1 < GF.g.nr → GF.radius i < GF.radius (i + 1))
    (i : ℕ) (hi : i + 1 < GF.g.nr) : 0 < (pairOf GF GC).hF i := by
  show 0 < GF.radius (i + 1) - GF.radius i
  exact sub_pos.2 (hinc i hi)

theorem pairOf_kF_pos (GF GC : GridData K) (hinc : ∀ j, j < GF.g.nt → GF.theta j < GF.theta (j + 1))
    (j : ℕ) (hj : j < GF.g.nt) : 0 < (pairOf GF GC).kF j := by
  show 0 < GF.theta (j + 1) - GF.theta j
  exact sub_pos.2 (hinc j hj)

end
end Build
