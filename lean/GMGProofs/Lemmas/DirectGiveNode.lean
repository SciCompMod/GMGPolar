import GMGProofs.Lemmas.DirectGiveStores
/-!
# Code-level direct solver (give) — what the stores of one node address

The stores of `NODE_BUILD_SOLVER_MATRIX_GIVE` come in blocks, each under a condition on the row it goes to.  Every store of a
block goes to a grid row that accepts its position (`InB`), and its column is the node its position refers to in ITS ROW
(`Cons`, `posNode`); `nt` even is needed only for the antipode of the antipode.  Every allocated slot of every row receives at
least one store; in-bounds stores, in any order, succeed on the zero state, keep the allocated sizes, and leave in every slot
the fold of the stores addressed to it.
-/
namespace DirectGiveCode
open Stencil SparseLU DirectCode
variable {K : Type} [_root_.Field K]

section
variable (o : Op K)

/-- the node a position refers to in the row of node `p` -/
def posNode (p : Nat × Nat) : Pos → Nat × Nat
  | .Center => p
  | .Left => if p.1 = 0 then (0, ja o p.2) else (p.1 - 1, p.2)
  | .Right => (p.1 + 1, p.2)
  | .Bottom => (p.1, jm o p.2)
  | .Top => (p.1, jp o p.2)
  | .BottomLeft => (p.1 - 1, jm o p.2)
  | .BottomRight => (p.1 + 1, jm o p.2)
  | .TopLeft => (p.1 - 1, jp o p.2)
  | .TopRight => (p.1 + 1, jp o p.2)

/-- consistent: the column is the node the position refers to -/
def Cons (u : MUpd K) : Prop := u.2.2.1 = posNode o u.1 u.2.1

omit [_root_.Field K] in
theorem posNode_snd_lt {p : Nat × Nat} (h : p.2 < o.nt) (P : Pos) : (posNode o p P).2 < o.nt := by
  have hpos : 0 < o.nt := by omega
  cases P
  case Center | Right => exact h
  case Left =>
    show (if p.1 = 0 then (0, ja o p.2) else (p.1 - 1, p.2)).2 < o.nt
    split
    exacts [ja_lt o hpos _, h]
  all_goals exact Nat.mod_lt _ hpos

/-! ### the position classes -/

set_option linter.unusedSectionVars false in
theorem classes (hnr : 4 ≤ o.nr) (a : Nat) :
    (1 < a ∧ a + 2 < o.nr) ∨ a = 0 ∨ a = 1 ∨ (1 < a ∧ a + 2 = o.nr) ∨ (1 < a ∧ a + 1 = o.nr) ∨ o.nr ≤ a := by omega

omit [_root_.Field K] in
theorem posNode_left {a : Nat} (b : Nat) (h : a ≠ 0) : posNode o (a, b) .Left = (a - 1, b) := if_neg h

/-- the blocks of a node, each under the condition on the row it goes to: the node's own row is a stencil row or a
    Dirichlet row; the rows of the radial neighbours receive unless they are Dirichlet rows; the rows of the neighbours on
    the node's circle are of the class of its own row -/
theorem nodeUpdates_eq (hnr : 4 ≤ o.nr) (a b : Nat) : nodeUpdates o a b =
    (if a + 1 < o.nr ∧ (a = 0 → o.bc = false) then fillC o a b (posNode o (a, b) .Left) else []) ++
    (if (a = 0 ∧ o.bc = true) ∨ a + 1 = o.nr then fillDirichlet a b else []) ++
    (if a = 0 ∧ o.bc = false then fillLAcross o b else []) ++
    (if 0 < a ∧ a < o.nr ∧ (a = 1 → o.bc = false) then fillL o a b else []) ++
    (if a + 2 < o.nr then fillR o a b else []) ++
    (if 0 < a ∧ a + 1 < o.nr then fillB o a b ++ fillT o a b else []) ++
    (if a = 0 ∧ o.bc = false then fillBAcross o b ++ fillTAcross o b else []) := by
  unfold nodeUpdates
  rcases classes o hnr a with h | rfl | rfl | ⟨h1, h2⟩ | ⟨h1, h2⟩ | h
  all_goals cases o.bc <;> simp (disch := omega) only [posNode, if_pos, if_neg, if_true, if_false, Bool.false_eq_true,
    reduceCtorEq, and_false, and_true, false_or, true_or, and_self, imp_false, implies_true, not_true_eq_false,
    not_false_eq_true, List.append_nil, List.nil_append, List.append_assoc]

theorem mem_nodeUpdates (hnr : 4 ≤ o.nr) {a b : Nat} {u : MUpd K} : u ∈ nodeUpdates o a b ↔
    (a + 1 < o.nr ∧ (a = 0 → o.bc = false)) ∧ u ∈ fillC o a b (posNode o (a, b) .Left) ∨
    ((a = 0 ∧ o.bc = true) ∨ a + 1 = o.nr) ∧ u ∈ fillDirichlet a b ∨
    (a = 0 ∧ o.bc = false) ∧ u ∈ fillLAcross o b ∨
    (0 < a ∧ a < o.nr ∧ (a = 1 → o.bc = false)) ∧ u ∈ fillL o a b ∨
    a + 2 < o.nr ∧ u ∈ fillR o a b ∨
    (0 < a ∧ a + 1 < o.nr) ∧ (u ∈ fillB o a b ∨ u ∈ fillT o a b) ∨
    (a = 0 ∧ o.bc = false) ∧ (u ∈ fillBAcross o b ∨ u ∈ fillTAcross o b) := by
  rw [nodeUpdates_eq o hnr]
  simp only [List.mem_append, List.mem_ite_nil_right, or_assoc]

/-! ### every store is in bounds and consistent, block by block -/

section
omit [_root_.Field K]

theorem inb9 {u : MUpd K} (h : 0 < u.1.1 ∧ u.1.1 + 1 < o.nr) (hj : u.1.2 < o.nt) : InB o u :=
  ⟨by omega, hj, Or.inl h⟩

theorem inb7 {u : MUpd K} (h : u.1.1 + 1 < o.nr ∧ (u.1.1 = 0 → o.bc = false)) (hj : u.1.2 < o.nt)
    (hs : seven u.2.1 = true) : InB o u :=
  ⟨by omega, hj, validPos_seven o h hs⟩

end

section blocks
variable {a b : Nat} (hb : b < o.nt)
include hb

theorem fillC_ok (h : a + 1 < o.nr ∧ (a = 0 → o.bc = false)) :
    ∀ u ∈ fillC o a b (posNode o (a, b) .Left), InB o u ∧ Cons o u := by
  simp only [fillC, List.forall_mem_cons]
  exact ⟨⟨inb7 o h hb rfl, rfl⟩, ⟨inb7 o h hb rfl, rfl⟩, ⟨inb7 o h hb rfl, rfl⟩, ⟨inb7 o h hb rfl, rfl⟩,
    ⟨inb7 o h hb rfl, rfl⟩, ⟨inb7 o h hb rfl, rfl⟩, nofun⟩

theorem fillDirichlet_ok (h : a < o.nr) : ∀ u ∈ fillDirichlet (α := K) a b, InB o u ∧ Cons o u := by
  simp only [fillDirichlet, List.forall_mem_cons]
  exact ⟨⟨⟨h, hb, validPos_center o a⟩, rfl⟩, nofun⟩

/-- the inward row `(a - 1, b)` is a stencil row: all four positions are in the 7-point table -/
theorem fillL_ok (h : 0 < a ∧ a < o.nr ∧ (a = 1 → o.bc = false)) : ∀ u ∈ fillL o a b, InB o u ∧ Cons o u := by
  obtain ⟨a, rfl⟩ : ∃ a', a = a' + 1 := ⟨a - 1, by omega⟩
  have hr : a + 1 < o.nr ∧ (a = 0 → o.bc = false) := ⟨h.2.1, fun h0 => h.2.2 (by omega)⟩
  simp only [fillL, List.forall_mem_cons]
  exact ⟨⟨inb7 o hr hb rfl, rfl⟩, ⟨inb7 o hr hb rfl, rfl⟩, ⟨inb7 o hr hb rfl, rfl⟩, ⟨inb7 o hr hb rfl, rfl⟩, nofun⟩

/-- the outward row `(a + 1, b)` is a 9-point row -/
theorem fillR_ok (h : a + 2 < o.nr) : ∀ u ∈ fillR o a b, InB o u ∧ Cons o u := by
  have hr : 0 < a + 1 ∧ a + 1 + 1 < o.nr := by omega
  simp only [fillR, List.forall_mem_cons]
  exact ⟨⟨inb9 o hr hb, rfl⟩, ⟨inb9 o hr hb, rfl⟩, ⟨inb9 o hr hb, rfl⟩, ⟨inb9 o hr hb, rfl⟩, nofun⟩

theorem fillB_ok (h : 0 < a ∧ a + 1 < o.nr) : ∀ u ∈ fillB o a b, InB o u ∧ Cons o u := by
  have hm : jm o b < o.nt := jm_lt o (by omega) b
  have e : ∀ i : Nat, (i, b) = (i, jp o (jm o b)) := fun i => by rw [jp_jm o hb]
  simp only [fillB, List.forall_mem_cons]
  exact ⟨⟨inb9 o h hm, e _⟩, ⟨inb9 o h hm, rfl⟩, ⟨inb9 o h hm, e _⟩, ⟨inb9 o h hm, e _⟩, nofun⟩

theorem fillT_ok (h : 0 < a ∧ a + 1 < o.nr) : ∀ u ∈ fillT o a b, InB o u ∧ Cons o u := by
  have hp : jp o b < o.nt := jp_lt o (by omega) b
  have e : ∀ i : Nat, (i, b) = (i, jm o (jp o b)) := fun i => by rw [jm_jp o hb]
  simp only [fillT, List.forall_mem_cons]
  exact ⟨⟨inb9 o h hp, e _⟩, ⟨inb9 o h hp, rfl⟩, ⟨inb9 o h hp, e _⟩, ⟨inb9 o h hp, e _⟩, nofun⟩

/-- the antipode of the antipode is the node itself: `nt` even -/
theorem fillLAcross_ok (hnr : 4 ≤ o.nr) (hbc : o.bc = false) :
    ∀ u ∈ fillLAcross o b, InB o u ∧ (o.nt % 2 = 0 → Cons o u) := by
  have ha : ja o b < o.nt := ja_lt o (by omega) b
  have hr : 0 + 1 < o.nr ∧ (0 = 0 → o.bc = false) := ⟨by omega, fun _ => hbc⟩
  simp only [fillLAcross, List.forall_mem_cons]
  exact ⟨⟨inb7 o hr ha rfl, fun hev => show (0, b) = (0, ja o (ja o b)) by rw [ja_ja o hev hb]⟩,
    ⟨inb7 o hr ha rfl, fun _ => rfl⟩, nofun⟩

theorem fillBAcross_ok (hnr : 4 ≤ o.nr) (hbc : o.bc = false) : ∀ u ∈ fillBAcross o b, InB o u ∧ Cons o u := by
  have hm : jm o b < o.nt := jm_lt o (by omega) b
  have hr : 0 + 1 < o.nr ∧ (0 = 0 → o.bc = false) := ⟨by omega, fun _ => hbc⟩
  have e : ∀ i : Nat, (i, b) = (i, jp o (jm o b)) := fun i => by rw [jp_jm o hb]
  simp only [fillBAcross, List.forall_mem_cons]
  exact ⟨⟨inb7 o hr hm rfl, e _⟩, ⟨inb7 o hr hm rfl, rfl⟩, ⟨inb7 o hr hm rfl, e _⟩, nofun⟩

theorem fillTAcross_ok (hnr : 4 ≤ o.nr) (hbc : o.bc = false) : ∀ u ∈ fillTAcross o b, InB o u ∧ Cons o u := by
  have hp : jp o b < o.nt := jp_lt o (by omega) b
  have hr : 0 + 1 < o.nr ∧ (0 = 0 → o.bc = false) := ⟨by omega, fun _ => hbc⟩
  have e : ∀ i : Nat, (i, b) = (i, jm o (jp o b)) := fun i => by rw [jm_jp o hb]
  simp only [fillTAcross, List.forall_mem_cons]
  exact ⟨⟨inb7 o hr hp rfl, e _⟩, ⟨inb7 o hr hp rfl, rfl⟩, ⟨inb7 o hr hp rfl, e _⟩, nofun⟩

theorem ok_node (hnr : 4 ≤ o.nr) (a : Nat) :
    ∀ u ∈ nodeUpdates o a b, InB o u ∧ ((o.bc = false → o.nt % 2 = 0) → Cons o u) := by
  intro u hu
  rcases (mem_nodeUpdates o hnr).mp hu with ⟨g, h⟩ | ⟨g, h⟩ | ⟨g, h⟩ | ⟨g, h⟩ | ⟨g, h⟩ | ⟨g, h | h⟩ | ⟨g, h | h⟩
  · exact (fillC_ok o hb g u h).imp_right fun c _ => c
  · exact (fillDirichlet_ok o hb (by omega) u h).imp_right fun c _ => c
  · obtain rfl := g.1
    exact (fillLAcross_ok o hb hnr g.2 u h).imp_right fun c hev => c (hev g.2)
  · exact (fillL_ok o hb g u h).imp_right fun c _ => c
  · exact (fillR_ok o hb g u h).imp_right fun c _ => c
  · exact (fillB_ok o hb g u h).imp_right fun c _ => c
  · exact (fillT_ok o hb g u h).imp_right fun c _ => c
  · obtain rfl := g.1
    exact (fillBAcross_ok o hb hnr g.2 u h).imp_right fun c _ => c
  · obtain rfl := g.1
    exact (fillTAcross_ok o hb hnr g.2 u h).imp_right fun c _ => c

end blocks

/-! ### the node order -/

section nodeOrder
omit [_root_.Field K]

theorem mem_nodeOrder (nc : Nat) {a b : Nat} (ha : a < o.nr) (hb : b < o.nt) : (a, b) ∈ nodeOrder o nc := by
  unfold nodeOrder
  by_cases h : a < nc
  · apply List.mem_append_left
    exact List.mem_flatMap.mpr ⟨a, List.mem_range.mpr h, List.mem_map.mpr ⟨b, List.mem_range.mpr hb, rfl⟩⟩
  · apply List.mem_append_right
    refine List.mem_flatMap.mpr ⟨b, List.mem_range.mpr hb, List.mem_map.mpr ⟨a - nc, List.mem_range.mpr (by omega), ?_⟩⟩
    exact Prod.ext (by show nc + (a - nc) = a; omega) rfl

theorem nodeOrder_snd (nc : Nat) : ∀ p ∈ nodeOrder o nc, p.2 < o.nt := by
  intro p hp
  unfold nodeOrder at hp
  rcases List.mem_append.mp hp with hp | hp
  · obtain ⟨a, _, hp⟩ := List.mem_flatMap.mp hp
    obtain ⟨b, hb, rfl⟩ := List.mem_map.mp hp
    exact List.mem_range.mp hb
  · obtain ⟨b, hb, hp⟩ := List.mem_flatMap.mp hp
    obtain ⟨t, _, rfl⟩ := List.mem_map.mp hp
    exact List.mem_range.mp hb

theorem forall_flatMap_nodeOrder {β : Type} (g : Nat → Nat → List β) {P : β → Prop} (nc : Nat)
    (h : ∀ a b, b < o.nt → ∀ u ∈ g a b, P u) : ∀ u ∈ (nodeOrder o nc).flatMap fun p => g p.1 p.2, P u := by
  intro u hu
  obtain ⟨p, hp, hu⟩ := List.mem_flatMap.mp hu
  exact h p.1 p.2 (nodeOrder_snd o nc p hp) u hu

end nodeOrder

theorem mem_allUpdates (nc : Nat) {a b : Nat} (ha : a < o.nr) (hb : b < o.nt) {u : MUpd K}
    (hu : u ∈ nodeUpdates o a b) : u ∈ allUpdates o nc :=
  List.mem_flatMap.mpr ⟨(a, b), mem_nodeOrder o nc ha hb, hu⟩

theorem allUpdates_ok (hnr : 4 ≤ o.nr) (nc : Nat) :
    ∀ u ∈ allUpdates o nc, InB o u ∧ ((o.bc = false → o.nt % 2 = 0) → Cons o u) :=
  forall_flatMap_nodeOrder o (nodeUpdates o) nc fun a _ hb => ok_node o hb hnr a

/-! ### every allocated slot receives a store -/

theorem fillC_has (a b : Nat) (l : Nat × Nat) (P : Pos)
    (hP : P = .Center ∨ P = .Left ∨ P = .Right ∨ P = .Bottom ∨ P = .Top) :
    ∃ u ∈ fillC o a b l, u.1 = (a, b) ∧ u.2.1 = P := by
  rcases hP with rfl | rfl | rfl | rfl | rfl <;> simp [fillC]

theorem fillL_has (a b : Nat) (P : Pos) (hP : P = .TopRight ∨ P = .BottomRight) :
    ∃ u ∈ fillL o a b, u.1 = (a - 1, b) ∧ u.2.1 = P := by
  rcases hP with rfl | rfl <;> simp [fillL]

theorem fillR_has (a b : Nat) (P : Pos) (hP : P = .TopLeft ∨ P = .BottomLeft) :
    ∃ u ∈ fillR o a b, u.1 = (a + 1, b) ∧ u.2.1 = P := by
  rcases hP with rfl | rfl <;> simp [fillR]

/-- the cross, the outer corners, the inner corners -/
theorem pos_cases (P : Pos) : (P = .Center ∨ P = .Left ∨ P = .Right ∨ P = .Bottom ∨ P = .Top) ∨
    (P = .TopRight ∨ P = .BottomRight) ∨ (P = .TopLeft ∨ P = .BottomLeft) := by
  cases P <;> simp

/-- **every position a row accepts is stored at least once**: the five positions of the cross by the node itself, the
    outer corners by its outward neighbour ("Left" block), the inner corners by its inward neighbour ("Right" block) -/
theorem hit_pos (hnr : 4 ≤ o.nr) (nc : Nat) {i j : Nat} (hi : i < o.nr) (hj : j < o.nt) (P : Pos)
    (hv : ValidPos o i P) : ∃ u ∈ allUpdates o nc, u.1 = (i, j) ∧ u.2.1 = P := by
  have src : ∀ {a : Nat} {u : MUpd K}, a < o.nr → u ∈ nodeUpdates o a j → u.1 = (i, j) → u.2.1 = P →
      ∃ u ∈ allUpdates o nc, u.1 = (i, j) ∧ u.2.1 = P :=
    fun ha hu h1 h2 => ⟨_, mem_allUpdates o nc ha hj hu, h1, h2⟩
  rcases hv with h | ⟨rfl, hb, hs⟩ | ⟨h1, h2, rfl⟩
  · obtain ⟨i, rfl⟩ : ∃ i', i = i' + 1 := ⟨i - 1, by omega⟩
    rcases pos_cases P with hP | hP | hP
    · obtain ⟨u, hu, h1, h2⟩ := fillC_has o (i + 1) j _ P hP
      exact src hi ((mem_nodeUpdates o hnr).mpr (.inl ⟨⟨h.2, by omega⟩, hu⟩)) h1 h2
    · obtain ⟨u, hu, h1, h2⟩ := fillL_has o (i + 2) j P hP
      exact src h.2 ((mem_nodeUpdates o hnr).mpr (.inr (.inr (.inr (.inl ⟨by omega, hu⟩))))) h1 h2
    · obtain ⟨u, hu, h1, h2⟩ := fillR_has o i j P hP
      exact src (by omega) ((mem_nodeUpdates o hnr).mpr (.inr (.inr (.inr (.inr (.inl ⟨by omega, hu⟩)))))) h1 h2
  · rcases pos_cases P with hP | hP | rfl | rfl
    · obtain ⟨u, hu, h1, h2⟩ := fillC_has o 0 j _ P hP
      exact src hi ((mem_nodeUpdates o hnr).mpr (.inl ⟨⟨by omega, fun _ => hb⟩, hu⟩)) h1 h2
    · obtain ⟨u, hu, h1, h2⟩ := fillL_has o 1 j P hP
      exact src (by omega) ((mem_nodeUpdates o hnr).mpr (.inr (.inr (.inr (.inl ⟨⟨by omega, by omega, fun _ => hb⟩, hu⟩))))) h1 h2
    · cases hs
    · cases hs
  · exact src hi ((mem_nodeUpdates o hnr).mpr (.inr (.inl ⟨dirichlet_row o hi h1 h2, List.mem_singleton_self _⟩))) rfl rfl

section
omit [_root_.Field K]

theorem slotPos_valid {i : Nat} (hi : i < o.nr) {q : Nat} (hq : q < rowSize o i) : ValidPos o i (slotPos o i q) := by
  by_cases h : 0 < i ∧ i + 1 < o.nr
  · exact Or.inl h
  · by_cases h0 : i = 0 ∧ o.bc = false
    · obtain ⟨rfl, hb⟩ := h0
      rw [rowSize_origin o hb] at hq
      rw [slotPos_origin o hb]
      refine Or.inr (Or.inl ⟨rfl, hb, ?_⟩)
      have : ∀ q, q < 7 → seven (pos7 q) = true := by decide
      exact this q hq
    · exact Or.inr (Or.inr ⟨h, h0, slotPos_db o h h0 q⟩)

theorem slotPos_inj {i q q' : Nat} (hq : q < rowSize o i) (hq' : q' < rowSize o i)
    (h : slotPos o i q = slotPos o i q') : q = q' := by
  by_cases hc : 0 < i ∧ i + 1 < o.nr
  · rw [rowSize_int o hc] at hq hq'
    rw [slotPos_int o hc, slotPos_int o hc] at h
    have : ∀ q, q < 9 → ∀ q', q' < 9 → pos9 q = pos9 q' → q = q' := by decide
    exact this q hq q' hq' h
  · by_cases h0 : i = 0 ∧ o.bc = false
    · obtain ⟨rfl, hb⟩ := h0
      rw [rowSize_origin o hb] at hq hq'
      rw [slotPos_origin o hb, slotPos_origin o hb] at h
      have : ∀ q, q < 7 → ∀ q', q' < 7 → pos7 q = pos7 q' → q = q' := by decide
      exact this q hq q' hq' h
    · rw [rowSize_db o hc h0] at hq hq'
      omega

end
end

section
variable (T : Tables) (o : Op K)

theorem hit_slot (hT : GoodTables T) (hnr : 4 ≤ o.nr) (nc : Nat) {i j : Nat} (hi : i < o.nr) (hj : j < o.nt) {q : Nat}
    (hq : q < rowSize o i) : ∃ u ∈ allUpdates o nc, addr T o u = some (i * o.nt + j, q) := by
  obtain ⟨u, hu, h1, h2⟩ := hit_pos o hnr nc hi hj (slotPos o i q) (slotPos_valid o hi hq)
  obtain ⟨q', ha, hq', hs⟩ := addr_valid T o hT hnr u (allUpdates_ok o hnr nc u hu).1
  have hr : rowIdx o u = i * o.nt + j := by unfold rowIdx; rw [h1]
  rw [h1] at hq' hs
  rw [h2] at hs
  rw [slotPos_inj o hq' hq hs, hr] at ha
  exact ⟨u, hu, ha⟩

/-- **in-bounds stores, in any order, succeed on the zero state; the rows keep the allocated sizes; every slot is the fold of
    the stores addressed to it** -/
theorem run_init (hT : GoodTables T) (hnr : 4 ≤ o.nr) (us : List (MUpd K)) (hin : ∀ u ∈ us, InB o u) :
    ∃ rsf, run (addr T o) (colIdx o) val (init o) us = some rsf ∧ rsf.length = o.nr * o.nt ∧
      (∀ r, rlen rsf r = if r < o.nr * o.nt then rowSize o (r / o.nt) else 0) ∧
      ∀ r q, rd rsf r q = Scatter.cellFold (fun u => addr T o u = some (r, q)) (colIdx o) val (0, Scalar.n 0) us := by
  obtain ⟨rsf, h1, h2, h3, h4⟩ := run_spec (addr T o) (colIdx o) val us (init o) (by
    intro u hu
    obtain ⟨hi, hj, _⟩ := hin u hu
    obtain ⟨q, ha, hq, _⟩ := addr_valid T o hT hnr u (hin u hu)
    refine ⟨_, ha, ?_⟩
    show q < rlen (init o) (rowIdx o u)
    rw [rlen_init', rowIdx_div o hj, if_pos (show rowIdx o u < _ from idx_lt hi hj)]
    exact hq)
  refine ⟨rsf, h1, by rw [h2, init_length], fun r => by rw [h3, rlen_init'], fun r q => ?_⟩
  rw [h4, rd_init]

end
end DirectGiveCode
