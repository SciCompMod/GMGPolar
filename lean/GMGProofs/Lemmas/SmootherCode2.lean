import GMGProofs.Lemmas.SmootherCode1
/-! The CSR matrix of the innermost circle (C06c). -/
namespace SmootherCode
open Stencil SparseLU
variable {K : Type} [_root_.Field K]

theorem innerRow_length (o : Op K) (j : Nat) : (innerRow o j).length = if o.bc then 1 else 4 := by
  unfold innerRow; split <;> simp

theorem innerCSR_rows (o : Op K) : (innerCSR o).rows = o.nt := rfl

theorem rowEntries_innerCSR (o : Op K) (j : Nat) (hj : j < o.nt) : rowEntries (innerCSR o) j = innerRow o j := by
  refine rowEntries_of_layout (innerCSR o) (innerRow o) o.nt (by simp [innerCSR, List.flatMap_map])
    (by simp [innerCSR, List.flatMap_map]) (fun j hj => ?_) j hj
  rw [blockStart_const (innerRow_length o) j, innerCSR, getD_map_range, if_pos (by omega)]

theorem innerRow_uniq (o : Op K) (hnt : 4 ≤ o.nt) (heven : o.nt % 2 = 0) (j : Nat) (hj : j < o.nt) :
    Uniq (innerRow o j) := by
  unfold Uniq keys innerRow
  split
  · simp
  · have h1 := jm_eq o hj
    have h2 := jp_eq o hj
    have h3 := ja_eq o heven hj
    simp only [List.map_cons, List.map_nil, List.nodup_cons, List.mem_cons, List.not_mem_nil, or_false,
      not_or, List.nodup_nil, and_true, not_false_eq_true]
    generalize jm o j = m at *
    generalize jp o j = p at *
    generalize ja o j = a at *
    split at h1 <;> split at h2 <;> split at h3 <;> omega

theorem loadRow_innerCSR (o : Op K) (hnt : 4 ≤ o.nt) (heven : o.nt % 2 = 0) (j : Nat) (hj : j < o.nt) :
    loadRow (innerCSR o) j = innerRow o j := by
  rw [loadRow_eq_rowEntries _ _ (by rw [rowEntries_innerCSR o j hj]; exact innerRow_uniq o hnt heven j hj),
    rowEntries_innerCSR o j hj]

end SmootherCode
