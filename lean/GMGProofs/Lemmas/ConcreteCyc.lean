import GMGProofs.Lemmas.CycleFmg
/-!
# Invariants and agreement of the textbook recursions over abstract operators

One level of `cyc`, and `excyc`, are the same two-grid skeleton `twoGrid`: ν₁ smoothing steps, one correction step, ν₂ smoothing
steps.  A relation between iterates that the smoother and the correction step respect is respected by the skeleton
(`twoGrid_rel`); preservation of a predicate and agreement of two operator families are the relations `fun v _ => P v` and
`fun v v' => v = v' ∧ P v'`.  Operators that preserve per-level predicates `P l` on iterates and `Q l` on right-hand sides give
recursions that preserve `P`; two operator families that agree on arguments satisfying the invariant, the second preserving it,
compute the same recursions.
-/
namespace MGCycle
variable {V : Type}

/-- what the operators have to preserve; `c.levels - 1` is the coarsest level (direct solve), the levels below it smooth -/
structure OpsInv (o : Ops V) (c : Cfg) (P Q : Nat → V → Prop) : Prop where
  smooth : ∀ l x f, l < c.levels - 1 → P l x → Q l f → P l (o.smooth l x f)
  resid_restrict : ∀ l f x, l < c.levels - 1 → Q l f → P l x → Q (l + 1) (o.restrict l (o.resid l f x))
  solve : ∀ g, Q (c.levels - 1) g → P (c.levels - 1) (o.solve (c.levels - 1) g)
  zero : ∀ l, P l (o.zero l)
  add_prolong : ∀ l x e, l < c.levels - 1 → P l x → P (l + 1) e → P l (o.add x (o.prolong (l + 1) e))

structure OpsAgree (o₁ o₂ : Ops V) (c : Cfg) (P Q : Nat → V → Prop) : Prop where
  smooth : ∀ l x f, l < c.levels - 1 → P l x → Q l f → o₁.smooth l x f = o₂.smooth l x f
  resid : ∀ l f x, l < c.levels - 1 → Q l f → P l x → o₁.resid l f x = o₂.resid l f x
  solve : ∀ g, Q (c.levels - 1) g → o₁.solve (c.levels - 1) g = o₂.solve (c.levels - 1) g
  restrict : ∀ l v, o₁.restrict l v = o₂.restrict l v
  prolong : ∀ l v, o₁.prolong l v = o₂.prolong l v
  zero : ∀ l, o₁.zero l = o₂.zero l
  add : ∀ x y, o₁.add x y = o₂.add x y

/-! ## iteration and the two-grid skeleton -/

theorem iter_rel {g g' : V → V} {S : V → V → Prop} (h : ∀ v v', S v v' → S (g v) (g' v')) :
    ∀ (n : Nat) {v v' : V}, S v v' → S (iter g n v) (iter g' n v')
  | 0, _, _, hv => hv
  | n + 1, _, _, hv => iter_rel h n (h _ _ hv)

theorem iter_inv {g : V → V} {P : V → Prop} (h : ∀ v, P v → P (g v)) (n : Nat) {v : V} (hv : P v) : P (iter g n v) :=
  iter_rel (S := fun v _ => P v) (g' := g) (fun v _ => h v) n (v' := v) hv

theorem iter_agree {g₁ g₂ : V → V} {P : V → Prop} (hag : ∀ v, P v → g₁ v = g₂ v) (hinv : ∀ v, P v → P (g₂ v))
    (n : Nat) {v : V} (hv : P v) : iter g₁ n v = iter g₂ n v :=
  (iter_rel (S := fun v v' => v = v' ∧ P v') (by rintro v _ ⟨rfl, p⟩; exact ⟨hag v p, hinv v p⟩) n ⟨rfl, hv⟩).1

def twoGrid (sm corr : V → V) (nu1 nu2 : Nat) (u : V) : V := iter sm nu2 (corr (iter sm nu1 u))

theorem twoGrid_rel {sm sm' corr corr' : V → V} {S : V → V → Prop} (hs : ∀ v v', S v v' → S (sm v) (sm' v'))
    (hc : ∀ v v', S v v' → S (corr v) (corr' v')) (nu1 nu2 : Nat) {u u' : V} (h : S u u') :
    S (twoGrid sm corr nu1 nu2 u) (twoGrid sm' corr' nu1 nu2 u') :=
  iter_rel hs _ (hc _ _ (iter_rel hs _ h))

theorem twoGrid_inv {sm corr : V → V} {P : V → Prop} (hs : ∀ v, P v → P (sm v)) (hc : ∀ v, P v → P (corr v))
    (nu1 nu2 : Nat) {u : V} (h : P u) : P (twoGrid sm corr nu1 nu2 u) :=
  twoGrid_rel (S := fun v _ => P v) (sm' := sm) (corr' := corr) (fun v _ => hs v) (fun v _ => hc v) nu1 nu2 (u' := u) h

theorem twoGrid_agree {sm₁ sm₂ corr₁ corr₂ : V → V} {P : V → Prop} (hs : ∀ v, P v → sm₁ v = sm₂ v ∧ P (sm₂ v))
    (hc : ∀ v, P v → corr₁ v = corr₂ v ∧ P (corr₂ v)) (nu1 nu2 : Nat) {u : V} (h : P u) :
    twoGrid sm₁ corr₁ nu1 nu2 u = twoGrid sm₂ corr₂ nu1 nu2 u :=
  (twoGrid_rel (S := fun v v' => v = v' ∧ P v') (by rintro v _ ⟨rfl, p⟩; exact hs v p)
    (by rintro v _ ⟨rfl, p⟩; exact hc v p) nu1 nu2 ⟨rfl, h⟩).1

def plainCorr (o : Ops V) (c : Cfg) (k : Kind) (fuel d : Nat) (f v : V) : V :=
  o.add v (o.prolong (d + 1) (coarseOrSolve o c k fuel (d + 1) (o.restrict d (o.resid d f v))))

/-- the right-hand side of the coarse problem of the implicitly extrapolated cycle -/
def exRhs (o : Ops V) (f f1 x : V) : V := o.lin43 (o.exRestrict 0 (o.resid 0 f x)) (o.resid 1 f1 (o.inject 0 x))

def exCorr (o : Ops V) (c : Cfg) (k : Kind) (f f1 v : V) : V :=
  o.add v (o.exProlong 1 (coarseOrSolve o c k (c.levels - 2) 1 (exRhs o f f1 v)))

theorem cyc_succ_twoGrid (o : Ops V) (c : Cfg) (k : Kind) (fuel d : Nat) (u f : V) :
    cyc o c k (fuel + 1) d u f = twoGrid (fun v => o.smooth d v f) (plainCorr o c k fuel d f) c.nu1 c.nu2 u :=
  cyc_succ o c k fuel d u f

theorem excyc_twoGrid (o : Ops V) (c : Cfg) (k : Kind) (fgs : Bool) (u f f1 : V) :
    excyc o c k fgs u f f1 = twoGrid (exSmF o fgs f) (exCorr o c k f f1) c.nu1 c.nu2 u := rfl

/-! ## invariants -/

section
variable {o : Ops V} {c : Cfg} {P Q : Nat → V → Prop}

theorem coarseOrSolve_inv_of (I : OpsInv o c P Q) {fuel : Nat}
    (IH : ∀ k d u f, d < c.levels - 1 → P d u → Q d f → P d (cyc o c k fuel d u f))
    (k : Kind) {d : Nat} {g : V} (hd : d ≤ c.levels - 1) (hg : Q d g) : P d (coarseOrSolve o c k fuel d g) := by
  unfold coarseOrSolve
  split
  · rename_i h; subst h; exact I.solve g hg
  · rename_i h
    have hd1 : d < c.levels - 1 := by omega
    have h0 := fun k => IH k d _ g hd1 (I.zero d) hg
    cases k
    · exact h0 _
    · exact IH _ _ _ _ hd1 (h0 _) hg
    · exact IH _ _ _ _ hd1 (h0 _) hg

theorem cyc_inv (I : OpsInv o c P Q) : ∀ (fuel : Nat) (k : Kind) (d : Nat) (u f : V),
    d < c.levels - 1 → P d u → Q d f → P d (cyc o c k fuel d u f)
  | 0, k, d, u, f, _, hu, _ => by rw [cyc_zero]; exact hu
  | fuel + 1, k, d, u, f, hd, hu, hf => by
      rw [cyc_succ_twoGrid]
      exact twoGrid_inv (fun v hv => I.smooth d v f hd hv hf)
        (fun v hv => I.add_prolong d v _ hd hv
          (coarseOrSolve_inv_of I (cyc_inv I fuel) k (by omega) (I.resid_restrict d f v hd hf hv))) _ _ hu

theorem coarseOrSolve_inv (I : OpsInv o c P Q) (fuel : Nat) (k : Kind) {d : Nat} {g : V} (hd : d ≤ c.levels - 1)
    (hg : Q d g) : P d (coarseOrSolve o c k fuel d g) :=
  coarseOrSolve_inv_of I (cyc_inv I fuel) k hd hg

/-- what the extra steps of the implicitly extrapolated cycle on level 0 have to preserve; `R`: what is known about the level-1
    right-hand side -/
structure ExOpsInvR (o : Ops V) (fgs : Bool) (P Q : Nat → V → Prop) (R : V → Prop) : Prop where
  exSm : ∀ x f, P 0 x → Q 0 f → P 0 (exSmF o fgs f x)
  exRhs : ∀ f f1 x, Q 0 f → R f1 → P 0 x → Q 1 (exRhs o f f1 x)
  add_exProlong : ∀ x e, P 0 x → P 1 e → P 0 (o.add x (o.exProlong 1 e))

variable {R : V → Prop} {fgs : Bool}

theorem exCorr_inv (I : OpsInv o c P Q) (EI : ExOpsInvR o fgs P Q R) (hL : 1 ≤ c.levels - 1) (k : Kind) {f f1 v : V}
    (hf : Q 0 f) (hf1 : R f1) (hv : P 0 v) : P 0 (exCorr o c k f f1 v) :=
  EI.add_exProlong v _ hv (coarseOrSolve_inv I _ k hL (EI.exRhs f f1 v hf hf1 hv))

theorem excyc_inv (I : OpsInv o c P Q) (EI : ExOpsInvR o fgs P Q R) (hL : 1 ≤ c.levels - 1) (k : Kind) {u f f1 : V}
    (hu : P 0 u) (hf : Q 0 f) (hf1 : R f1) : P 0 (excyc o c k fgs u f f1) :=
  twoGrid_inv (fun v hv => EI.exSm v f hv hf) (fun _ hv => exCorr_inv I EI hL k hf hf1 hv) _ _ hu

theorem cycleSpec_inv (I : OpsInv o c P Q) (ex : Bool) (g : Nat → V) (hex : ex = true → ExOpsInvR o fgs P Q R ∧ R (g 1))
    (k : Kind) {d : Nat} {u : V} (hd : d < c.levels - 1) (hu : P d u) (hg : Q d (g d)) :
    P d (cycleSpec o c k (exAt ex d) fgs g d u) := by
  unfold cycleSpec
  split
  · rename_i h
    obtain ⟨he, rfl⟩ := exAt_iff.mp h
    exact excyc_inv I (hex he).1 (by omega) k hu hg (hex he).2
  · exact cyc_inv I _ k d u (g d) hd hu hg

theorem fmgSpec_inv (I : OpsInv o c P Q) (ex : Bool) (g : Nat → V) (hex : ex = true → ExOpsInvR o fgs P Q R ∧ R (g 1))
    (fk : Kind) (fi : Nat) (hfi : ∀ l s, l < c.levels - 1 → P (l + 1) s → P l (o.fmgInterp (l + 1) s))
    (hg : ∀ l, l < c.levels - 1 → Q l (g l)) :
    ∀ (cur : Nat) (s : V), cur ≤ c.levels - 1 → P cur s → P 0 (fmgSpec o c fk fi ex fgs g cur s)
  | 0, _, _, hs => hs
  | cur + 1, s, hc, hs => by
      have hcur : cur < c.levels - 1 := by omega
      rw [fmgSpec_succ]
      exact fmgSpec_inv I ex g hex fk fi hfi hg cur _ (by omega)
        (iter_inv (fun v hv => cycleSpec_inv I ex g hex fk hcur hv (hg cur hcur)) fi (hfi cur s hcur hs))

end

theorem fmgSpec_zero_rhs (o : Ops V) (c : Cfg) (fk : Kind) (ex fgs : Bool) (g g' : Nat → V) :
    ∀ (cur : Nat) (s : V), fmgSpec o c fk 0 ex fgs g cur s = fmgSpec o c fk 0 ex fgs g' cur s
  | 0, _ => rfl
  | cur + 1, s => fmgSpec_zero_rhs o c fk ex fgs g g' cur (o.fmgInterp (cur + 1) s)

/-! ## agreement -/

section
variable {o₁ o₂ : Ops V} {c : Cfg} {P Q : Nat → V → Prop}

theorem coarseOrSolve_agree_of (A : OpsAgree o₁ o₂ c P Q) (I : OpsInv o₂ c P Q) {fuel : Nat}
    (IH : ∀ k d u f, d < c.levels - 1 → P d u → Q d f → cyc o₁ c k fuel d u f = cyc o₂ c k fuel d u f)
    (k : Kind) {d : Nat} {g : V} (hd : d ≤ c.levels - 1) (hg : Q d g) :
    coarseOrSolve o₁ c k fuel d g = coarseOrSolve o₂ c k fuel d g := by
  unfold coarseOrSolve
  split
  · rename_i h; subst h; exact A.solve g hg
  · rename_i h
    have hd1 : d < c.levels - 1 := by omega
    have h0 := fun k => IH k d _ g hd1 (I.zero d) hg
    have p0 := fun k => cyc_inv I fuel k d _ g hd1 (I.zero d) hg
    cases k <;> simp only [coarse, A.zero, h0]
    · exact IH _ _ _ _ hd1 (p0 _) hg
    · exact IH _ _ _ _ hd1 (p0 _) hg

theorem cyc_agree (A : OpsAgree o₁ o₂ c P Q) (I : OpsInv o₂ c P Q) : ∀ (fuel : Nat) (k : Kind) (d : Nat) (u f : V),
    d < c.levels - 1 → P d u → Q d f → cyc o₁ c k fuel d u f = cyc o₂ c k fuel d u f
  | 0, k, d, u, f, _, _, _ => by rw [cyc_zero, cyc_zero]
  | fuel + 1, k, d, u, f, hd, hu, hf => by
      rw [cyc_succ_twoGrid, cyc_succ_twoGrid]
      refine twoGrid_agree (P := P d) (fun v hv => ⟨A.smooth d v f hd hv hf, I.smooth d v f hd hv hf⟩) (fun v hv => ?_) _ _ hu
      have hg := I.resid_restrict d f v hd hf hv
      refine ⟨?_, I.add_prolong d v _ hd hv (coarseOrSolve_inv I fuel k (by omega) hg)⟩
      unfold plainCorr
      rw [A.resid d f v hd hf hv, A.restrict, coarseOrSolve_agree_of A I (cyc_agree A I fuel) k (by omega) hg, A.prolong, A.add]

structure ExOpsAgree (o₁ o₂ : Ops V) (fgs : Bool) (P Q : Nat → V → Prop) : Prop where
  exSm : ∀ x f, P 0 x → Q 0 f → exSmF o₁ fgs f x = exSmF o₂ fgs f x
  exRhs : ∀ f f1 x, Q 0 f → P 0 x → exRhs o₁ f f1 x = exRhs o₂ f f1 x
  add_exProlong : ∀ x e, o₁.add x (o₁.exProlong 1 e) = o₂.add x (o₂.exProlong 1 e)

variable {R : V → Prop} {fgs : Bool}

theorem excyc_agree (A : OpsAgree o₁ o₂ c P Q) (I : OpsInv o₂ c P Q) (EA : ExOpsAgree o₁ o₂ fgs P Q)
    (EI : ExOpsInvR o₂ fgs P Q R) (hL : 1 ≤ c.levels - 1) (k : Kind) {u f f1 : V} (hu : P 0 u) (hf : Q 0 f) (hf1 : R f1) :
    excyc o₁ c k fgs u f f1 = excyc o₂ c k fgs u f f1 := by
  rw [excyc_twoGrid, excyc_twoGrid]
  refine twoGrid_agree (P := P 0) (fun v hv => ⟨EA.exSm v f hv hf, EI.exSm v f hv hf⟩)
    (fun v hv => ⟨?_, exCorr_inv I EI hL k hf hf1 hv⟩) _ _ hu
  unfold exCorr
  rw [EA.exRhs f f1 v hf hv, coarseOrSolve_agree_of A I (cyc_agree A I _) k hL (EI.exRhs f f1 v hf hf1 hv), EA.add_exProlong]

theorem cycleSpec_agree (A : OpsAgree o₁ o₂ c P Q) (I : OpsInv o₂ c P Q) (ex : Bool) (g : Nat → V)
    (hex : ex = true → ExOpsAgree o₁ o₂ fgs P Q ∧ ExOpsInvR o₂ fgs P Q R ∧ R (g 1)) (k : Kind) {d : Nat} {u : V}
    (hd : d < c.levels - 1) (hu : P d u) (hg : Q d (g d)) :
    cycleSpec o₁ c k (exAt ex d) fgs g d u = cycleSpec o₂ c k (exAt ex d) fgs g d u := by
  unfold cycleSpec
  split
  · rename_i h
    obtain ⟨he, rfl⟩ := exAt_iff.mp h
    exact excyc_agree A I (hex he).1 (hex he).2.1 (by omega) k hu hg (hex he).2.2
  · exact cyc_agree A I _ k d u (g d) hd hu hg

theorem fmgSpec_agree (A : OpsAgree o₁ o₂ c P Q) (I : OpsInv o₂ c P Q) (ex : Bool) (g : Nat → V)
    (hex : ex = true → ExOpsAgree o₁ o₂ fgs P Q ∧ ExOpsInvR o₂ fgs P Q R ∧ R (g 1)) (fk : Kind) (fi : Nat)
    (hfiA : ∀ l s, o₁.fmgInterp l s = o₂.fmgInterp l s)
    (hfi : ∀ l s, l < c.levels - 1 → P (l + 1) s → P l (o₂.fmgInterp (l + 1) s))
    (hg : ∀ l, l < c.levels - 1 → Q l (g l)) :
    ∀ (cur : Nat) (s : V), cur ≤ c.levels - 1 → P cur s →
      fmgSpec o₁ c fk fi ex fgs g cur s = fmgSpec o₂ c fk fi ex fgs g cur s
  | 0, _, _, _ => rfl
  | cur + 1, s, hc, hs => by
      have hcur : cur < c.levels - 1 := by omega
      have hinv : ∀ v, P cur v → P cur (cycleSpec o₂ c fk (exAt ex cur) fgs g cur v) := fun v hv =>
        cycleSpec_inv I ex g (fun h => (hex h).2) fk hcur hv (hg cur hcur)
      have ht : P cur (o₂.fmgInterp (cur + 1) s) := hfi cur s hcur hs
      rw [fmgSpec_succ, fmgSpec_succ, hfiA,
        iter_agree (fun v hv => cycleSpec_agree A I ex g hex fk hcur hv (hg cur hcur)) hinv fi ht]
      exact fmgSpec_agree A I ex g hex fk fi hfiA hfi hg cur _ (by omega) (iter_inv hinv fi ht)

end
end MGCycle
