import GMGProofs.Lemmas.TridiagSPD
import Mathlib.Algebra.Order.Ring.Abs
/-!
# Strict diagonal dominance ⇒ SPD (C14)
-/
namespace Tridiag
section Ordered
variable {K : Type} [Field K] [LinearOrder K] [IsStrictOrderedRing K]

/-- row-wise strict diagonal dominance `a_i > |b_{i-1}| + |b_i|` (which forces a positive diagonal);
    `p` is `|b_{i-1}|` of the row above (`0` for the first row) -/
def sddFrom (p : K) : List K → List K → Prop
  | [a], [] => p < a
  | a :: as, b :: bs => p + |b| < a ∧ sddFrom |b| as bs
  | _, _ => False

/-- strictly diagonally dominant symmetric tridiagonal matrix with positive diagonal -/
def SDD (a b : List K) : Prop := sddFrom 0 a b

theorem abs_quad (b x y : K) : 0 ≤ |b| * (x * x) + 2 * b * x * y + |b| * (y * y) := by
  rcases abs_cases b with ⟨h, _⟩ | ⟨h, _⟩ <;> rw [h]
  · nlinarith [mul_nonneg (show 0 ≤ b by assumption) (mul_self_nonneg (x + y))]
  · nlinarith [mul_nonneg (show 0 ≤ -b by linarith) (mul_self_nonneg (x - y))]

theorem sdd_Q (a b x : List K) (h1 : a.length = x.length) (h2 : b.length + 1 = a.length) :
    ∀ p : K, 0 ≤ p → sddFrom p a b →
      p * (x.headD 0 * x.headD 0) ≤ Q a b x ∧ (¬ allZero x → p * (x.headD 0 * x.headD 0) < Q a b x) := by
  refine tri_induction (motive := fun a b x => ∀ p : K, 0 ≤ p → sddFrom p a b →
      p * (x.headD 0 * x.headD 0) ≤ Q a b x ∧ (¬ allZero x → p * (x.headD 0 * x.headD 0) < Q a b x))
    ?_ ?_ a b x h1 h2
  · intro a x p _ hs
    simp only [sddFrom] at hs
    simp only [Q, List.headD_cons, allZero, and_true]
    have hd : 0 < a - p := by linarith
    refine ⟨?_, fun hx => ?_⟩
    · have := mul_nonneg hd.le (mul_self_nonneg x); linarith
    · have := mul_pos hd (mul_self_pos.mpr hx); linarith
  · intro a a' as b bs x x' xs _ _ ih p hp hs
    obtain ⟨hs1, hs2⟩ := hs
    obtain ⟨i1, i2⟩ := ih |b| (abs_nonneg b) hs2
    simp only [List.headD_cons] at i1 i2
    simp only [Q, List.headD_cons]
    have hd : 0 < a - p - |b| := by linarith
    have t2 := abs_quad b x x'
    have t0 : 0 ≤ |b| * (x' * x') := mul_nonneg (abs_nonneg b) (mul_self_nonneg x')
    refine ⟨?_, fun hx => ?_⟩
    · have := mul_nonneg hd.le (mul_self_nonneg x); linarith
    · by_cases h0 : x = 0
      · have hz : ¬ allZero (x' :: xs) := fun h => hx ⟨h0, h⟩
        have := i2 hz
        subst h0; linarith
      · have := mul_pos hd (mul_self_pos.mpr h0); linarith

theorem sdd_spd (a b : List K) (h2 : b.length + 1 = a.length) (h : SDD a b) : SPD a b := by
  intro x hx hnz
  have := (sdd_Q a b x hx.symm h2 0 le_rfl h).2 hnz
  simpa using this

end Ordered
end Tridiag
