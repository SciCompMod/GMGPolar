import GMGProofs.Lemmas.ExSmootherGiveStores
import GMGProofs.Lemmas.StencilLemmas2
/-!
# Code-level extrapolated smoother (give): what the two scatter kernels share

Both scatter kernels store to the giving node, to its two neighbours on the circle and to its two neighbours on the radial
line (`star`); what a target receives from a whole grid of such stars is one giver per direction (`sum_recv_star`).
`leftVal` … `crossVal` are the values the macros' "Fill temp" blocks compute; `cross_identity` adds the five a fine node of a
line through coarse nodes receives up to its row of `A_sc^ortho`.
-/
namespace ExSmootherGiveCode
open Stencil SparseLU SmootherCode Finset GiveCommon
variable {K : Type} [_root_.Field K]

section
variable (o : Op K)

/-- the stores of a five-point scatter from node `(i, j)`: to the node itself, down and up its circle, down and up its radial
    line -/
def star (i j : Nat) (C B T L R : K) : List (Stencil.Upd K) :=
  [⟨i, j, C⟩, ⟨i, jm o j, B⟩, ⟨i, jp o j, T⟩, ⟨i - 1, j, L⟩, ⟨i + 1, j, R⟩]

/-- what `(a, b)` receives when every node of the circles `0 … nr - 1` scatters a star: one giver per direction (on the
    innermost circle "down the radial line" is the node itself, hence `hL`) -/
theorem sum_recv_star (nr : Nat) (gC gB gT gL gR : Nat → Nat → K) (hL : ∀ j, gL 0 j = 0) (a b : Nat) (hb : b < o.nt) :
    ∑ i ∈ range nr, ∑ j ∈ range o.nt, recv (star o i j (gC i j) (gB i j) (gT i j) (gL i j) (gR i j)) a b =
      (if a < nr then gC a b + gB a (jp o b) + gT a (jm o b) else 0) + (if a + 1 < nr then gL (a + 1) b else 0)
        + (if 0 < a ∧ a - 1 < nr then gR (a - 1) b else 0) := by
  have hpos : 0 < o.nt := by omega
  have eL : ∀ i j, (if a = i - 1 ∧ b = j then gL i j else 0) = if i = a + 1 ∧ j = b then gL i j else 0 := by
    intro i j
    rcases Nat.eq_zero_or_pos i with rfl | hi
    · rw [hL, ite_self, ite_self]
    · exact if_congr ⟨fun h => ⟨by omega, h.2.symm⟩, fun h => ⟨by omega, h.2.symm⟩⟩ rfl rfl
  simp only [star, recv_cons, recv_nil, add_zero, Finset.sum_add_distrib, eL]
  rw [sum2_unique nr o.nt a b _ gC fun i j _ _ h => ⟨h.1.symm, h.2.symm⟩,
    sum2_unique nr o.nt a (jp o b) _ gB fun i j _ hj h => ⟨h.1.symm, by rw [h.2, jp_jm o hj]⟩,
    sum2_unique nr o.nt a (jm o b) _ gT fun i j _ hj h => ⟨h.1.symm, by rw [h.2, jm_jp o hj]⟩,
    sum2_unique nr o.nt (a + 1) b _ gL fun _ _ _ _ h => h,
    sum2_unique nr o.nt (a - 1) b _ gR fun i j _ _ h => ⟨by omega, h.2.symm⟩]
  simp only [jm_jp o hb, jp_jm o hb, jp_lt o hpos, jm_lt o hpos, hb, and_self, and_true,
    show a = a - 1 + 1 ↔ 0 < a by omega, and_comm (b := 0 < a)]
  split <;> simp only [add_assoc, zero_add]

variable (x : Stencil.Field K)

/-- "Fill temp(i-1,j)", "Fill temp(i+1,j)", "Fill temp(i,j-1)", "Fill temp(i,j+1)" of the outside parts -/
def leftVal (i j : Nat) : K :=
  -(coeff1 o i j) * o.arr i j * x i j - quarter * o.art i j * x i (jp o j) + quarter * o.art i j * x i (jm o j)
def rightVal (i j : Nat) : K :=
  -(coeff2 o i j) * o.arr i j * x i j + quarter * o.art i j * x i (jp o j) - quarter * o.art i j * x i (jm o j)
def bottomVal (i j : Nat) : K :=
  -(coeff3 o i j) * o.att i j * x i j - quarter * o.art i j * x (i + 1) j + quarter * o.art i j * x (i - 1) j
def topVal (i j : Nat) : K :=
  -(coeff4 o i j) * o.att i j * x i j + quarter * o.art i j * x (i + 1) j - quarter * o.art i j * x (i - 1) j
/-- the four neighbours of a fine node of a line through coarse nodes -/
def crossVal (i j : Nat) : K :=
  -(coeff1 o i j) * o.arr i j * x (i - 1) j - coeff2 o i j * o.arr i j * x (i + 1) j
    - coeff3 o i j * o.att i j * x i (jm o j) - coeff4 o i j * o.att i j * x i (jp o j)

variable {o}
/-- a fine node of a line through coarse nodes receives its four `A_sc^ortho` neighbours from itself and the four mixed terms
    from the coarse neighbours -/
theorem cross_identity {a b : Nat} (ha : 0 < a) (hb : b < o.nt) :
    crossVal o x a b + bottomVal o x a (jp o b) + topVal o x a (jm o b) + leftVal o x (a + 1) b + rightVal o x (a - 1) b
      = diagTerms o x a b (ExSmootherCode.crossTerms o x a b) := by
  unfold crossVal bottomVal topVal leftVal rightVal diagTerms ExSmootherCode.crossTerms
  rw [coeff1_succ, coeff2_pred o b ha, coeff3_jp o a hb, coeff4_jm]
  ring
end
end ExSmootherGiveCode
