import GMGProofs.Lemmas.ExSmootherGiveStar
/-!
# Code-level extrapolated smoother (give) — the circle section: scatter kernel and `temp` after one colour phase

`cC`, `cB`, `cT`, `cL`, `cR` are the five values `NODE_APPLY_ASC_ORTHO_CIRCLE_GIVE` stores (`0` where it stores nothing), as
functions of the node and of whether the node has the colour of the phase (`own`); they branch in the order the macro does.
A node of the phase's colour receives from itself and from its two neighbours on the circle (same colour) and from its two
neighbours on the radial line (other colour); `circle_recv` adds the five values up to the gather kernel's
`rhs - A_sc^ortho x` (`ExSmootherCode.orthoCircle`), and shows that every other node receives nothing.
-/
namespace ExSmootherGiveCode
open Stencil SparseLU SmootherCode Finset GiveCommon
variable {K : Type} [_root_.Field K]

section
variable (o : Op K) (nc : Nat) (black own : Bool) (x : Stencil.Field K)

/-- a value a node gives to its own circle: `u` on the circles `1 … nc - 1`, `v` on the innermost circle across the origin,
    and only in the phase of the circle's colour -/
def cOwn (i : Nat) (u v : K) : K :=
  if 0 < i ∧ i < nc then (if own = true then u else 0)
  else if i = 0 then (if o.bc = true then 0 else if own = true then v else 0)
  else 0

/-- to the node itself -/
def cC (i j : Nat) : K :=
  cOwn o nc own i
    (if i % 2 = 1 then -(coeff1 o i j) * o.arr i j * x (i - 1) j - coeff2 o i j * o.arr i j * x (i + 1) j
     else if j % 2 = 1 then crossVal o x i j else 0)
    (if j % 2 = 1 then
      -(coeff2 o i j) * o.arr i j * x (i + 1) j - coeff3 o i j * o.att i j * x i (jm o j)
        - coeff4 o i j * o.att i j * x i (jp o j)
     else 0)

/-- to `(i, j-1)` -/
def cB (i j : Nat) : K :=
  cOwn o nc own i
    (if i % 2 = 1 then -quarter * o.art i j * x (i + 1) j + quarter * o.art i j * x (i - 1) j
     else if j % 2 = 1 then 0 else bottomVal o x i j)
    (if j % 2 = 1 then 0 else -(coeff3 o i j) * o.att i j * x i j - quarter * o.art i j * x (i + 1) j)

/-- to `(i, j+1)` -/
def cT (i j : Nat) : K :=
  cOwn o nc own i
    (if i % 2 = 1 then quarter * o.art i j * x (i + 1) j - quarter * o.art i j * x (i - 1) j
     else if j % 2 = 1 then 0 else topVal o x i j)
    (if j % 2 = 1 then 0 else -(coeff4 o i j) * o.att i j * x i j + quarter * o.art i j * x (i + 1) j)

/-- to `(i-1, j)`; `i = nc`: the radial node next to the circle section, in the Black phase -/
def cL (i j : Nat) : K :=
  if 0 < i ∧ i < nc then
    if own = true then 0
    else if i % 2 = 1 then
      if j % 2 = 1 then (if 1 < i ∨ o.bc = false then leftVal o x i j else 0) else 0
    else if 1 < i ∨ o.bc = false then leftVal o x i j else 0
  else if i = 0 then 0
  else if i = nc then
    if black = true then (if j % 2 = 1 ∨ ¬ i % 2 = 1 then leftVal o x i j else 0) else 0
  else 0

/-- to `(i+1, j)` -/
def cR (i j : Nat) : K :=
  if 0 < i ∧ i < nc then
    if own = true then 0
    else if i % 2 = 1 then
      if j % 2 = 1 then (if i + 1 < nc then rightVal o x i j else 0) else 0
    else if i + 1 < nc then rightVal o x i j else 0
  else if i = 0 then
    if own = true then 0 else rightVal o x i j
  else 0

/-- **uniform description of `NODE_APPLY_ASC_ORTHO_CIRCLE_GIVE`**: as far as any target can tell, node `(i, j)` scatters the
    star of its five values -/
theorem recv_circleGive (i j a b : Nat) :
    recv (circleGive o nc black x i j) a b =
      recv (star o i j (cC o nc (circleNodeBlack nc i == black) x i j) (cB o nc (circleNodeBlack nc i == black) x i j)
        (cT o nc (circleNodeBlack nc i == black) x i j) (cL o nc black (circleNodeBlack nc i == black) x i j)
        (cR o nc (circleNodeBlack nc i == black) x i j)) a b := by
  unfold circleGive star cC cB cT cOwn cL cR leftVal rightVal bottomVal topVal crossVal
  simp only [ite_self]
  generalize (circleNodeBlack nc i == black) = own
  by_cases h1 : 0 < i ∧ i < nc
  · simp only [if_pos h1]
    split_ifs <;> simp only [recv_append, recv_cons, recv_nil, ite_self, add_zero, zero_add]
  by_cases h2 : i = 0
  · simp only [if_neg h1, if_pos h2]
    split_ifs <;> simp only [recv_cons, recv_nil, ite_self, add_zero, zero_add]
  by_cases h3 : i = nc
  · simp only [if_neg h1, if_neg h2, if_pos h3]
    split_ifs <;> simp only [recv_cons, recv_nil, ite_self, add_zero, zero_add]
  · simp only [if_neg h1, if_neg h2, if_neg h3, recv_cons, recv_nil, ite_self, add_zero]

theorem cL_zero (j : Nat) : cL o nc black own x 0 j = 0 := by
  unfold cL
  rw [if_neg (by omega), if_pos rfl]

/-- **the received total of `for i_r in [0, last): applyAscOrthoCircleSection(i_r, color)`**: one giver per direction -/
theorem circle_phase_recv (last a b : Nat) (hb : b < o.nt) :
    recv (circlePhase o nc black last x) a b =
      (if a < last then
        cC o nc (circleNodeBlack nc a == black) x a b + cB o nc (circleNodeBlack nc a == black) x a (jp o b)
          + cT o nc (circleNodeBlack nc a == black) x a (jm o b) else 0)
        + (if a + 1 < last then cL o nc black (circleNodeBlack nc (a + 1) == black) x (a + 1) b else 0)
        + (if 0 < a ∧ a - 1 < last then cR o nc (circleNodeBlack nc (a - 1) == black) x (a - 1) b else 0) := by
  unfold circlePhase
  rw [recv_flatMap, list_range_sum]
  simp only [recv_flatMap, list_range_sum, recv_circleGive]
  exact sum_recv_star o last (fun i => cC o nc (circleNodeBlack nc i == black) x i)
    (fun i => cB o nc (circleNodeBlack nc i == black) x i) (fun i => cT o nc (circleNodeBlack nc i == black) x i)
    (fun i => cL o nc black (circleNodeBlack nc i == black) x i) (fun i => cR o nc (circleNodeBlack nc i == black) x i)
    (fun j => cL_zero o nc black _ x j) a b hb

end

section
variable (o : Op K) (nc : Nat)

theorem circleNodeBlack_succ (i : Nat) : circleNodeBlack nc (i + 1) = !circleNodeBlack nc i := by
  unfold circleNodeBlack
  by_cases h1 : nc % 2 = 1 <;> by_cases h2 : i % 2 = 1 <;>
    (have h3 : (i + 1) % 2 = 1 ↔ ¬ i % 2 = 1 := by omega) <;> simp [h1, h2, h3]

theorem circleNodeBlack_pred {i : Nat} (hi : 0 < i) : circleNodeBlack nc (i - 1) = !circleNodeBlack nc i := by
  obtain ⟨k, rfl⟩ := Nat.exists_eq_add_of_lt hi
  rw [Nat.zero_add, Nat.add_sub_cancel, circleNodeBlack_succ, Bool.not_not]

/-- colour of a circle, as the take sweep's `blackCircles` / `whiteCircles` select it -/
theorem circleNodeBlack_iff {i : Nat} (hi : i < nc) : circleNodeBlack nc i = true ↔ (nc - 1 - i) % 2 = 0 := by
  unfold circleNodeBlack
  by_cases h1 : nc % 2 = 1 <;> by_cases h2 : i % 2 = 1 <;> simp [h1, h2] <;> omega

theorem circleNodeBlack_last (hnc : 1 ≤ nc) : circleNodeBlack nc (nc - 1) = true :=
  (circleNodeBlack_iff nc (by omega)).mpr (by omega)

variable (black : Bool) (f x : Stencil.Field K)

/-- `last` of the phase: Asc-ortho(Black) runs over `i_r = 0 … nc`, Asc-ortho(White) over `i_r = 0 … nc - 1` -/
def lastOf : Nat := if black then nc + 1 else nc

/-- the right give of a node of the other colour (not next to the radial section) -/
theorem cR_eval (i j : Nat) (hi : i + 1 < nc) :
    cR o nc false x i j = if i % 2 = 1 ∧ ¬ j % 2 = 1 then 0 else rightVal o x i j := by
  unfold cR
  rcases Nat.eq_zero_or_pos i with rfl | h0
  · rw [if_neg (by omega), if_pos rfl, if_neg Bool.false_ne_true, if_neg (by omega)]
  · rw [if_pos ⟨h0, by omega⟩, if_neg Bool.false_ne_true]
    simp only [if_pos hi]
    split_ifs <;> first | rfl | omega

/-- the left give of a node of the other colour (`i = nc`: the radial node next to the circle section, Black phase) -/
theorem cL_eval (i j : Nat) (hi1 : 1 < i) (hi : i < nc ∨ (i = nc ∧ black = true)) :
    cL o nc black false x i j = if i % 2 = 1 ∧ ¬ j % 2 = 1 then 0 else leftVal o x i j := by
  unfold cL
  rcases hi with hi | ⟨rfl, hb⟩
  · rw [if_pos ⟨by omega, hi⟩, if_neg Bool.false_ne_true]
    simp only [if_pos (Or.inl hi1 : 1 < i ∨ o.bc = false)]
    split_ifs <;> first | rfl | omega
  · rw [if_neg (by omega), if_neg (by omega), if_pos rfl, if_pos hb]
    split_ifs <;> first | rfl | omega

variable (own : Bool)

/-- the node itself and its neighbours on the circle only receive from a circle of the phase's colour -/
theorem cOwn_off (hnc : 0 < nc) (i : Nat) (u v : K) (h : ¬ (i < nc ∧ own = true)) : cOwn o nc own i u v = 0 := by
  unfold cOwn
  by_cases hown : own = true
  · rw [if_neg (fun h' => h ⟨h'.2, hown⟩), if_neg (fun h' => h ⟨by omega, hown⟩)]
  · simp only [if_neg hown, ite_self]

/-- a circle of the phase's colour gives nothing along the radial line -/
theorem cL_own (i j : Nat) (hi : i < nc) : cL o nc black true x i j = 0 := by
  unfold cL
  simp only [if_true, if_neg (by omega : ¬ i = nc), ite_self]

theorem cR_own (i j : Nat) : cR o nc true x i j = 0 := by
  unfold cR
  rw [if_pos rfl, if_pos rfl, ite_self, ite_self]

/-- the outermost circle gives nothing to the radial section -/
theorem cR_last (i j : Nat) (h0 : 0 < i) (hi : nc ≤ i + 1) : cR o nc own x i j = 0 := by
  unfold cR
  rw [if_neg (by omega : ¬ i + 1 < nc), if_neg (by omega : ¬ i = 0)]
  simp only [ite_self]


/-- **what a colour phase of the circle section subtracts from `temp`**: on a circle of the phase's colour it turns the initial
    value into the gather kernel's `rhs - A_sc^ortho x`; the circles of the other colour and the radial section receive nothing -/
theorem circle_recv (hnc : 3 ≤ nc) (heven : o.nt % 2 = 0) (a b : Nat) (hb : b < o.nt) :
    recv (circlePhase o nc black (lastOf nc black) x) a b =
      if a < nc ∧ circleNodeBlack nc a = black then initTemp f x a b - ExSmootherCode.orthoCircle o nc f x a b else 0 := by
  have hlast : lastOf nc black = if black = true then nc + 1 else nc := rfl
  rw [circle_phase_recv o nc black x _ a b hb]
  by_cases h : a < nc ∧ circleNodeBlack nc a = black
  · rw [if_pos h]
    obtain ⟨ha, hcol⟩ := h
    have pjp : jp o b % 2 ≠ b % 2 := by have := Stencil.jp_parity o heven hb; omega
    have pjm : jm o b % 2 ≠ b % 2 := by have := Stencil.jm_parity o heven hb; omega
    have hs : (circleNodeBlack nc (a + 1) == black) = false := by
      rw [circleNodeBlack_succ, hcol]; cases black <;> rfl
    have hblk : a + 1 = nc → black = true := by
      intro h
      have := circleNodeBlack_last nc (by omega)
      rwa [show nc - 1 = a by omega, hcol] at this
    have hl2 : a + 1 < lastOf nc black := by
      rw [hlast]; split
      · omega
      · next hw =>
        have : a + 1 ≠ nc := fun h => hw (hblk h)
        omega
    have hl1 : a < lastOf nc black := by omega
    rw [if_pos hl1, if_pos hl2, hcol, beq_self_eq_true, hs]
    rcases Nat.eq_zero_or_pos a with rfl | hp0
    · -- the innermost circle: nothing comes from the left
      have h01 : (0 : Nat) < 1 ∧ 1 < nc := by omega
      rw [if_neg (by omega : ¬ ((0 : Nat) < 0 ∧ 0 - 1 < lastOf nc black)), add_zero, Nat.zero_add]
      unfold cC cB cT cOwn cL ExSmootherCode.orthoCircle initTemp
      simp only [if_pos h01, if_true, if_false, Bool.false_eq_true, Nat.zero_mod, zero_ne_one, false_or, Nat.one_mod,
        Nat.lt_irrefl, false_and]
      by_cases hbc : o.bc = true
      · simp only [hbc, if_true, Bool.true_eq_false, if_false, ite_self, add_zero, sub_self]
      · by_cases hbo : b % 2 = 1
        · have j1 : ¬ jp o b % 2 = 1 := by omega
          have j2 : ¬ jm o b % 2 = 1 := by omega
          have k1 := coeff1_succ o 0 b
          simp only [hbc, hbo, j1, j2, if_true, if_false, leftVal, k1, Nat.zero_add, coeff3_jp o 0 hb, coeff4_jm,
            Bool.false_eq_true]
          ring
        · have j1 : jp o b % 2 = 1 := by omega
          have j2 : jm o b % 2 = 1 := by omega
          simp only [hbc, hbo, j1, j2, if_true, if_false, add_zero, sub_self, Bool.false_eq_true, ite_self]
    · have hp : (circleNodeBlack nc (a - 1) == black) = false := by
        rw [circleNodeBlack_pred nc hp0, hcol]; cases black <;> rfl
      have hint : 0 < a ∧ a < nc := ⟨hp0, ha⟩
      rw [if_pos ⟨hp0, by omega⟩, hp, cR_eval o nc x (a - 1) b (by omega),
        cL_eval o nc black x (a + 1) b (by omega) (by
          by_cases h3 : a + 1 < nc
          · exact Or.inl h3
          · exact Or.inr ⟨by omega, hblk (by omega)⟩)]
      unfold cC cB cT cOwn ExSmootherCode.orthoCircle initTemp
      simp only [if_pos hint, eq_self, if_true]
      by_cases hao : a % 2 = 1
      · have q1 : ¬ (a - 1) % 2 = 1 := by omega
        have q2 : ¬ (a + 1) % 2 = 1 := by omega
        simp only [hao, q1, q2, if_true, false_and, if_false, true_or, leftVal, rightVal, diagTerms]
        rw [coeff1_succ, coeff2_pred o b hp0]
        ring
      · have q1 : (a - 1) % 2 = 1 := by omega
        have q2 : (a + 1) % 2 = 1 := by omega
        by_cases hbo : b % 2 = 1
        · have j1 : ¬ jp o b % 2 = 1 := by omega
          have j2 : ¬ jm o b % 2 = 1 := by omega
          simp only [hao, hbo, j1, j2, q1, q2, if_true, if_false, not_true_eq_false, and_false, or_true,
            cross_identity x hp0 hb, sub_sub_cancel]
        · have j1 : jp o b % 2 = 1 := by omega
          have j2 : jm o b % 2 = 1 := by omega
          simp only [hao, hbo, j1, j2, q1, q2, if_true, if_false, not_false_eq_true, and_self, or_self, add_zero,
            sub_self]
  · -- not a circle of the phase's colour: its neighbours on the radial line have that colour, or lie beyond `last`
    rw [if_neg h]
    have hbeq : ∀ c black : Bool, ¬ c = black → ((!c) == black) = true := by decide
    have hown : ¬ (a < nc ∧ (circleNodeBlack nc a == black) = true) := fun h' => h ⟨h'.1, beq_iff_eq.mp h'.2⟩
    simp only [cC, cB, cT, cOwn_off o nc _ (by omega) a _ _ hown, add_zero, ite_self, zero_add]
    have hL : (if a + 1 < lastOf nc black then cL o nc black (circleNodeBlack nc (a + 1) == black) x (a + 1) b else 0)
        = 0 := by
      split
      next hl =>
        have ha : a + 1 < nc := by
          by_contra hge
          rw [hlast] at hl
          split at hl
          · next hb1 => exact h ⟨by omega, by rw [hb1, ← circleNodeBlack_last nc (by omega)]; congr 1; omega⟩
          · omega
        rw [circleNodeBlack_succ, hbeq _ _ fun hc => h ⟨by omega, hc⟩, cL_own o nc black x _ _ ha]
      next => rfl
    rw [hL, zero_add]
    split
    next hR =>
      by_cases ha : a < nc
      · rw [circleNodeBlack_pred nc hR.1, hbeq _ _ fun hc => h ⟨ha, hc⟩, cR_own]
      · exact cR_last o nc x _ _ _ (by omega) (by omega)
    next => rfl

theorem circle_temp_own (hnc : 3 ≤ nc) (heven : o.nt % 2 = 0) (t : Stencil.Field K) (a b : Nat) (ha : a < nc)
    (hb : b < o.nt) (hcol : circleNodeBlack nc a = black) (ht : t a b = initTemp f x a b) :
    ((circlePhase o nc black (lastOf nc black) x).foldl Stencil.applyUpd t) a b
      = ExSmootherCode.orthoCircle o nc f x a b := by
  rw [foldl_applyUpd, circle_recv o nc black f x hnc heven a b hb, if_pos ⟨ha, hcol⟩, ht, sub_sub_cancel]

theorem circle_temp_other (hnc : 3 ≤ nc) (heven : o.nt % 2 = 0) (t : Stencil.Field K) (a b : Nat) (hb : b < o.nt)
    (h : nc ≤ a ∨ ¬ circleNodeBlack nc a = black) :
    ((circlePhase o nc black (lastOf nc black) x).foldl Stencil.applyUpd t) a b = t a b := by
  -- off the circles of the phase nothing is received whatever the right-hand side: any field serves as `f`
  rw [foldl_applyUpd, circle_recv o nc black x x hnc heven a b hb, if_neg fun h' => h.elim (by omega) fun hc => hc h'.2,
    sub_zero]

end
end ExSmootherGiveCode
