import GMGProofs.Lemmas.SymPde
import Mathlib.Analysis.SpecialFunctions.Trigonometric.Arctan
import Mathlib.Analysis.SpecialFunctions.Trigonometric.Bounds
import Mathlib.Analysis.Real.Pi.Bounds
/-!
# Domain facts for the shipped geometries and coefficient profiles (C19)

The radicand `czRad = 1 + ε(ε + 2 (r/Rmax) cos θ)` of the Czarny mapping is positive and `< 4` for `0 < ε < 1`, `|r/Rmax| ≤ 1`;
`arctan_ten_thirds_lt` is the numeric bound behind the positivity of the Sonnendrücker profile on `r/Rmax ≤ 1`.
-/
namespace Sym

/-- radicand of the Czarny mapping, `env 0 = Rmax`, `env 1 = ε` -/
noncomputable def czRad (env : Nat → ℝ) (r th : ℝ) : ℝ := 1 + env 1 * (env 1 + 2 * (r / env 0) * Real.cos th)

/-- the radicand as the mapping writes it, and as its hand-written Jacobian and the composed exact solutions write it -/
@[sym_ev high] theorem ev_czRad {env : Nat → ℝ} {r th : ℝ} : ev env r th (.add (.num 1 1) (.mul (.par 1)
    (.add (.par 1) (.mul (.mul (.num 2 1) (.div (.v .r) (.par 0))) (.cos (.v .th)))))) = czRad env r th := by
  simp only [sym_ev, czRad]

@[sym_ev high] theorem ev_czRad' {env : Nat → ℝ} {r th : ℝ} : ev env r th (.add (.mul (.par 1)
    (.add (.mul (.mul (.num 2 1) (.div (.v .r) (.par 0))) (.cos (.v .th))) (.par 1))) (.num 1 1)) = czRad env r th := by
  simp only [sym_ev, czRad]; ring

theorem czRad_bounds {env : Nat → ℝ} {r th : ℝ} (he0 : 0 < env 1) (hr : |r / env 0| ≤ 1) :
    (1 - env 1) ^ 2 ≤ czRad env r th ∧ czRad env r th ≤ (1 + env 1) ^ 2 := by
  have hc : |r / env 0 * Real.cos th| ≤ 1 := by
    rw [abs_mul]
    calc |r / env 0| * |Real.cos th| ≤ 1 * 1 :=
          mul_le_mul hr (Real.abs_cos_le_one th) (abs_nonneg _) (by norm_num)
      _ = 1 := by norm_num
  obtain ⟨h1, h2⟩ := abs_le.mp hc
  unfold czRad
  constructor <;> nlinarith

theorem czRad_pos {env : Nat → ℝ} {r th : ℝ} (he0 : 0 < env 1) (he1 : env 1 < 1) (hr : |r / env 0| ≤ 1) :
    0 < czRad env r th := by
  have h := (czRad_bounds (th := th) he0 hr).1
  have : 0 < (1 - env 1) ^ 2 := by
    have : 0 < 1 - env 1 := by linarith
    positivity
  linarith

theorem sqrt_czRad_lt_two {env : Nat → ℝ} {r th : ℝ} (he0 : 0 < env 1) (he1 : env 1 < 1) (hr : |r / env 0| ≤ 1) :
    Real.sqrt (czRad env r th) < 2 := by
  have h := (czRad_bounds (th := th) he0 hr).2
  have h4 : czRad env r th < 2 ^ 2 := by nlinarith
  exact (Real.sqrt_lt' (by norm_num)).mpr h4

theorem abs_rho_le_one {r R : ℝ} (hR : 0 < R) (h0 : 0 ≤ r) (h1 : r ≤ R) : |r / R| ≤ 1 := by
  rw [abs_of_nonneg (div_nonneg h0 hR.le)]
  exact (div_le_one hR).mpr h1

/-- `arctan (10/3) < 1.2858` (true value 1.27934…): from `tan 0.285 < 3/10` and `π < 3.1416` -/
theorem arctan_ten_thirds_lt : Real.arctan (10 / 3) < 1.2858 := by
  have hpi := Real.pi_gt_three
  have hpi' := Real.pi_lt_d4
  have hc0 : (0 : ℝ) < 0.285 := by norm_num
  have hcpi : (0.285 : ℝ) < Real.pi / 2 := by linarith
  have hcos : 0 < Real.cos 0.285 := Real.cos_pos_of_mem_Ioo ⟨by linarith, hcpi⟩
  have hsin : Real.sin 0.285 < 0.285 := Real.sin_lt hc0
  have hcos' : 1 - (0.285 : ℝ) ^ 2 / 2 ≤ Real.cos 0.285 := Real.one_sub_sq_div_two_le_cos
  have htan : Real.tan 0.285 < 3 / 10 := by
    rw [Real.tan_eq_sin_div_cos, div_lt_iff₀ hcos]
    nlinarith
  have h1 : (0.285 : ℝ) < Real.arctan (3 / 10) := by
    have := Real.arctan_strictMono htan
    rwa [Real.arctan_tan (by linarith) hcpi] at this
  have h2 : Real.arctan (10 / 3) = Real.pi / 2 - Real.arctan (3 / 10) := by
    have := Real.arctan_inv_of_pos (x := 3 / 10) (by norm_num)
    rw [← this]; norm_num
  rw [h2]
  linarith

end Sym
