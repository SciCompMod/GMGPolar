import GMGModel.Scalar
import Mathlib.Algebra.Field.Basic
/-!
# Every field is a `Scalar`

The instance through which every property is stated over a field: the model's `+ - * / -` become
(definitionally) the field operations and `Scalar.n k` the cast of `k`.
-/

instance instScalarField {K : Type} [Field K] : Scalar K := { ofNat := fun k => (k : K) }

namespace Scalar
variable {K : Type} [Field K]
@[simp] theorem n_zero : (Scalar.n 0 : K) = 0 := by simp [Scalar.n, Scalar.ofNat]
@[simp] theorem n_one : (Scalar.n 1 : K) = 1 := by simp [Scalar.n, Scalar.ofNat]
@[simp] theorem n_eq (k : Nat) : (Scalar.n k : K) = (k : K) := rfl
end Scalar
