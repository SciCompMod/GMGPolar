import GMGProofs.Props.C10h
import GMGModel.Build
import GMGProofs.Props.C03c
/-!
# The levels of the hierarchy `Build.hier` makes from a nested chain of level grids

Sampling down a nested chain reproduces the fresh cache of every grid (C03c), so level `l` of the hierarchy carries the operator data
obtained through the FRESH cache of grid `l`; its shape and split are those of the grid, and the hierarchy is `C10h.BuiltBy` as soon
as the grids have the shapes of the coarsening chain.
-/
namespace Build
open Stencil Concrete Cache GridGenL Grid

variable {α : Type} [Scalar α]

theorem cachesFrom_fresh (E : Env α) (cc cg : Bool) (rest : List (GridData α)) :
    ∀ G : GridData α, List.IsChain C03c.Nested (G :: rest) →
      cachesFrom (fresh E G cc cg) G rest = (G :: rest).map fun G => fresh E G cc cg := by
  induction rest with
  | nil => intro G _; rfl
  | cons G' rest ih =>
      intro G hchain
      rw [List.isChain_cons_cons] at hchain
      show fresh E G cc cg :: cachesFrom (coarsen (fresh E G cc cg) G.g G'.g) G' rest = _
      rw [C03c.coarsen_fresh E G G' hchain.1 cc cg, ih G' hchain.2]
      rfl

theorem zip_map_self {β γ : Type} (f : β → γ) (l : List β) : l.zip (l.map f) = l.map fun x => (x, f x) := by
  induction l with
  | nil => rfl
  | cons a l ih => simp only [List.map_cons, List.zip_cons_cons, ih]

theorem lvl_map {β : Type} (H : Hier α) (l : List β) (f : β → LevelData α) (hH : H.levels = l.map f) (i : Nat)
    (hi : i < l.length) : lvl H i = f l[i] := by
  unfold lvl
  rw [hH, List.getD_eq_getElem?_getD, List.getElem?_map, List.getElem?_eq_getElem hi]
  rfl

theorem direct_eq (E : Env α) (G : GridData α) (i j : Nat) :
    direct E G i j =
      (E.sinF (G.theta j), E.cosF (G.theta j), E.beta (G.radius i),
        jacobianElements E.absF
          (E.jac (G.radius i) (G.theta j) (E.sinF (G.theta j)) (E.cosF (G.theta j))).1
          (E.jac (G.radius i) (G.theta j) (E.sinF (G.theta j)) (E.cosF (G.theta j))).2.1
          (E.jac (G.radius i) (G.theta j) (E.sinF (G.theta j)) (E.cosF (G.theta j))).2.2.1
          (E.jac (G.radius i) (G.theta j) (E.sinF (G.theta j)) (E.cosF (G.theta j))).2.2.2
          (E.alpha (G.radius i))) := rfl

variable (E : Env α) (grids : List (GridData α)) (bc cc cg : Bool) (tiny : α → Bool)
  (T : DirectCode.Tables) (hchain : List.IsChain C03c.Nested grids)
include hchain

theorem hier_levels :
    (hier E grids bc cc cg tiny T).levels = grids.map fun G => ⟨opOf E G bc (fresh E G cc cg), G.g.nc⟩ := by
  cases grids with
  | nil => rfl
  | cons G0 Gs =>
    show ((G0 :: Gs).zip (cachesFrom (fresh E G0 cc cg) G0 Gs)).map _ = _
    rw [cachesFrom_fresh E cc cg Gs G0 hchain, zip_map_self, List.map_map]
    rfl

theorem lvl_hier (l : Nat) (hl : l < grids.length) :
    lvl (hier E grids bc cc cg tiny T) l = ⟨opOf E grids[l] bc (fresh E grids[l] cc cg), grids[l].g.nc⟩ :=
  lvl_map _ grids _ (hier_levels E grids bc cc cg tiny T hchain) l hl

/-- no hypothesis on the input functions: shapes, splits and the boundary flag are copied from the grids -/
theorem hier_builtBy {nr nt L : Nat} {crit : Nat → Nat → Bool} (hlen : grids.length = L)
    (hshape : ∀ l (hl : l < grids.length), (grids[l]).g.nr = coarsenR l nr ∧ (grids[l]).g.nt = coarsenT l nt ∧
      (grids[l]).g.nc = Split.autoNc (crit l) (coarsenR l nr)) :
    C10h.BuiltBy (hier E grids bc cc cg tiny T) nr nt crit L ∧
      ∀ l, l < L → (lvl (hier E grids bc cc cg tiny T) l).op.bc = bc := by
  subst hlen
  refine ⟨⟨fun l h => ?_, fun l h => ?_, fun l h => ?_⟩, fun l h => ?_⟩ <;>
    rw [lvl_hier E grids bc cc cg tiny T hchain l h]
  exacts [(hshape l h).1, (hshape l h).2.1, (hshape l h).2.2, rfl]

end Build
