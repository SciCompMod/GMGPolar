import GMGProofs.Lemmas.SourceTerms1
/-!
# The Sonnendrücker source terms: the defect caused by rounded decimal constants (C19 source terms)

The C++ source terms of the Sonnendrücker profile `α(ρ) = a₀ − a₁ arctan(k ρ − c)` (`ρ = r / Rmax`) do not contain
`α'(ρ) = −a₁ k / (1 + (k ρ − c)²)` but the pre-multiplied, re-rounded form `−c₂ / (q (ρ − s)² + 1)` with 15-digit decimal
literals `c₂ ≈ a₁ k`, `q ≈ k²`, `s ≈ c / k`.  The literals are not exactly consistent (`c₂ ≠ a₁ k`, `q ≠ k²`, `s ≠ c / k` in ℚ),
so source term and PDE operator differ by `sonDelta ρ · u_ρ` with `|sonDelta ρ| ≤ 10⁻¹¹` on `0 ≤ ρ ≤ 1` (`sonDelta_abs_le`).
-/
namespace Sym

/-- `α'_Lu(ρ) − α'_src(ρ)`: derivative of the shipped `α` minus the derivative hard-coded in the shipped source terms -/
noncomputable def sonDelta (ρ : ℝ) : ℝ :=
  251645373596593 / 50000000000000 / (104320987654321 / 500000000000 * (ρ - 769230769230769 / 1000000000000000) ^ 2 + 1)
  - 348432055749129 / 1000000000000000 * (36111111111111 / 2500000000000)
      / (1 + (36111111111111 / 2500000000000 * ρ - 111111111111111 / 10000000000000)
            * (36111111111111 / 2500000000000 * ρ - 111111111111111 / 10000000000000))

theorem sonDelta_den1 (ρ : ℝ) :
    104320987654321 / 500000000000 * (ρ - 769230769230769 / 1000000000000000) ^ 2 + 1 ≠ 0 := by positivity

theorem sonDelta_den2 (ρ : ℝ) :
    1 + (36111111111111 / 2500000000000 * ρ - 111111111111111 / 10000000000000)
      * (36111111111111 / 2500000000000 * ρ - 111111111111111 / 10000000000000) ≠ 0 := by
  nlinarith [mul_self_nonneg (36111111111111 / 2500000000000 * ρ - 111111111111111 / 10000000000000)]

/-- the defect is tiny on the domain: `|sonDelta ρ| ≤ 10⁻¹¹` for `0 ≤ ρ ≤ 1` (numerically the maximum is `≈ 9·10⁻¹⁴`) -/
theorem sonDelta_abs_le {ρ : ℝ} (h0 : 0 ≤ ρ) (h1 : ρ ≤ 1) : |sonDelta ρ| ≤ 1 / 10 ^ 11 := by
  have hq1 : 1 ≤ 104320987654321 / 500000000000 * (ρ - 769230769230769 / 1000000000000000) ^ 2 + 1 := by
    nlinarith [sq_nonneg (ρ - 769230769230769 / 1000000000000000)]
  have hq2 : 1 ≤ 1 + (36111111111111 / 2500000000000 * ρ - 111111111111111 / 10000000000000)
      * (36111111111111 / 2500000000000 * ρ - 111111111111111 / 10000000000000) := by
    nlinarith [mul_self_nonneg (36111111111111 / 2500000000000 * ρ - 111111111111111 / 10000000000000)]
  have hp := one_le_mul_of_one_le_of_one_le hq1 hq2
  have hsq : 0 ≤ ρ * (1 - ρ) := mul_nonneg h0 (by linarith)
  unfold sonDelta
  rw [div_sub_div _ _ (sonDelta_den1 ρ) (sonDelta_den2 ρ), abs_div, abs_of_pos (lt_of_lt_of_le one_pos hp),
    div_le_iff₀ (lt_of_lt_of_le one_pos hp)]
  -- the numerator is a quadratic with tiny coefficients; the denominator is at least 1
  exact le_trans (abs_le.2 ⟨by linarith, by linarith⟩) (le_mul_of_one_le_right (by norm_num) hp)

/-- … but not zero: the literals are inconsistent -/
theorem sonDelta_half_ne : sonDelta (1 / 2) ≠ 0 := by unfold sonDelta; norm_num
theorem sonDelta_quarter_ne : sonDelta (1 / 4) ≠ 0 := by unfold sonDelta; norm_num

theorem approx_of_defect {s L d r R : ℝ} (h : s = L + sonDelta (r / R) * d) (hR : 0 < R) (hr : 0 < r) (hr1 : r ≤ R) :
    |s - L| ≤ 1 / 10 ^ 11 * |d| := by
  rw [h, add_sub_cancel_left, abs_mul]
  exact mul_le_mul_of_nonneg_right (sonDelta_abs_le (div_nonneg hr.le hR.le) ((div_le_one hR).mpr hr1)) (abs_nonneg d)

/-- the exact identity fails: take `Rmax = 1` and a point where neither `sonDelta` nor `d` vanishes -/
theorem not_forall_of_defect {F L d : (Nat → ℝ) → ℝ → ℝ → ℝ}
    (h : ∀ {env r th}, env 0 ≠ 0 → 0 < r → F env r th = L env r th + sonDelta (r / env 0) * (env 0 * d env r th))
    {r th : ℝ} (hr : 0 < r) (hδ : sonDelta r ≠ 0) (hd : d (fun _ => 1) r th ≠ 0) :
    ¬ ∀ env r th, env 0 ≠ 0 → 0 < r → F env r th = L env r th := fun e => by
  have := (h (env := fun _ => 1) (th := th) one_ne_zero hr).symm.trans (e _ _ _ one_ne_zero hr)
  simp only [div_one, one_mul, add_eq_left, mul_eq_zero] at this
  exact this.elim hδ hd

section scales
open Expr InputFns
variable {env : Nat → ℝ} {r th : ℝ}

theorem scales_CartesianR2 (hR : env 0 ≠ 0) : Scales env r th Gen.CartesianR2_CircularGeometry_exact_solution := by
  refine ⟨by simp only [Gen.CartesianR2_CircularGeometry_exact_solution, sym_ev], ?_, ?_, ?_, ?_⟩ <;> simp only [Gen.CartesianR2_CircularGeometry_exact_solution] <;> sym_eval <;> field_simp

theorem scales_CartesianR6 (hR : env 0 ≠ 0) : Scales env r th Gen.CartesianR6_CircularGeometry_exact_solution := by
  refine ⟨by simp only [Gen.CartesianR6_CircularGeometry_exact_solution, sym_ev], ?_, ?_, ?_, ?_⟩ <;> simp only [Gen.CartesianR6_CircularGeometry_exact_solution] <;> sym_eval <;> field_simp

theorem scales_PolarR6 (hR : env 0 ≠ 0) : Scales env r th Gen.PolarR6_CircularGeometry_exact_solution := by
  refine ⟨by simp only [Gen.PolarR6_CircularGeometry_exact_solution, sym_ev], ?_, ?_, ?_, ?_⟩ <;> simp only [Gen.PolarR6_CircularGeometry_exact_solution] <;> sym_eval <;> field_simp

theorem scales_Sonnendrucker (hR : env 0 ≠ 0) : Scales env r th Gen.SonnendruckerCoefficients_alpha := by
  refine ⟨by simp only [Gen.SonnendruckerCoefficients_alpha, sym_ev], ?_, ?_, ?_, ?_⟩ <;> simp only [Gen.SonnendruckerCoefficients_alpha] <;> sym_eval <;> field_simp

theorem scales_Zoni (hR : env 0 ≠ 0) : Scales env r th Gen.ZoniCoefficients_alpha := by
  refine ⟨by simp only [Gen.ZoniCoefficients_alpha, sym_ev], ?_, ?_, ?_, ?_⟩ <;> simp only [Gen.ZoniCoefficients_alpha] <;> sym_eval <;> field_simp

theorem scales_ZoniShifted (hR : env 0 ≠ 0) : Scales env r th Gen.ZoniShiftedCoefficients_alpha := by
  refine ⟨by simp only [Gen.ZoniShiftedCoefficients_alpha, sym_ev], ?_, ?_, ?_, ?_⟩ <;> simp only [Gen.ZoniShiftedCoefficients_alpha] <;> sym_eval <;> field_simp

end scales

open Expr InputFns in
/-- witness points: `u_r ≠ 0` at `Rmax = 1`, `(r, θ) = (1/2, π/2)` (Cartesian solutions), `(1/4, 0)` (polar solution) -/
theorem ur_CartesianR2_ne :
    ev (fun _ => 1) (1 / 2) (Real.pi / 2) (D .r Gen.CartesianR2_CircularGeometry_exact_solution) ≠ 0 := by
  simp only [Gen.CartesianR2_CircularGeometry_exact_solution]
  sym_eval
  simp only [Real.sin_pi_div_two, Real.cos_pi_div_two]
  have e : 2 * Real.pi * (1 / 2) = Real.pi := by ring
  simp only [e, Real.sin_pi, Real.cos_pi, sym_clean]
  norm_num [Real.pi_ne_zero]

open Expr InputFns in
theorem ur_CartesianR6_ne :
    ev (fun _ => 1) (1 / 2) (Real.pi / 2) (D .r Gen.CartesianR6_CircularGeometry_exact_solution) ≠ 0 := by
  simp only [Gen.CartesianR6_CircularGeometry_exact_solution]
  sym_eval
  simp only [Real.sin_pi_div_two, Real.cos_pi_div_two]
  have e : 2 * Real.pi * (1 / 2) = Real.pi := by ring
  simp only [e, Real.sin_pi, Real.cos_pi, sym_clean]
  norm_num [Real.pi_ne_zero]

open Expr InputFns in
theorem ur_PolarR6_ne :
    ev (fun _ => 1) (1 / 4) 0 (D .r Gen.PolarR6_CircularGeometry_exact_solution) ≠ 0 := by
  simp only [Gen.PolarR6_CircularGeometry_exact_solution]
  sym_eval
  norm_num

end Sym
