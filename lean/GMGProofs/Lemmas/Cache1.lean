import GMGModel.Cache
import GMGProofs.Props.C17
/-!
# Helper lemmas for C03c: what `Cache.fillNodes` stores (core Lean only)

`fillNodes g size v` folds `Array.setIfInBounds` over all nodes in the loop order of the constructors.  On a valid grid
every node is visited, the index map is injective on the grid and onto `0 .. numNodes-1`, hence with
`size = numNodes` the result is the array `p ↦ v (multiIndex p)`; with `size = 0` it is empty.
-/
namespace Cache
variable {α : Type}

theorem getD_lt (a : Array α) (k : Nat) (z : α) (h : k < a.size) : a.getD k z = a[k] :=
  (Array.getElem_eq_getD z).symm

theorem ofFn_getD (n : Nat) (f : Nat → α) (k : Nat) (z : α) (h : k < n) :
    (Array.ofFn (n := n) fun i => f i.val).getD k z = f k := by
  rw [getD_lt _ _ _ (by simpa using h)]; simp

theorem foldl_set_size {ι : Type} (idx : ι → Nat) (val : ι → α) :
    ∀ (L : List ι) (a : Array α), (L.foldl (fun a p => a.setIfInBounds (idx p) (val p)) a).size = a.size
  | [], a => rfl
  | q :: L, a => by
      rw [List.foldl_cons, foldl_set_size idx val L]; simp

theorem foldl_set_getD {ι : Type} (idx : ι → Nat) (val : ι → α) (z : α) (k : Nat) (x : α) :
    ∀ (L : List ι) (a : Array α), (∀ q ∈ L, idx q = k → val q = x) →
      (a.getD k z = x ∨ ∃ q ∈ L, idx q = k) → k < a.size →
      (L.foldl (fun a p => a.setIfInBounds (idx p) (val p)) a).getD k z = x
  | [], a, _, h, _ => by
      rcases h with h | ⟨q, hq, _⟩
      · exact h
      · cases hq
  | q :: L, a, hall, h, hk => by
      rw [List.foldl_cons]
      apply foldl_set_getD idx val z k x L
      · intro q' hq'; exact hall q' (List.mem_cons_of_mem _ hq')
      · by_cases hqk : idx q = k
        · left
          have := hall q List.mem_cons_self hqk
          subst hqk
          rw [getD_lt _ _ _ (by simpa using hk)]; simp [this]
        · rcases h with h | ⟨q', hq', hk'⟩
          · left
            rw [getD_lt _ _ _ hk] at h
            rw [getD_lt _ _ _ (by simpa using hk), Array.getElem_setIfInBounds_ne hk hqk]; exact h
          · right
            rcases List.mem_cons.mp hq' with rfl | hm
            · exact absurd hk' hqk
            · exact ⟨q', hm, hk'⟩
      · simpa using hk

theorem mem_visitOrder (g : Grid) (hnc : g.nc ≤ g.nr) (i j : Nat) :
    (i, j) ∈ visitOrder g ↔ i < g.nr ∧ j < g.nt := by
  unfold visitOrder
  simp only [List.mem_append, List.mem_flatMap, List.mem_map, List.mem_range, Prod.mk.injEq]
  constructor
  · rintro (⟨a, ha, b, hb, rfl, rfl⟩ | ⟨b, hb, t, ht, rfl, rfl⟩)
    · exact ⟨by omega, hb⟩
    · exact ⟨by omega, hb⟩
  · rintro ⟨hi, hj⟩
    by_cases h : i < g.nc
    · left; exact ⟨i, h, j, hj, rfl, rfl⟩
    · right; exact ⟨j, hj, i - g.nc, by omega, by omega, rfl⟩

variable [Scalar α]

theorem fillNodes_size (g : Grid) (size : Nat) (v : Nat → Nat → α) : (fillNodes g size v).size = size := by
  unfold fillNodes
  rw [foldl_set_size (fun p : Nat × Nat => g.fastIndex p.1 p.2) (fun p => v p.1 p.2)]; simp

theorem fillNodes_zero (g : Grid) (v : Nat → Nat → α) : fillNodes g 0 v = #[] :=
  Array.eq_empty_of_size_eq_zero (fillNodes_size g 0 v)

theorem fillNodes_getD (g : Grid) (hv : g.Valid) (v : Nat → Nat → α) (z : α) (i j : Nat)
    (hi : i < g.nr) (hj : j < g.nt) : (fillNodes g g.numNodes v).getD (g.fastIndex i j) z = v i j := by
  unfold fillNodes
  apply foldl_set_getD (fun p : Nat × Nat => g.fastIndex p.1 p.2) (fun p => v p.1 p.2)
  · rintro ⟨i', j'⟩ hq hidx
    obtain ⟨hi', hj'⟩ := (mem_visitOrder g hv.nc_le i' j').mp hq
    have := C17.index_injective g hv i' j' i j hi' hj' hi hj hidx
    simp only [Prod.mk.injEq] at this
    obtain ⟨rfl, rfl⟩ := this
    rfl
  · right
    exact ⟨(i, j), (mem_visitOrder g hv.nc_le i j).mpr ⟨hi, hj⟩, rfl⟩
  · simpa using C17.index_lt g hv i j hi hj

theorem fillNodes_eq_ofFn (g : Grid) (hv : g.Valid) (v : Nat → Nat → α) :
    fillNodes g g.numNodes v = Array.ofFn (n := g.numNodes) fun p => v (g.multiIndex p.val).1 (g.multiIndex p.val).2 := by
  apply Array.ext
  · rw [fillNodes_size]; simp
  · intro k hk1 hk2
    have hk : k < g.numNodes := by simpa using hk2
    obtain ⟨h1, h2, h3⟩ := C17.index_multi g hv k hk
    have := fillNodes_getD g hv v (Scalar.n 0) _ _ h1 h2
    rw [h3] at this
    rw [getD_lt _ _ _ hk1] at this
    rw [this]; simp

theorem fillNodes_congr (g : Grid) (hv : g.Valid) (v w : Nat → Nat → α)
    (h : ∀ i j, i < g.nr → j < g.nt → v i j = w i j) : fillNodes g g.numNodes v = fillNodes g g.numNodes w := by
  rw [fillNodes_eq_ofFn g hv, fillNodes_eq_ofFn g hv]
  congr 1; funext p
  obtain ⟨h1, h2, _⟩ := C17.index_multi g hv p.val p.isLt
  exact h _ _ h1 h2

end Cache
