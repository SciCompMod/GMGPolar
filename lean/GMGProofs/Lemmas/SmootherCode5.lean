import GMGProofs.Lemmas.TridiagSDD
import GMGProofs.Lemmas.TridiagCyclicSPD
/-!
# Lemmas for C06c: strict diagonal dominance of concrete line matrices is decidable
-/
namespace Tridiag
variable {K : Type} [Field K] [LinearOrder K] [IsStrictOrderedRing K]

def sddFromDec : (p : K) → (a b : List K) → Decidable (sddFrom p a b)
  | _, [], _ => isFalse (by simp [sddFrom])
  | p, [a], [] => decidable_of_iff (p < a) (by simp [sddFrom])
  | _, _ :: _ :: _, [] => isFalse (by simp [sddFrom])
  | p, a :: as, b :: bs =>
      have := sddFromDec |b| as bs
      decidable_of_iff (p + |b| < a ∧ sddFrom |b| as bs) (by simp [sddFrom])

instance (p : K) (a b : List K) : Decidable (sddFrom p a b) := sddFromDec p a b
instance (a b : List K) : Decidable (SDD a b) := by unfold SDD; infer_instance
instance (a b : List K) (c : K) : Decidable (SDDc a b c) := by unfold SDDc; infer_instance

end Tridiag
