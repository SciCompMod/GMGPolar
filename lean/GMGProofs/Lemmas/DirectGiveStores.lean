import GMGModel.DirectGiveCode
import GMGProofs.Lemmas.DirectCode3
import GMGProofs.Lemmas.Scatter
import GMGProofs.Lemmas.SmootherCode3
/-!
# Code-level direct solver (give) — accumulating stores into a zero-initialised list of rows; offsets and sizes

Generic part, independent of the stencil: a state is a list of rows of `(column, value)` slots; one store addresses a slot
`g u = some (r, q)`, overwrites its column with `c u` and adds `v u` to its value (`step`); an address outside the state is
`none`.  If every store of a list is in bounds the fold succeeds, keeps the shape, and every slot evolves on its own as a
`Scatter.cellFold`.

With the header's tables, `addr` is the slot `(row index, offset)` one `UPDATE_MATRIX_ELEMENT` addresses (`none`: table entry
`-1` or `getStencil` throws).  `getStencil` / `getStencilSize` select by three kinds of row (`4 ≤ nr`); each kind accepts a set
of positions (`ValidPos`) and gives them offsets below the allocated size, which `slotPos` inverts.
-/
namespace DirectGiveCode
open SparseLU
variable {K : Type} [_root_.Field K]

abbrev State (K : Type) := List (List (Nat × K))

/-- slot `q` of row `r` (a zero slot outside the state) -/
def rd (rs : State K) (r q : Nat) : Nat × K := (rs.getD r []).getD q (0, Scalar.n 0)
def rlen (rs : State K) (r : Nat) : Nat := (rs.getD r []).length

theorem getD_set' {γ : Type} (l : List γ) (i j : Nat) (a d : γ) :
    (l.set i a).getD j d = if i = j ∧ i < l.length then a else l.getD j d := by
  rw [List.getD_eq_getElem?_getD, List.getD_eq_getElem?_getD, List.getElem?_set]
  by_cases h : i = j
  · subst h
    by_cases h2 : i < l.length
    · simp [h2]
    · simp [h2]
  · simp [h]

section generic
variable {β : Type} (g : β → Option (Nat × Nat)) (c : β → Nat) (v : β → K)

def step (rs : State K) (u : β) : Option (State K) :=
  match g u with
  | none => none
  | some a =>
    if a.2 < (rs.getD a.1 []).length then
      some (rs.set a.1 ((rs.getD a.1 []).set a.2 (c u, ((rs.getD a.1 []).getD a.2 (0, Scalar.n 0)).2 + v u)))
    else none

def run (rs0 : State K) (us : List β) : Option (State K) :=
  us.foldl (fun st u => st.bind fun rs => step g c v rs u) (some rs0)

theorem step_spec (rs : State K) (u : β) (a : Nat × Nat) (hg : g u = some a) (h : a.2 < rlen rs a.1) :
    ∃ rs', step g c v rs u = some rs' ∧ rs'.length = rs.length ∧ (∀ r, rlen rs' r = rlen rs r) ∧
      ∀ r q, rd rs' r q = if a = (r, q) then (c u, (rd rs r q).2 + v u) else rd rs r q := by
  unfold rlen at h
  have hlt : a.1 < rs.length := by
    by_contra hc
    rw [SparseLU.getD_of_le _ (Nat.le_of_not_lt hc)] at h
    exact Nat.not_lt_zero _ h
  unfold step
  rw [hg]
  simp only
  rw [if_pos h]
  refine ⟨_, rfl, List.length_set, fun r => ?_, fun r q => ?_⟩
  · unfold rlen
    rw [getD_set']
    split
    · next hr => rw [← hr.1, List.length_set]
    · rfl
  · unfold rd
    rw [getD_set']
    by_cases hr : a.1 = r
    · subst hr
      rw [if_pos ⟨rfl, hlt⟩, getD_set']
      by_cases hq : a.2 = q
      · subst hq
        rw [if_pos ⟨rfl, h⟩, if_pos rfl]
      · rw [if_neg fun hh => hq hh.1, if_neg fun hh => hq (congrArg Prod.snd hh)]
    · rw [if_neg fun hh => hr hh.1, if_neg fun hh => hr (congrArg Prod.fst hh)]

theorem run_spec (us : List β) (rs0 : State K) (hin : ∀ u ∈ us, ∃ a, g u = some a ∧ a.2 < rlen rs0 a.1) :
    ∃ rsf, run g c v rs0 us = some rsf ∧ rsf.length = rs0.length ∧ (∀ r, rlen rsf r = rlen rs0 r) ∧
      ∀ r q, rd rsf r q = Scatter.cellFold (fun u => g u = some (r, q)) c v (rd rs0 r q) us := by
  induction us generalizing rs0 with
  | nil => exact ⟨rs0, rfl, rfl, fun _ => rfl, fun _ _ => rfl⟩
  | cons u us ih =>
    obtain ⟨a, hg, ha⟩ := hin u List.mem_cons_self
    obtain ⟨rs1, h1, hl1, hr1, hd1⟩ := step_spec g c v rs0 u a hg ha
    obtain ⟨rsf, h2, hl2, hr2, hd2⟩ := ih rs1 fun w hw => by
      rw [funext hr1]
      exact hin w (List.mem_cons_of_mem _ hw)
    refine ⟨rsf, ?_, hl2.trans hl1, fun r => (hr2 r).trans (hr1 r), fun r q => ?_⟩
    · unfold run
      rw [List.foldl_cons]
      show List.foldl _ (step g c v rs0 u) us = _
      rw [h1]
      exact h2
    · rw [hd2, hd1, Scatter.cellFold_cons, hg]
      simp only [Option.some.injEq]

end generic

theorem list_eq_tab {γ : Type} (l : List γ) (d : γ) : l = (List.range l.length).map fun q => l.getD q d := by
  apply List.ext_getElem
  · simp
  · intro i h1 h2
    simp only [List.getElem_map, List.getElem_range]
    rw [List.getD_eq_getElem?_getD, List.getElem?_eq_getElem h1]
    rfl

theorem state_eq_tab (rs : State K) :
    rs = (List.range rs.length).map fun r => (List.range (rlen rs r)).map fun q => rd rs r q := by
  conv_lhs => rw [list_eq_tab rs []]
  apply List.map_congr_left
  intro r _
  exact list_eq_tab (rs.getD r []) (0, Scalar.n 0)

theorem den_eq_sum (r : Row K) (hu : Uniq r) (k : Nat) :
    den r k = (r.map fun e => if e.1 = k then e.2 else 0).sum := by
  induction r with
  | nil => simp
  | cons e r ih =>
    rw [den_cons, List.map_cons, List.sum_cons]
    obtain ⟨h1, h2⟩ := uniq_cons.mp hu
    by_cases h : e.1 = k
    · rw [if_pos h, if_pos h, List.sum_eq_zero, add_zero]
      intro x hx
      obtain ⟨e', he', rfl⟩ := List.mem_map.mp hx
      exact if_neg fun h' => h1 (List.mem_map.mpr ⟨e', he', h'.trans h.symm⟩)
    · rw [if_neg h, if_neg h, ih h2, zero_add]

theorem den_tab (L : Nat) (C : Nat → Nat) (S : Nat → K)
    (hinj : ∀ q q', q < L → q' < L → C q = C q' → q = q') (k : Nat) :
    den ((List.range L).map fun q => (C q, S q)) k
      = ((List.range L).map fun q => if C q = k then S q else 0).sum := by
  have hu : Uniq ((List.range L).map fun q => (C q, S q)) := by
    unfold Uniq keys
    rw [List.map_map]
    exact List.Nodup.map_on (fun q hq q' hq' h => hinj q q' (List.mem_range.mp hq) (List.mem_range.mp hq') h)
      List.nodup_range
  rw [den_eq_sum _ hu, List.map_map]
  rfl

section exchange
variable {β : Type} (g : β → Option (Nat × Nat)) (c : β → Nat) (v : β → K)

/-- summing, over the slots of row `r` that carry column `k`, the values addressed to the slot = summing the values of the
    stores into row `r` with column `k` (every store addresses a slot `q < L` of its row whose column is the store's) -/
theorem sum_slots_eq (r L k : Nat) (C : Nat → Nat) (us : List β)
    (h : ∀ u ∈ us, ∃ a, g u = some a ∧ (a.1 = r → a.2 < L ∧ c u = C a.2)) :
    ((List.range L).map fun q => if C q = k then Scatter.total (fun u => g u = some (r, q)) v us else 0).sum
      = Scatter.total (fun u => (g u).map (·.1) = some r ∧ c u = k) v us := by
  induction us with
  | nil => simp
  | cons u us ih =>
    obtain ⟨a, hg, ha⟩ := h u List.mem_cons_self
    simp only [Scatter.total_cons, ite_add_zero]
    rw [List.sum_map_add, ih fun w hw => h w (List.mem_cons_of_mem _ hw)]
    congr 1
    -- the head store `u`: only the slot `a.2` of its row sees it
    rw [hg, Stencil.list_range_sum]
    simp only [Option.map_some, Option.some.injEq]
    by_cases hr : a.1 = r
    · obtain ⟨hL, hc⟩ := ha hr
      rw [Finset.sum_eq_single_of_mem a.2 (Finset.mem_range.mpr hL) fun q _ hq =>
        ite_eq_right_iff.mpr fun _ => if_neg fun h' => hq (congrArg Prod.snd h').symm]
      rw [if_pos (Prod.ext hr rfl : a = (r, a.2)), hc, if_congr (and_iff_right hr) rfl rfl]
    · rw [if_neg fun h' => hr h'.1]
      exact Finset.sum_eq_zero fun q _ => ite_eq_right_iff.mpr fun _ => if_neg fun h' => hr (congrArg Prod.fst h')

end exchange

open Stencil DirectCode

def rowIdx (o : Op K) (u : MUpd K) : Nat := u.1.1 * o.nt + u.1.2
def colIdx (o : Op K) (u : MUpd K) : Nat := u.2.2.1.1 * o.nt + u.2.2.1.2
def val (u : MUpd K) : K := u.2.2.2

theorem idx_eq_iff {nt a b s t : Nat} (hb : b < nt) (ht : t < nt) : a * nt + b = s * nt + t ↔ a = s ∧ b = t :=
  ⟨idx_inj hb ht, fun h => by rw [h.1, h.2]⟩

section
variable (T : Tables) (o : Op K)

section
omit [_root_.Field K]

theorem rowIdx_div {u : MUpd K} (h : u.1.2 < o.nt) : rowIdx o u / o.nt = u.1.1 := idx_div h
theorem rowIdx_mod {u : MUpd K} (h : u.1.2 < o.nt) : rowIdx o u % o.nt = u.1.2 := idx_mod h

/-! ### the three row classes -/

/-- the case distinction of `getStencil` / `getStencilSize` on a grid row (`4 ≤ nr`) selects by the kind of the row: three
    of its exits carry the 9-point value -/
theorem rowClass_ite {γ : Type} (hnr : 4 ≤ o.nr) {i : Nat} (hi : i < o.nr) (x9 x7 x1 w : γ) :
    (if (1 < i ∧ i + 2 < o.nr) ∨ (i = 1 ∧ o.bc = false) then x9 else if i = 0 ∧ o.bc = false then x7
      else if (i = 0 ∧ o.bc = true) ∨ i + 1 = o.nr then x1 else if i = 1 ∧ o.bc = true then x9
      else if i + 2 = o.nr then x9 else w)
    = if 0 < i ∧ i + 1 < o.nr then x9 else if i = 0 ∧ o.bc = false then x7 else x1 := by
  rcases (by omega : i = 0 ∨ i = 1 ∨ (1 < i ∧ i + 2 < o.nr) ∨ (1 < i ∧ i + 2 = o.nr) ∨ (1 < i ∧ i + 1 = o.nr)) with
    rfl | rfl | h | h | h
  all_goals cases o.bc <;> simp (disch := omega) only [if_pos, if_neg, if_true, if_false, Bool.false_eq_true,
    reduceCtorEq, and_false, and_true, or_false, false_or, true_or, or_true, and_self]

/-! ### offsets in closed form -/

/-- offset of a position in the 9-point tables -/
def slot9 : Pos → Nat
  | .Center => 0 | .Left => 1 | .Right => 2 | .Bottom => 3 | .Top => 4
  | .BottomLeft => 5 | .BottomRight => 6 | .TopLeft => 7 | .TopRight => 8
def pos9 : Nat → Pos
  | 0 => .Center | 1 => .Left | 2 => .Right | 3 => .Bottom | 4 => .Top
  | 5 => .BottomLeft | 6 => .BottomRight | 7 => .TopLeft | _ => .TopRight
/-- the positions of the across-origin table -/
def seven : Pos → Bool
  | .TopLeft => false | .BottomLeft => false | _ => true
def slot7 : Pos → Nat
  | .Center => 0 | .Left => 1 | .Right => 2 | .Bottom => 3 | .Top => 4 | .BottomRight => 5 | _ => 6
def pos7 : Nat → Pos
  | 0 => .Center | 1 => .Left | 2 => .Right | 3 => .Bottom | 4 => .Top | 5 => .BottomRight | _ => .TopRight

/-- `getStencilSize` in closed form (rows of the grid) -/
def rowSize (i : Nat) : Nat :=
  if 0 < i ∧ i + 1 < o.nr then 9 else if i = 0 ∧ o.bc = false then 7 else 1

/-- the position stored in slot `q` of a row with radial index `i` -/
def slotPos (i q : Nat) : Pos :=
  if 0 < i ∧ i + 1 < o.nr then pos9 q else if i = 0 ∧ o.bc = false then pos7 q else .Center

/-- the positions a row accepts: all nine in a 9-point row, seven across the origin, `Center` in a Dirichlet row -/
def ValidPos (i : Nat) (P : Pos) : Prop :=
  (0 < i ∧ i + 1 < o.nr) ∨ (i = 0 ∧ o.bc = false ∧ seven P = true) ∨
    (¬ (0 < i ∧ i + 1 < o.nr) ∧ ¬ (i = 0 ∧ o.bc = false) ∧ P = .Center)

theorem validPos_seven {i : Nat} {P : Pos} (h : i + 1 < o.nr ∧ (i = 0 → o.bc = false)) (hs : seven P = true) :
    ValidPos o i P := by
  by_cases hi : i = 0
  · exact Or.inr (Or.inl ⟨hi, h.2 hi, hs⟩)
  · exact Or.inl ⟨by omega, h.1⟩

theorem validPos_center (i : Nat) : ValidPos o i .Center := by
  by_cases h : 0 < i ∧ i + 1 < o.nr
  · exact Or.inl h
  · by_cases h0 : i = 0 ∧ o.bc = false
    · exact Or.inr (Or.inl ⟨h0.1, h0.2, rfl⟩)
    · exact Or.inr (Or.inr ⟨h, h0, rfl⟩)

/-- in bounds: the row is a grid row and accepts the position -/
def InB (u : MUpd K) : Prop := u.1.1 < o.nr ∧ u.1.2 < o.nt ∧ ValidPos o u.1.1 u.2.1

theorem dirichlet_row {i : Nat} (hi : i < o.nr) (h1 : ¬ (0 < i ∧ i + 1 < o.nr)) (h2 : ¬ (i = 0 ∧ o.bc = false)) :
    (i = 0 ∧ o.bc = true) ∨ i + 1 = o.nr := by
  by_cases hi0 : i = 0
  · cases hb : o.bc
    · exact absurd ⟨hi0, hb⟩ h2
    · exact .inl ⟨hi0, rfl⟩
  · exact .inr (by omega)

theorem rowSize_int {i : Nat} (h : 0 < i ∧ i + 1 < o.nr) : rowSize o i = 9 := by unfold rowSize; rw [if_pos h]
theorem slotPos_int {i : Nat} (h : 0 < i ∧ i + 1 < o.nr) (q : Nat) : slotPos o i q = pos9 q := by
  unfold slotPos; rw [if_pos h]
theorem rowSize_origin (hb : o.bc = false) : rowSize o 0 = 7 := by
  unfold rowSize; rw [if_neg (by omega), if_pos ⟨rfl, hb⟩]
theorem slotPos_origin (hb : o.bc = false) (q : Nat) : slotPos o 0 q = pos7 q := by
  unfold slotPos; rw [if_neg (by omega), if_pos ⟨rfl, hb⟩]
theorem rowSize_db {i : Nat} (h1 : ¬ (0 < i ∧ i + 1 < o.nr)) (h2 : ¬ (i = 0 ∧ o.bc = false)) : rowSize o i = 1 := by
  unfold rowSize; rw [if_neg h1, if_neg h2]
theorem slotPos_db {i : Nat} (h1 : ¬ (0 < i ∧ i + 1 < o.nr)) (h2 : ¬ (i = 0 ∧ o.bc = false)) (q : Nat) :
    slotPos o i q = .Center := by
  unfold slotPos; rw [if_neg h1, if_neg h2]

theorem stencilOf_eq (hT : GoodTables T) (hnr : 4 ≤ o.nr) {i : Nat} (hi : i < o.nr) :
    stencilOf T o i = some (if 0 < i ∧ i + 1 < o.nr then [7, 4, 8, 1, 0, 2, 5, 3, 6]
      else if i = 0 ∧ o.bc = false then [-1, 4, 6, 1, 0, 2, -1, 3, 5] else [-1, -1, -1, -1, 0, -1, -1, -1, -1]) := by
  unfold stencilOf
  rw [hT.interior, hT.acrossOrigin, hT.db, hT.nextInnerDB, hT.nextOuterDB, rowClass_ite o hnr hi, apply_ite some,
    apply_ite some]

theorem stencilSize_eq (hnr : 4 ≤ o.nr) {i : Nat} (hi : i < o.nr) : stencilSize o i = some (rowSize o i) := by
  unfold stencilSize rowSize
  rw [rowClass_ite o hnr hi, apply_ite some, apply_ite some]

def addr (u : MUpd K) : Option (Nat × Nat) :=
  match stencilOf T o u.1.1 with
  | none => none
  | some tbl =>
    if 0 ≤ tbl.getD u.2.1.idx (-1) then some (rowIdx o u, (tbl.getD u.2.1.idx (-1)).toNat) else none

/-- **an accepted position of a grid row gets an offset below the allocated size**, and `slotPos` inverts it -/
theorem addr_valid (hT : GoodTables T) (hnr : 4 ≤ o.nr) (u : MUpd K) (hin : InB o u) :
    ∃ q, addr T o u = some (rowIdx o u, q) ∧ q < rowSize o u.1.1 ∧ slotPos o u.1.1 q = u.2.1 := by
  unfold addr
  rw [stencilOf_eq T o hT hnr hin.1]
  obtain ⟨⟨i, j⟩, P, c, w⟩ := u
  obtain ⟨-, -, hv⟩ := hin
  simp only at hv ⊢
  rcases hv with h | ⟨h0, hb, hs⟩ | ⟨h1, h2, hc⟩
  · rw [if_pos h, rowSize_int o h]
    simp only [slotPos_int o h]
    cases P <;> exact ⟨_, rfl, by decide, rfl⟩
  · subst h0
    rw [if_neg (by omega : ¬ (0 < 0 ∧ 0 + 1 < o.nr)), if_pos (⟨rfl, hb⟩ : 0 = 0 ∧ o.bc = false), rowSize_origin o hb]
    simp only [slotPos_origin o hb]
    cases P
    case TopLeft => exact absurd hs (by decide)
    case BottomLeft => exact absurd hs (by decide)
    all_goals exact ⟨_, rfl, by decide, rfl⟩
  · subst hc
    rw [if_neg h1, if_neg h2, rowSize_db o h1 h2]
    exact ⟨0, rfl, by decide, slotPos_db o h1 h2 0⟩

end

theorem applyUpd_eq_step (rs : State K) (u : MUpd K) :
    applyUpd T o rs u = step (addr T o) (colIdx o) val rs u := by
  unfold applyUpd step addr
  cases stencilOf T o u.1.1 with
  | none => rfl
  | some tbl =>
    simp only
    by_cases h : 0 ≤ tbl.getD u.2.1.idx (-1)
    · simp only [h, true_and, if_true]
      rfl
    · simp only [h, false_and, if_false]

theorem rows_eq_run (nc : Nat) (init : State K) (h : initRows o = some init) :
    rows T o nc = run (addr T o) (colIdx o) val init (allUpdates o nc) := by
  unfold rows run
  rw [h]
  simp only [applyUpd_eq_step]

/-! ### the zero-initialised state -/

/-- `values_data()[i] = 0.0` in rows of the allocated sizes -/
def init : State K :=
  (List.range (o.nr * o.nt)).map fun p => List.replicate (rowSize o (p / o.nt)) (0, Scalar.n 0)

theorem initRows_eq (hnr : 4 ≤ o.nr) : initRows o = some (init o) := by
  unfold initRows init
  have hl : ∀ p ∈ List.range (o.nr * o.nt), p < o.nr * o.nt := fun p hp => List.mem_range.mp hp
  generalize List.range (o.nr * o.nt) = l at hl ⊢
  induction l with
  | nil => rfl
  | cons p l ih =>
    have hp : p / o.nt < o.nr :=
      Nat.div_lt_of_lt_mul (by rw [Nat.mul_comm]; exact hl p (List.mem_cons_self ..))
    rw [List.foldr_cons, ih (fun q hq => hl q (List.mem_cons_of_mem _ hq)), stencilSize_eq o hnr hp]
    rfl

theorem init_length : (init o).length = o.nr * o.nt := by simp [init]

theorem rlen_init' (r : Nat) : rlen (init o) r = if r < o.nr * o.nt then rowSize o (r / o.nt) else 0 := by
  unfold rlen init
  rw [SparseLU.getD_map_range]
  split
  · rw [List.length_replicate]
  · rfl

theorem rlen_init {i j : Nat} (hi : i < o.nr) (hj : j < o.nt) : rlen (init o) (i * o.nt + j) = rowSize o i := by
  rw [rlen_init', if_pos (idx_lt hi hj), idx_div hj]

theorem rd_init (r q : Nat) : rd (init o) r q = (0, Scalar.n 0) := by
  unfold rd init
  rw [SparseLU.getD_map_range]
  split
  · rw [List.getD_eq_getElem?_getD, List.getElem?_replicate]
    split <;> rfl
  · rfl

end
end DirectGiveCode
