import Generated.Sched
/-!
# Schedule model: how the race-freedom proofs are organised (C11)

* Calls.  Whether two calls conflict depends on their class, kernel, argument and colour only.  Each region file states
  the few independence lemmas of its kernels (circles three apart, lines two apart cyclically, …); `footprints` unfolds the
  hand-written footprints `writes`, `reads` in their proofs.
* Loops.  `loopsRaceFree_of_bodies` / `loopsRaceFree_of_single` reduce a pair of generated loops to the calls of two
  iterations; bounds and strides are read off the generated terms by `rfl`, so a changed stride, start, body or `nowait`
  breaks the proof.
* Regions.  `regionRaceFree_of_intervals` lists the loop pairs of the barrier intervals.  The twelve regions are four
  schedules up to the names in their calls: `canon`, `RegionRaceFree.of_relabel`.

Core Lean only.
-/
namespace Sched

instance (l : Loop) (s : Shape) (t : Int) : Decidable (l.has s t) := by unfold Loop.has; infer_instance

theorem colourIs_black (p : Prop) : colourIs p .black ↔ p := by simp [colourIs]
theorem colourIs_white (p : Prop) : colourIs p .white ↔ ¬ p := by simp [colourIs]

/-- periodic left neighbour, as a case distinction `omega` understands -/
theorem eq_thM (s : Shape) (j θ : Int) : θ = thM s j ↔ (j = 0 ∧ θ = s.nt - 1) ∨ (j ≠ 0 ∧ θ = j - 1) := by
  unfold thM; split <;> omega
/-- periodic right neighbour -/
theorem eq_thP (s : Shape) (j θ : Int) : θ = thP s j ↔ (j + 1 = s.nt ∧ θ = 0) ∨ (j + 1 ≠ s.nt ∧ θ = j + 1) := by
  unfold thP; split <;> omega

theorem mem_ite' {α : Type} (c : Prop) [Decidable c] (k : α) (l₁ l₂ : List α) :
    k ∈ (if c then l₁ else l₂) ↔ (c ∧ k ∈ l₁) ∨ (¬ c ∧ k ∈ l₂) := by
  by_cases h : c <;> simp [h]

theorem regionRaceFree_of_intervals {s : Shape} {reg : Region} (ivs : List (List Nat))
    (hI : intervals reg.loops = ivs)
    (H : ∀ iv ∈ ivs, ∀ ia ∈ iv, ∀ ib ∈ iv, ia ≤ ib →
      LoopsRaceFree s (reg.loops.getD ia default) (reg.loops.getD ib default) (ia == ib)) :
    RegionRaceFree s reg := by
  unfold RegionRaceFree; rw [hI]; exact H

/-- `k₀` touches every node that `k` touches -/
def Call.Covers (s : Shape) (k₀ k : Call) : Prop :=
  (∀ a r θ, writes s k a r θ → writes s k₀ a r θ) ∧ (∀ a r θ, reads s k a r θ → reads s k₀ a r θ)

theorem conflictAt_mono {s : Shape} {k₀ k k₀' k' : Call} (c : Call.Covers s k₀ k) (c' : Call.Covers s k₀' k')
    {a : Arr} {r θ : Int} (h : conflictAt s k k' a r θ) : conflictAt s k₀ k₀' a r θ :=
  h.imp (fun ⟨w, o⟩ => ⟨c.1 a r θ w, o.imp (c'.1 a r θ) (c'.2 a r θ)⟩) (fun ⟨w, o⟩ => ⟨c'.1 a r θ w, c.2 a r θ o⟩)

/-! ### relabelling: a region whose calls, renamed by `φ`, are those of a race-free region with no smaller footprints

The twelve regions are four schedules: the four scatter assemblies share the loops of `ResidualGive`, the four gather
assemblies those of `ResidualTake`, and each smoother those of its extrapolated variant, up to the class and kernel names
in the calls.  `canon` renames to the representative; its footprints agree with or contain the original ones. -/

/-- the same loop with every call replaced by its image under `φ` -/
def Loop.relabel (φ : Call → Call) (l : Loop) : Loop := { l with body := fun s t => (l.body s t).map φ }

theorem getD_map_relabel (φ : Call → Call) (ls : List Loop) (i : Nat) :
    (ls.map (Loop.relabel φ)).getD i default = (ls.getD i default).relabel φ := by
  induction ls generalizing i with
  | nil => rfl
  | cons l ls ih => cases i with
    | zero => rfl
    | succ i => exact ih i

/-- barrier intervals depend on the `nowait` flags only -/
theorem intervals_go_relabel (φ : Call → Call) (ls : List Loop) (i : Nat) (cur : List Nat) :
    intervals.go i cur (ls.map (Loop.relabel φ)) = intervals.go i cur ls := by
  induction ls generalizing i cur with
  | nil => rfl
  | cons l ls ih => simp only [List.map_cons, intervals.go, ih]; rfl

theorem LoopsRaceFree.of_relabel {s : Shape} {l l' : Loop} {same : Bool} {φ : Call → Call}
    (hφ : ∀ k, Call.Covers s (φ k) k) (h : LoopsRaceFree s (l.relabel φ) (l'.relabel φ) same) : LoopsRaceFree s l l' same :=
  fun t t' ht ht' hne k hk k' hk' a r θ h0 h1 h2 h3 hc =>
    h t t' ht ht' hne _ (List.mem_map_of_mem hk) _ (List.mem_map_of_mem hk') a r θ h0 h1 h2 h3
      (conflictAt_mono (hφ k) (hφ k') hc)

theorem RegionRaceFree.of_relabel {s : Shape} {reg₀ reg : Region} {φ : Call → Call} (hφ : ∀ k, Call.Covers s (φ k) k)
    (hl : reg₀.loops = reg.loops.map (Loop.relabel φ)) (h : RegionRaceFree s reg₀) : RegionRaceFree s reg := by
  unfold RegionRaceFree intervals at h
  rw [hl, intervals_go_relabel] at h
  intro iv hiv ia hia ib hib hle
  have := h iv hiv ia hia ib hib hle
  rw [getD_map_relabel, getD_map_relabel] at this
  exact this.of_relabel hφ

def canon (k : Call) : Call :=
  match k.cls, k.fn with
  | .DirectGive, .buildSolverMatrixCircleSection | .SmootherGiveAsc, .buildAscCircleSection
  | .ExSmootherGiveAsc, .buildAscCircleSection => { k with cls := .ResidualGive, fn := .applyCircleSection }
  | .DirectGive, .buildSolverMatrixRadialSection | .SmootherGiveAsc, .buildAscRadialSection
  | .ExSmootherGiveAsc, .buildAscRadialSection => { k with cls := .ResidualGive, fn := .applyRadialSection }
  | .DirectTake, .buildSolverMatrixCircleSection | .SmootherTakeAsc, .buildAscCircleSection
  | .ExSmootherTakeAsc, .buildAscCircleSection => { k with cls := .ResidualTake, fn := .applyCircleSection }
  | .DirectTake, .buildSolverMatrixRadialSection | .SmootherTakeAsc, .buildAscRadialSection
  | .ExSmootherTakeAsc, .buildAscRadialSection => { k with cls := .ResidualTake, fn := .applyRadialSection }
  | .SmootherGive, _ => { k with cls := .ExSmootherGive }
  | .SmootherTake, _ => { k with cls := .ExSmootherTake }
  | _, _ => k

/-- the assemblies write exactly what the residual of their kind writes and read nothing; the smoothers write what their
    extrapolated variants write, and those read `x` on the own line in addition -/
theorem canon_covers (s : Shape) (k : Call) : Call.Covers s (canon k) k := by
  obtain ⟨c, f, i, col⟩ := k
  refine ⟨?_, ?_⟩
  · cases c <;> cases f <;> exact fun _ _ _ h => h
  · cases c
    case SmootherGive =>
      cases f
      case applyAscOrthoCircleSection =>
        rintro a r θ ⟨ha, ⟨hc, h⟩ | ⟨_, h⟩⟩
        · exact ⟨ha, .inr ⟨hc, h⟩⟩
        · exact ⟨ha, .inl h⟩
      case applyAscOrthoRadialSection =>
        rintro a r θ ⟨ha, ⟨hc, ⟨h, h'⟩ | ⟨h, h' | h'⟩⟩ | ⟨_, h⟩⟩
        · exact ⟨ha, .inr ⟨hc, by omega, h'⟩⟩
        · exact ⟨ha, .inl ⟨by omega, h'⟩⟩
        · exact ⟨ha, .inr ⟨hc, by omega, h'⟩⟩
        · exact ⟨ha, .inl h⟩
      all_goals exact fun _ _ _ h => h
    case SmootherTake =>
      cases f
      case applyAscOrthoCircleSection =>
        rintro a r θ ⟨ha, h | h⟩
        · exact ⟨ha, .inl h⟩
        · exact ⟨ha, .inr (.inr h)⟩
      case applyAscOrthoRadialSection =>
        rintro a r θ ⟨ha, ⟨h, h'⟩ | ⟨h, h'⟩⟩
        · exact ⟨ha, by omega, .inr h'⟩
        · exact ⟨ha, by omega, h'⟩
      all_goals exact fun _ _ _ h => h
    all_goals cases f <;> exact fun _ _ _ h => h

/-- `LoopsRaceFree` with the bodies named; the bounds on the node are not needed -/
theorem loopsRaceFree_of_bodies {s : Shape} {l l' : Loop} {same : Bool} {b b' : Int → List Call}
    (hb : ∀ t, l.body s t = b t) (hb' : ∀ t, l'.body s t = b' t)
    (H : ∀ t t', l.has s t → l'.has s t' → (same = true → t ≠ t') →
      ∀ k ∈ b t, ∀ k' ∈ b' t', ∀ a r θ, ¬ conflictAt s k k' a r θ) : LoopsRaceFree s l l' same := by
  intro t t' ht ht' hne k hk k' hk' a r θ _ _ _ _
  rw [hb] at hk; rw [hb'] at hk'
  exact H t t' ht ht' hne k hk k' hk' a r θ

theorem loopsRaceFree_of_single {s : Shape} {l l' : Loop} {same : Bool} {k k' : Int → Call}
    (hb : ∀ t, l.body s t = [k t]) (hb' : ∀ t, l'.body s t = [k' t])
    (H : ∀ t t', l.has s t → l'.has s t' → (same = true → t ≠ t') → ∀ a r θ, ¬ conflictAt s (k t) (k' t') a r θ) :
    LoopsRaceFree s l l' same :=
  loopsRaceFree_of_bodies hb hb' fun t t' ht ht' hne c hc c' hc' => by
    obtain rfl := List.mem_singleton.mp hc
    obtain rfl := List.mem_singleton.mp hc'
    exact H t t' ht ht' hne

/-- decide a goal `¬ conflictAt s k k' a r θ` between two calls of known class and kernel: unfold their footprints, array by
    array (`a`), using the facts `hs` on the colours; what remains compares rows and lines and is left to `omega` -/
syntax "footprints " ident (" [" Lean.Parser.Tactic.simpLemma,+ "]")? : tactic
macro_rules
  | `(tactic| footprints $a:ident [$hs,*]) =>
    `(tactic| cases $a:ident <;>
      simp only [conflictAt, writes, reads, giveCircle, giveRadial, eq_thM, eq_thP, reduceCtorEq, false_and, and_false,
        true_and, and_true, or_false, false_or, or_self, not_true_eq_false, not_false_eq_true, $hs,*] <;>
      omega)
  | `(tactic| footprints $a:ident) => `(tactic| footprints $a:ident [conflictAt])

end Sched
