import GMGProofs.Lemmas.CycleSpec
/-!
# FMG start-up (`initializeSolution`) refines nested iteration
-/
namespace MGCycle
variable {V : Type}

/-- the extrapolated cycle is used on level 0 only -/
def exAt (ex : Bool) (cur : Nat) : Bool := decide (ex = true ∧ cur = 0)

theorem exAt_iff {ex : Bool} {cur : Nat} : exAt ex cur = true ↔ ex = true ∧ cur = 0 := decide_eq_true_iff

theorem exAt_level (ex : Bool) (cur : Nat) (h : exAt ex cur = true) : cur = 0 := (exAt_iff.mp h).2

/-- nested iteration from level `cur` (iterate `s` there) down to level 0, the right-hand sides being `g l` -/
def fmgSpec (o : Ops V) (c : Cfg) (fk : Kind) (fi : Nat) (ex fgs : Bool) (g : Nat → V) : (cur : Nat) → V → V
  | 0, s => s
  | cur + 1, s =>
      fmgSpec o c fk fi ex fgs g cur
        (iter (cycleSpec o c fk (exAt ex cur) fgs g cur) fi (o.fmgInterp (cur + 1) s))

theorem fmgSpec_succ (o : Ops V) (c : Cfg) (fk : Kind) (fi : Nat) (ex fgs : Bool) (g : Nat → V) (cur : Nat) (s : V) :
    fmgSpec o c fk fi ex fgs g (cur + 1) s =
      fmgSpec o c fk fi ex fgs g cur (iter (cycleSpec o c fk (exAt ex cur) fgs g cur) fi (o.fmgInterp (cur + 1) s)) := rfl

@[simp] theorem fmgLoop_zero (c : Cfg) (fk : Kind) (fi : Nat) (ex fgs : Bool) : fmgLoop c fk fi ex fgs 0 = [] := rfl

theorem fmgLoop_succ (c : Cfg) (fk : Kind) (fi : Nat) (ex fgs : Bool) (cur : Nat) :
    fmgLoop c fk fi ex fgs (cur + 1) =
      [.fmgInterp (cur + 1) (cur, .sol) (cur + 1, .sol)] ++
      ((List.replicate fi (cycleAt c fk (exAt ex cur) fgs cur)).flatten ++ fmgLoop c fk fi ex fgs cur) := by
  simp [fmgLoop, exAt]

theorem fmgLoop_writes (c : Cfg) (fk : Kind) (fi : Nat) (ex fgs : Bool) :
    ∀ cur, WritesIn (fmgLoop c fk fi ex fgs cur) (fun w => w.2 ≠ Buf.rhs)
  | 0 => writesIn_nil.2 trivial
  | cur + 1 => by
      have hc : WritesIn (cycleAt c fk (exAt ex cur) fgs cur) (fun w => w.2 ≠ Buf.rhs) :=
        (cycleAt_writes c fk _ fgs cur).mono fun _ => Scope.ne_rhs (by decide) (by decide)
      rw [fmgLoop_succ]
      simp [writes, hc.flatten_replicate, fmgLoop_writes c fk fi ex fgs cur]

theorem initSolution_writes (c : Cfg) (fmg : Bool) (fk : Kind) (fi : Nat) (ex fgs : Bool) (start : Nat) :
    WritesIn (initSolution c fmg fk fi ex fgs start) (fun w => w.2 ≠ Buf.rhs) := by
  unfold initSolution
  split <;> simp [writes, fmgLoop_writes]

theorem initSolution_rhs (o : Ops V) (c : Cfg) (fmg : Bool) (fk : Kind) (fi : Nat) (ex fgs : Bool) (start : Nat)
    (m : Mem V) (l : Nat) : exec o (initSolution c fmg fk fi ex fgs start) m (l, .rhs) = m (l, .rhs) :=
  exec_frame o _ m _ (initSolution_writes c fmg fk fi ex fgs start) (by simp)

theorem cycleAt_rhs (o : Ops V) (c : Cfg) (k : Kind) (ex fgs : Bool) (d : Nat) (m : Mem V) (l : Nat) :
    exec o (cycleAt c k ex fgs d) m (l, .rhs) = m (l, .rhs) :=
  exec_frame_scope o (cycleAt_writes c k ex fgs d) m (by simp) (by simp) (Or.inr rfl)

/-- `g` lists the right-hand sides of `m`; the cycles keep them, so the same `g` serves all the way down -/
theorem fmgLoop_val (o : Ops V) (c : Cfg) (fk : Kind) (fi : Nat) (ex fgs : Bool) (g : Nat → V) :
    ∀ (cur : Nat) (m : Mem V), (∀ l, m (l, .rhs) = g l) →
      exec o (fmgLoop c fk fi ex fgs cur) m (0, .sol) = fmgSpec o c fk fi ex fgs g cur (m (cur, .sol))
  | 0, m, _ => rfl
  | cur + 1, m, hg => by
      rw [fmgLoop_succ]
      simp only [exec_append, fmgSpec]
      obtain ⟨b1, b2⟩ := exec_flatten_replicate_val o (cycleAt c fk (exAt ex cur) fgs cur) (cur, .sol)
        (cycleSpec o c fk (exAt ex cur) fgs g cur) (fun m' => ∀ l, m' (l, .rhs) = g l)
        (fun m' h l => by rw [cycleAt_rhs]; exact h l)
        (fun m' h => cycleAt_val_of o c fk _ fgs cur (exAt_level ex cur) m' g h)
        fi (exec o [.fmgInterp (cur + 1) (cur, .sol) (cur + 1, .sol)] m) (fun l => by simp [stepI, upd, hg])
      rw [fmgLoop_val o c fk fi ex fgs g cur _ b2, b1]
      simp [stepI]

theorem initSolution_val (o : Ops V) (c : Cfg) (fk : Kind) (fi : Nat) (ex fgs : Bool) (m : Mem V) (g : Nat → V)
    (hg : ∀ l, m (l, .rhs) = g l) :
    exec o (initSolution c true fk fi ex fgs (c.levels - 1)) m (0, .sol) =
      fmgSpec o c fk fi ex fgs g (c.levels - 1) (o.solve (c.levels - 1) (g (c.levels - 1))) := by
  simp only [initSolution, Bool.not_true, Bool.false_eq_true, if_false, exec_append]
  rw [fmgLoop_val o c fk fi ex fgs g _ _ (fun l => by simp [stepI, upd, hg])]
  simp [stepI, upd, hg]

theorem initSolution_nofmg (o : Ops V) (c : Cfg) (fk : Kind) (fi : Nat) (ex fgs : Bool) (start : Nat) (m : Mem V) :
    exec o (initSolution c false fk fi ex fgs start) m (0, .sol) = o.zero 0 := by
  simp [initSolution, stepI]

end MGCycle
