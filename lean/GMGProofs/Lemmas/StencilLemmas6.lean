import GMGProofs.Lemmas.StencilLemmas5
import Mathlib.Algebra.Order.BigOperators.Ring.Finset
import Mathlib.Algebra.Order.Field.Basic
import Mathlib.Tactic.FieldSimp
import Mathlib.Tactic.Linarith
import Mathlib.Tactic.Positivity
/-!
# Symmetry, energy decomposition, positive definiteness (Dirichlet inner boundary)
-/
namespace Stencil
open Finset

section symm
variable {K : Type} [_root_.Field K]

theorem inner_comm (o : Op K) (u v : Field K) : inner o u v = inner o v u :=
  sum_grid_congr fun _ _ _ _ => mul_comm _ _

theorem inner_A_eq_sum_Bform (o : Op K) (hnr : 4 ≤ o.nr) (hnt : 2 ≤ o.nt) (heven : o.nt % 2 = 0)
    (hk : o.bc = false → ∀ j, j < o.nt → o.k (ja o j) = o.k j) (x y : Field K)
    (hx : V0 o x) (hy : V0 o y) :
    inner o (A o x) y = ∑ i ∈ range o.nr, ∑ j ∈ range o.nt, Bform o x y i j := by
  rw [inner_A_eq_sum_Bn o hnr hnt heven hk]
  exact sum_grid_congr fun i hi j _ => Bn_eq_Bform o x y hnr hx hy i j hi

theorem A_symm (o : Op K) (hnr : 4 ≤ o.nr) (hnt : 2 ≤ o.nt) (heven : o.nt % 2 = 0)
    (hk : o.bc = false → ∀ j, j < o.nt → o.k (ja o j) = o.k j) (x y : Field K)
    (hx : V0 o x) (hy : V0 o y) :
    inner o (A o x) y = inner o x (A o y) := by
  rw [inner_comm o x (A o y), inner_A_eq_sum_Bform o hnr hnt heven hk x y hx hy,
    inner_A_eq_sum_Bform o hnr hnt heven hk y x hy hx]
  exact sum_grid_congr fun i _ j _ => Bform_symm o x y i j

end symm

section psd
variable {K : Type} [_root_.Field K] [LinearOrder K] [IsStrictOrderedRing K]

theorem sum_grid_nonneg {nr nt : Nat} {F : Nat → Nat → K} (h : ∀ i, i < nr → ∀ j, j < nt → 0 ≤ F i j) :
    0 ≤ ∑ i ∈ range nr, ∑ j ∈ range nt, F i j :=
  Finset.sum_nonneg fun i hi => Finset.sum_nonneg fun j hj => h i (mem_range.mp hi) j (mem_range.mp hj)

theorem sum_grid_eq_zero {nr nt : Nat} {F : Nat → Nat → K} (h : ∀ i, i < nr → ∀ j, j < nt → 0 ≤ F i j)
    (h0 : ∑ i ∈ range nr, ∑ j ∈ range nt, F i j = 0) {i j : Nat} (hi : i < nr) (hj : j < nt) : F i j = 0 :=
  (Finset.sum_eq_zero_iff_of_nonneg fun j hj => h i hi j (mem_range.mp hj)).mp
    ((Finset.sum_eq_zero_iff_of_nonneg fun i hi => Finset.sum_nonneg fun j hj =>
      h i (mem_range.mp hi) j (mem_range.mp hj)).mp h0 i (mem_range.mpr hi)) j (mem_range.mpr hj)

theorem form_nonneg (a b c X Y : K) (ha : 0 < a) (hd : b^2 ≤ 4*a*c) :
    0 ≤ a*X^2 + b*X*Y + c*Y^2 := by
  have h : 4*a*(a*X^2 + b*X*Y + c*Y^2) = (2*a*X + b*Y)^2 + (4*a*c - b^2)*Y^2 := by ring
  refine nonneg_of_mul_nonneg_right (h ▸ ?_) (mul_pos four_pos ha)
  exact add_nonneg (sq_nonneg _) (mul_nonneg (sub_nonneg.mpr hd) (sq_nonneg _))

/-- the nodal quadratic form of the 9-point stencil on a non-uniform grid is a sum of four quadrant forms -/
theorem node_energy_split (arr att art h1 h2 k1 k2 dl dr db dt : K)
    (p1 : 0 < h1) (p2 : 0 < h2) (q1 : 0 < k1) (q2 : 0 < k2) :
    arr*(((k1+k2)/2)/h1*dl^2 + ((k1+k2)/2)/h2*dr^2) + att*(((h1+h2)/2)/k1*db^2 + ((h1+h2)/2)/k2*dt^2)
      + (1/2)*art*(dr - dl)*(dt - db)
    = (1/2) * ( (arr*(k2*dr)^2 + art*(k2*dr)*(h2*dt) + att*(h2*dt)^2)/(h2*k2)
              + (arr*(k1*dr)^2 + art*(k1*dr)*(-(h2*db)) + att*(h2*db)^2)/(h2*k1)
              + (arr*(k2*dl)^2 + art*(-(k2*dl))*(h1*dt) + att*(h1*dt)^2)/(h1*k2)
              + (arr*(k1*dl)^2 + art*(k1*dl)*(h1*db) + att*(h1*db)^2)/(h1*k1) ) := by
  field_simp
  ring

/-- the nodal energy (without the mass term) is non-negative: each quadrant form is -/
theorem node_energy_nonneg (arr att art h1 h2 k1 k2 dl dr db dt : K)
    (p1 : 0 < h1) (p2 : 0 < h2) (q1 : 0 < k1) (q2 : 0 < k2) (ha : 0 < arr) (hd : art^2 ≤ 4*arr*att) :
    0 ≤ arr*(((k1+k2)/2)/h1*dl^2 + ((k1+k2)/2)/h2*dr^2) + att*(((h1+h2)/2)/k1*db^2 + ((h1+h2)/2)/k2*dt^2)
      + (1/2)*art*(dr - dl)*(dt - db) := by
  rw [node_energy_split arr att art h1 h2 k1 k2 dl dr db dt p1 p2 q1 q2]
  have f2 := form_nonneg arr art att (k1*dr) (-(h2*db)) ha hd
  have f3 := form_nonneg arr art att (-(k2*dl)) (h1*dt) ha hd
  rw [neg_sq] at f2 f3
  exact mul_nonneg one_half_pos.le (add_nonneg (add_nonneg (add_nonneg
    (div_nonneg (form_nonneg arr art att (k2*dr) (h2*dt) ha hd) (mul_pos p2 q2).le)
    (div_nonneg f2 (mul_pos p2 q1).le)) (div_nonneg f3 (mul_pos p1 q2).le))
    (div_nonneg (form_nonneg arr art att (k1*dl) (h1*db) ha hd) (mul_pos p1 q1).le))

/-- positivity data of a level operator -/
structure Elliptic (o : Op K) : Prop where
  h_pos : ∀ i, i + 1 < o.nr → 0 < o.h i
  k_pos : ∀ j, j < o.nt → 0 < o.k j
  arr_pos : ∀ i j, i < o.nr → j < o.nt → 0 < o.arr i j
  att_pos : ∀ i j, i < o.nr → j < o.nt → 0 < o.att i j
  art_le : ∀ i j, i < o.nr → j < o.nt → o.art i j ^ 2 ≤ 4 * o.arr i j * o.att i j
  beta_nonneg : ∀ i, i < o.nr → 0 ≤ o.beta i
  det_nonneg : ∀ i j, i < o.nr → j < o.nt → 0 ≤ o.det i j

variable (o : Op K) (x : Field K)

/-- the nodal energy of a node with all four neighbours: mass term plus the energy in the four differences -/
theorem Bfull_nonneg (i j : Nat) (h1 xL : K) (p1 : 0 < h1) (p2 : 0 < o.h i)
    (q1 : 0 < o.k (jm o j)) (q2 : 0 < o.k j) (ha : 0 < o.arr i j)
    (hd : o.art i j ^ 2 ≤ 4 * o.arr i j * o.att i j) (hb : 0 ≤ o.beta i) (hdet : 0 ≤ o.det i j) :
    0 ≤ Bfull o x x i j h1 xL xL := by
  have m : 0 ≤ (1 / 4) * (h1 + o.h i) * (o.k (jm o j) + o.k j) * o.beta i * o.det i j * (x i j * x i j) := by
    have := mul_self_nonneg (x i j)
    positivity
  calc 0 ≤ _ + _ := add_nonneg m (node_energy_nonneg (o.arr i j) (o.att i j) (o.art i j) h1 (o.h i) (o.k (jm o j))
        (o.k j) (xL - x i j) (x (i + 1) j - x i j) (x i (jm o j) - x i j) (x i (jp o j) - x i j) p1 p2 q1 q2 ha hd)
    _ = Bfull o x x i j h1 xL xL := by unfold Bfull; rw [half_eq, quarter_eq]; ring

/-- the coefficient of the one surviving square in the nodal energy of a node next to a vanishing row -/
theorem coef_pos {k1 k2 h a : K} (q1 : 0 < k1) (q2 : 0 < k2) (p : 0 < h) (pa : 0 < a) :
    0 < half * (k1 + k2) / h * a := by
  rw [half_eq]; positivity

theorem Bform_nonneg (hnr : 4 ≤ o.nr) (hnt : 0 < o.nt) (hbc : o.bc = true) (he : Elliptic o)
    (i j : Nat) (hi : i < o.nr) (hj : j < o.nt) :
    0 ≤ Bform o x x i j := by
  have q1 := he.k_pos _ (jm_lt o hnt j)
  have q2 := he.k_pos j hj
  have ha := he.arr_pos i j hi hj
  unfold Bform
  split_ifs with h0 hN
  · subst h0
    exact mul_nonneg (coef_pos q1 q2 (he.h_pos 0 (by omega)) ha).le (mul_self_nonneg _)
  · exact mul_nonneg (coef_pos q1 q2 (he.h_pos (i - 1) (by omega)) ha).le (mul_self_nonneg _)
  · exact Bfull_nonneg o x i j _ _ (he.h_pos (i - 1) (by omega)) (he.h_pos i (by omega)) q1 q2 ha
      (he.art_le i j hi hj) (he.beta_nonneg i hi) (he.det_nonneg i j hi hj)

/-- **positive semi-definiteness**, Dirichlet inner boundary -/
theorem A_psd_dirichlet (hnr : 4 ≤ o.nr) (hnt : 2 ≤ o.nt) (heven : o.nt % 2 = 0) (hbc : o.bc = true)
    (he : Elliptic o) (hx : V0 o x) :
    0 ≤ inner o (A o x) x := by
  rw [inner_A_eq_sum_Bform o hnr hnt heven (not_across hbc) x x hx hx]
  exact sum_grid_nonneg fun i hi j hj => Bform_nonneg o x hnr (by omega) hbc he i j hi hj

/-- below vanishing rows `i, …, nr - 1` the nodal energy of `(i, j)` is one square -/
theorem Bform_of_rows_zero (hnt : 0 < o.nt) {i j : Nat} (h0 : 0 < i) (hi : i < o.nr) (hj : j < o.nt)
    (hz : ∀ r, i ≤ r → r < o.nr → ∀ j, j < o.nt → x r j = 0) :
    Bform o x x i j = half * (o.k (jm o j) + o.k j) / o.h (i - 1) * o.arr i j * (x (i - 1) j * x (i - 1) j) := by
  unfold Bform
  rw [if_neg h0.ne']
  split_ifs with hN
  · rfl
  · simp only [Bfull, hz i le_rfl hi j hj, hz (i + 1) (by omega) (by omega) j hj, hz i le_rfl hi _ (jm_lt o hnt j),
      hz i le_rfl hi _ (jp_lt o hnt j)]
    ring

/-- if every nodal energy vanishes, the field vanishes row by row, from the outer boundary inwards -/
theorem rows_vanish (hnt : 0 < o.nt) (he : Elliptic o) (hx : V0 o x)
    (hB : ∀ i j, i < o.nr → j < o.nt → Bform o x x i j = 0) :
    ∀ d i, i + d + 1 = o.nr → ∀ r, i ≤ r → r < o.nr → ∀ j, j < o.nt → x r j = 0
  | 0, i, h, r, hr, hr', j, _ => by rw [show r = o.nr - 1 by omega]; exact hx.1 j
  | d + 1, i, h, r, hr, hr', j, hj => by
    have ih := rows_vanish hnt he hx hB d (i + 1) (by omega)
    rcases Nat.eq_or_lt_of_le hr with rfl | hlt
    · have hb := hB (i + 1) j (by omega) hj
      rw [Bform_of_rows_zero o x hnt (Nat.succ_pos i) (by omega) hj ih] at hb
      exact mul_self_eq_zero.mp ((mul_eq_zero.mp hb).resolve_left (coef_pos (he.k_pos _ (jm_lt o hnt j))
        (he.k_pos j hj) (he.h_pos i (by omega)) (he.arr_pos (i + 1) j (by omega) hj)).ne')
    · exact ih r hlt hr' j hj

/-- **positive definiteness**, Dirichlet inner boundary: `⟨A x, x⟩ > 0` unless `x` vanishes on the grid -/
theorem A_pd_dirichlet (hnr : 4 ≤ o.nr) (hnt : 2 ≤ o.nt) (heven : o.nt % 2 = 0) (hbc : o.bc = true)
    (he : Elliptic o) (hx : V0 o x) (hne : ∃ i j, i < o.nr ∧ j < o.nt ∧ x i j ≠ 0) :
    0 < inner o (A o x) x := by
  refine lt_of_le_of_ne (A_psd_dirichlet o x hnr hnt heven hbc he hx) fun h0 => ?_
  rw [inner_A_eq_sum_Bform o hnr hnt heven (not_across hbc) x x hx hx] at h0
  obtain ⟨i, j, hi, hj, hxij⟩ := hne
  exact hxij (rows_vanish o x (by omega) he hx (fun i j hi hj => sum_grid_eq_zero
    (fun i hi j hj => Bform_nonneg o x hnr (by omega) hbc he i j hi hj) h0.symm hi hj)
    (o.nr - 1) 0 (by omega) i (Nat.zero_le i) hi j hj)

end psd
end Stencil
