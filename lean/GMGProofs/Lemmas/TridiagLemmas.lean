import GMGModel.Tridiag
import GMGProofs.Lemmas.FieldScalar
import Mathlib.Tactic.LinearCombination
import Mathlib.Tactic.Ring
import Mathlib.Tactic.FieldSimp
/-!
# The plain symmetric tridiagonal LDLᵀ solver (C14)

* for every `Scalar` type (no field laws): the three code passes `factor / fwd / scale / bwd`
  perform the same arithmetic as the recursive elimination `solveT`;
* over a field: `solveT` solves the system when the pivots do not vanish.
-/
namespace Tridiag

/-- Induction over (diagonal, sub-diagonal, vector) of consistent lengths.  The hypothesis holds for
    every leading diagonal and vector entry, because one elimination step changes both. -/
theorem tri_induction' {α : Type} {motive : List α → List α → List α → Prop}
    (base : ∀ a x, motive [a] [] [x])
    (step : ∀ a a' as b bs x x' xs, as.length = xs.length → bs.length = as.length →
      (∀ c z, motive (c :: as) bs (z :: xs)) → motive (a :: a' :: as) (b :: bs) (x :: x' :: xs)) :
    ∀ a b x, a.length = x.length → b.length + 1 = a.length → motive a b x
  | [a], [], [x], _, _ => base a x
  | a :: a' :: as, b :: bs, x :: x' :: xs, h1, h2 =>
      step a a' as b bs x x' xs (by simpa using h1) (by simpa using h2) fun c z =>
        tri_induction' base step (c :: as) bs (z :: xs) (by simpa using h1) (by simpa using h2)
  | [], _, _, _, h => by simp at h
  | [_], _ :: _, _, _, h2 => by simp at h2
  | [_], [], [], h1, _ => by simp at h1
  | [_], [], _ :: _ :: _, h1, _ => by simp at h1
  | _ :: _ :: _, [], _, _, h2 => by simp at h2
  | _ :: _ :: _, _ :: _, [], h1, _ => by simp at h1
  | _ :: _ :: _, _ :: _, [_], h1, _ => by simp at h1

theorem tri_induction {α : Type} {motive : List α → List α → List α → Prop}
    (base : ∀ a x, motive [a] [] [x])
    (step : ∀ a a' as b bs x x' xs, as.length = xs.length → bs.length = as.length →
      motive (a' :: as) bs (x' :: xs) → motive (a :: a' :: as) (b :: bs) (x :: x' :: xs)) :
    ∀ a b x, a.length = x.length → b.length + 1 = a.length → motive a b x :=
  tri_induction' base fun a a' as b bs x x' xs h1 h2 ih => step a a' as b bs x x' xs h1 h2 (ih a' x')

/-- the same for (diagonal, sub-diagonal) alone -/
theorem duo_induction {α : Type} {motive : List α → List α → Prop} (base : ∀ a, motive [a] [])
    (step : ∀ a a' as b bs, bs.length = as.length → (∀ c, motive (c :: as) bs) →
      motive (a :: a' :: as) (b :: bs))
    (a b : List α) (h : b.length + 1 = a.length) : motive a b :=
  tri_induction' (motive := fun a b _ => motive a b) (fun a _ => base a)
    (fun a a' as b bs _ _ _ _ h2 ih => step a a' as b bs h2 fun c => ih c c) a b a rfl h

section Generic
variable {α : Type} [Scalar α]

/-- recursive LDLᵀ solve: eliminate the first unknown, solve the Schur complement system, back-substitute -/
def solveT : List α → List α → List α → List α
  | [a], [], [y] => [y / a]
  | a :: a' :: as, b :: bs, y :: y' :: ys =>
      let l := b / a
      match solveT ((a' - l * l * a) :: as) bs ((y' - l * y) :: ys) with
      | x' :: xs => (y / a - l * x') :: x' :: xs
      | [] => []
  | _, _, _ => []

/-- one step of the in-place factorisation = factorisation of the Schur complement -/
theorem factor_cons_cons (a a' : α) (as : List α) (b : α) (bs : List α) :
    factor (a :: a' :: as) (b :: bs) =
      (a :: (factor ((a' - b / a * (b / a) * a) :: as) bs).1,
       (b / a) :: (factor ((a' - b / a * (b / a) * a) :: as) bs).2) := by
  simp [factor, factorFrom]

theorem factor_single (a : α) : factor [a] ([] : List α) = ([a], []) := by
  simp [factor, factorFrom]

/-- the code's three passes on the code's factorisation compute exactly `solveT`
    (same operations in the same order: no algebraic law is used) -/
theorem subst_factor_eq_solveT (a b y : List α) (h1 : a.length = y.length)
    (h2 : b.length + 1 = a.length) : subst (factor a b).1 (factor a b).2 y = solveT a b y := by
  refine tri_induction' (motive := fun a b y => subst (factor a b).1 (factor a b).2 y = solveT a b y)
    ?_ ?_ a b y h1 h2
  · intro a y; simp [subst, factor, factorFrom, fwd, scale, bwd, solveT]
  · intro a a' as b bs y y' ys _ _ ih
    rw [factor_cons_cons]
    simp only [solveT]
    rw [← ih]
    have hne : (factor ((a' - b / a * (b / a) * a) :: as) bs).1 ≠ [] := by simp [factor]
    generalize factor ((a' - b / a * (b / a) * a) :: as) bs = F at hne ⊢
    cases hD : F.1 with
    | nil => exact absurd hD hne
    | cons d ds => simp [subst, fwd, fwdFrom, scale, bwd]; rfl

theorem factor_fst_length (a b : List α) (h : b.length + 1 = a.length) :
    (factor a b).1.length = a.length := by
  refine duo_induction (motive := fun a b => (factor a b).1.length = a.length) ?_ ?_ a b h
  · intro a; rw [factor_single]
  · intro a a' as b bs _ ih
    rw [factor_cons_cons]; simpa using ih _

/-! ### `solve` = factorise once (`prep`), then substitute on the stored arrays -/

/-- the object after a call; the right-hand side plays no role (`solve_fst`) -/
def prep (s : State α) : State α := (solve s []).1

theorem solve_fst (s : State α) (rhs : List α) : (solve s rhs).1 = prep s := by
  unfold prep solve solveCyclic solvePlain; split <;> rfl

theorem prep_of_factorized {s : State α} (h : s.factorized = true) : prep s = s := by
  unfold prep solve solveCyclic solvePlain; simp only [h, if_true]; split <;> rfl

theorem prep_factorized (s : State α) : (prep s).factorized = true := by
  unfold prep solve solveCyclic solvePlain
  cases s.cyclic <;> cases h : s.factorized <;> simp [h]

theorem solve_snd (s : State α) (rhs : List α) : (solve s rhs).2 = (solve (prep s) rhs).2 := by
  cases h : s.factorized
  · unfold prep solve solveCyclic solvePlain
    cases s.cyclic <;> simp [h]
  · rw [prep_of_factorized h]

end Generic

/-! ### over a field: exactness of the elimination -/
section Field
variable {K : Type} [Field K]

/-- all pivots of the elimination (= the entries of `(factor a b).1`, see `pivots_iff_factor`)
    are non-zero; `False` on inconsistent lengths -/
def pivotsOK : List K → List K → Prop
  | [a], [] => a ≠ 0
  | a :: a' :: as, b :: bs => a ≠ 0 ∧ pivotsOK ((a' - b / a * (b / a) * a) :: as) bs
  | _, _ => False

/-- A predicate `R` that checks `P` on the leading entry and recurses into the Schur complement
    checks `P` on the numbers the code stores in `main`. -/
theorem pivots_iff_factor {P : K → Prop} {R : List K → List K → Prop} (hb : ∀ a, R [a] [] ↔ P a)
    (hs : ∀ a a' as b bs,
      R (a :: a' :: as) (b :: bs) ↔ P a ∧ R ((a' - b / a * (b / a) * a) :: as) bs)
    (a b : List K) (h : b.length + 1 = a.length) : R a b ↔ ∀ d ∈ (factor a b).1, P d := by
  refine duo_induction (motive := fun a b => R a b ↔ ∀ d ∈ (factor a b).1, P d) ?_ ?_ a b h
  · intro a; simp [hb, factor_single]
  · intro a a' as b bs _ ih
    rw [factor_cons_cons]
    simp only [hs, ih, List.mem_cons, forall_eq_or_imp]

theorem pivotsOK_iff_factor (a b : List K) (h : b.length + 1 = a.length) :
    pivotsOK a b ↔ ∀ d ∈ (factor a b).1, d ≠ 0 :=
  pivots_iff_factor (fun _ => Iff.rfl) (fun _ _ _ _ _ => Iff.rfl) a b h

theorem solveT_length : ∀ (a b y : List K), a.length = y.length → b.length + 1 = a.length →
    (solveT a b y).length = a.length := by
  intro a b y h1 h2
  refine tri_induction' (motive := fun a b y => (solveT a b y).length = a.length) ?_ ?_ a b y h1 h2
  · intro a y; simp [solveT]
  · intro a a' as b bs y y' ys _ _ ih
    have ih := ih (a' - b / a * (b / a) * a) (y' - b / a * y)
    simp only [solveT]
    split
    · rename_i x' xs heq; rw [heq] at ih; simpa using ih
    · rename_i heq; rw [heq] at ih; simp at ih

/-- the contribution carried into the first row only shows in the first entry -/
theorem mulT_carry (a b x : List K) (h1 : a.length = x.length) (h2 : b.length + 1 = a.length)
    (p : K) : mulT a b x p = setHead (mulT a b x 0) (fun v => v + p) := by
  refine tri_induction (motive := fun a b x => mulT a b x p = setHead (mulT a b x 0) (fun v => v + p))
    ?_ ?_ a b x h1 h2
  · intro a x; simp only [mulT, setHead]; congr 1; ring
  · intro a a' as b bs x x' xs _ _ _; simp only [mulT, setHead]; congr 1; ring

theorem mulT_setHead_sub (d : K) (a b x : List K) (h1 : a.length = x.length)
    (h2 : b.length + 1 = a.length) (p : K) :
    mulT (setHead a (fun v => v - d)) b x p = setHead (mulT a b x p) (fun v => v - d * x.headD 0) := by
  refine tri_induction (motive := fun a b x =>
    mulT (setHead a (fun v => v - d)) b x p = setHead (mulT a b x p) (fun v => v - d * x.headD 0))
    ?_ ?_ a b x h1 h2
  · intro a x; simp only [setHead, mulT, List.headD_cons]; congr 1; ring
  · intro a a' as b bs x x' xs _ _ _
    simp only [setHead, mulT, List.headD_cons]; congr 1; ring

theorem mulT_solveT_zero (a b y : List K) (h1 : a.length = y.length) (h2 : b.length + 1 = a.length)
    (hp : pivotsOK a b) : mulT a b (solveT a b y) 0 = y := by
  refine tri_induction' (motive := fun a b y => pivotsOK a b → mulT a b (solveT a b y) 0 = y)
    ?_ ?_ a b y h1 h2 hp
  · intro a y ha
    simp only [pivotsOK] at ha
    simp only [solveT, mulT, List.cons.injEq, and_true, zero_add]; field_simp
  · intro a a' as b bs y y' ys hy hb ih ⟨ha, hp⟩
    have hl := solveT_length ((a' - b / a * (b / a) * a) :: as) bs ((y' - b / a * y) :: ys)
      (by simpa using hy) (by simpa using hb)
    have ih := ih _ (y' - b / a * y) hp
    cases hX : solveT ((a' - b / a * (b / a) * a) :: as) bs ((y' - b / a * y) :: ys) with
    | nil => rw [hX] at hl; simp at hl
    | cons x' xs =>
      rw [hX] at ih hl
      have hx : (a' :: as).length = (x' :: xs).length := by simpa using hl.symm
      -- the Schur complement row is the original second row minus `l` times the first
      have e := mulT_setHead_sub (b / a * (b / a) * a) (a' :: as) bs (x' :: xs) hx (by simpa using hb) 0
      rw [show setHead (a' :: as) _ = (a' - b / a * (b / a) * a) :: as from rfl, ih] at e
      simp only [solveT, hX, mulT]
      rw [mulT_carry _ _ _ hx (by simpa using hb)]
      cases hM : mulT (a' :: as) bs (x' :: xs) 0 with
      | nil => rw [hM] at e; simp [setHead] at e
      | cons m ms =>
        rw [hM] at e
        simp only [setHead, List.headD_cons, List.cons.injEq] at e ⊢
        obtain ⟨e, rfl⟩ := e
        refine ⟨by field_simp; ring, ?_, rfl⟩
        linear_combination (norm := skip) -e
        field_simp; ring

theorem mulT_solveT : ∀ (a b y : List K) (p : K), a.length = y.length → b.length + 1 = a.length →
    pivotsOK a b →
    mulT a b (solveT a b y) p = (match y with | y0 :: ys => (p + y0) :: ys | [] => []) := by
  intro a b y p h1 h2 hp
  rw [mulT_carry a b _ (solveT_length a b y h1 h2).symm h2, mulT_solveT_zero a b y h1 h2 hp]
  cases y with
  | nil => rfl
  | cons y0 ys => simp only [setHead, add_comm]

end Field
end Tridiag
