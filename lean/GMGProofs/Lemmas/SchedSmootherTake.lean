import GMGProofs.Lemmas.SchedBasic
/-!
# Race freedom of the two "take" smoothers (C11)

An iteration assembles the right-hand side of its own circle (line) into `temp` and solves it into `x`; the assembly reads
`x` on the own line and its two neighbours.  Circles (lines) of one colour are two apart (cyclically for the lines, `nt` being
even), so no call reads what another iteration writes; the white circles stay below row `nc - 1`, which the radial
iterations running concurrently read.

Proved on the generated loops of `ExtrapolatedSmootherTake`, whose calls read more; `SmootherTake` is a relabelling of it.
-/
namespace Sched.Lem
open Sched

/-- the calls of one iteration over circle `i` -/
abbrev takeCircle (i : Int) (c : Colour) : List Call :=
  [⟨.ExSmootherTake, .applyAscOrthoCircleSection, i, c⟩] ++ [⟨.ExSmootherTake, .solveCircleSection, i, .none⟩]
/-- … over line `j` -/
abbrev takeRadial (j : Int) (c : Colour) : List Call :=
  [⟨.ExSmootherTake, .applyAscOrthoRadialSection, j, c⟩] ++ [⟨.ExSmootherTake, .solveRadialSection, j, .none⟩]

theorem takeCircle_takeCircle {s : Shape} {i i' : Int} (c c' : Colour) (h : i + 2 ≤ i' ∨ i' + 2 ≤ i) :
    ∀ k ∈ takeCircle i c, ∀ k' ∈ takeCircle i' c', ∀ a r θ, ¬ conflictAt s k k' a r θ := by
  intro k hk k' hk' a r θ
  simp only [List.cons_append, List.nil_append, List.mem_cons, List.not_mem_nil, or_false] at hk hk'
  obtain rfl | rfl := hk <;> obtain rfl | rfl := hk' <;> footprints a

theorem takeCircle_takeRadial {s : Shape} {i : Int} (j : Int) (c c' : Colour) (h : i + 2 ≤ s.nc) :
    ∀ k ∈ takeCircle i c, ∀ k' ∈ takeRadial j c', ∀ a r θ, ¬ conflictAt s k k' a r θ := by
  intro k hk k' hk' a r θ
  simp only [List.cons_append, List.nil_append, List.mem_cons, List.not_mem_nil, or_false] at hk hk'
  obtain rfl | rfl := hk <;> obtain rfl | rfl := hk' <;> footprints a

theorem takeRadial_takeRadial {s : Shape} {j j' : Int} (c c' : Colour) (hj : 0 ≤ j ∧ j < s.nt) (hj' : 0 ≤ j' ∧ j' < s.nt)
    (h : j + 2 ≤ j' ∧ j' + 2 ≤ j + s.nt ∨ j' + 2 ≤ j ∧ j + 2 ≤ j' + s.nt) :
    ∀ k ∈ takeRadial j c, ∀ k' ∈ takeRadial j' c', ∀ a r θ, ¬ conflictAt s k k' a r θ := by
  intro k hk k' hk' a r θ
  simp only [List.cons_append, List.nil_append, List.mem_cons, List.not_mem_nil, or_false] at hk hk'
  obtain rfl | rfl := hk <;> obtain rfl | rfl := hk' <;> footprints a

variable (s : Shape)

theorem exSmootherTake_intervals : intervals Gen.exSmootherTake.loops = [[0], [1, 2], [3]] := by decide

/-- the only hypothesis on the shape is that `nt` is even -/
theorem exSmootherTake_raceFree (h2 : s.nt % 2 = 0) : RegionRaceFree s Gen.exSmootherTake := by
  apply regionRaceFree_of_intervals _ exSmootherTake_intervals
  simp only [List.forall_mem_cons, List.not_mem_nil, false_imp_iff, implies_true, and_true, true_and, and_assoc, Nat.le_refl,
    forall_const, Nat.reduceLeDiff]
  refine ⟨?_, ?_, ?_, ?_, ?_⟩
  -- 0: the black circles
  · exact loopsRaceFree_of_bodies (fun _ => rfl) (fun _ => rfl) fun t t' ht ht' hne =>
      takeCircle_takeCircle .black .black <| by
        have : (t - if s.nc % 2 = 0 then 1 else 0) % 2 = 0 := ht.2.2
        have : (t' - if s.nc % 2 = 0 then 1 else 0) % 2 = 0 := ht'.2.2
        have := hne rfl
        omega
  -- 1: the white circles
  · exact loopsRaceFree_of_bodies (fun _ => rfl) (fun _ => rfl) fun t t' ht ht' hne =>
      takeCircle_takeCircle .white .white <| by
        have : (t - if s.nc % 2 = 0 then 0 else 1) % 2 = 0 := ht.2.2
        have : (t' - if s.nc % 2 = 0 then 0 else 1) % 2 = 0 := ht'.2.2
        have := hne rfl
        omega
  -- 1 ∥ 2: the white circles are `nc - 2, nc - 4, …`
  · exact loopsRaceFree_of_bodies (fun _ => rfl) (fun _ => rfl) fun t t' ht _ _ =>
      takeCircle_takeRadial t' .white .black <| by
        have : t < s.nc ∧ (t - if s.nc % 2 = 0 then 0 else 1) % 2 = 0 := ht.2
        omega
  -- 2: the black lines
  · exact loopsRaceFree_of_bodies (fun _ => rfl) (fun _ => rfl) fun t t' ht ht' hne => by
      have ht : 0 ≤ t ∧ t < s.nt ∧ (t - 0) % 2 = 0 := ht
      have ht' : 0 ≤ t' ∧ t' < s.nt ∧ (t' - 0) % 2 = 0 := ht'
      have := hne rfl
      exact takeRadial_takeRadial .black .black (by omega) (by omega) (by omega)
  -- 3: the white lines
  · exact loopsRaceFree_of_bodies (fun _ => rfl) (fun _ => rfl) fun t t' ht ht' hne => by
      have ht : 1 ≤ t ∧ t < s.nt ∧ (t - 1) % 2 = 0 := ht
      have ht' : 1 ≤ t' ∧ t' < s.nt ∧ (t' - 1) % 2 = 0 := ht'
      have := hne rfl
      exact takeRadial_takeRadial .white .white (by omega) (by omega) (by omega)

theorem smootherTake_raceFree (h2 : s.nt % 2 = 0) : RegionRaceFree s Gen.smootherTake :=
  (exSmootherTake_raceFree s h2).of_relabel (canon_covers s) rfl

end Sched.Lem
