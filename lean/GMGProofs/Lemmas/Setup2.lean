import GMGProofs.Lemmas.Setup1
/-! The cycle generators only touch what `setup()` provided (C20s). -/
namespace Setup
open MGCycle

/-- the recursive plain cycle on level `d` (`fuel = levels - 1 - d`): fine as soon as level `d` has a plain smoother
    (automatic for `d ≠ 0`), `x`, `tmp` are writable and `rhs` is readable -/
theorem plain_ok (c : Cfg) (cy : MGCycle.Cfg) (hl : cy.levels = c.levels) :
    ∀ (fuel : Nat) (k : Kind) (d : Nat) (x rhs tmp : Ref), d + fuel = c.levels - 1 →
      (d = 0 → (opsAt c 0).smoother = true) → wref c x → rref c rhs → wref c tmp →
      progOK c (plain cy k fuel d x rhs tmp) = true := by
  intro fuel
  induction fuel with
  | zero => intros; rfl
  | succ fuel ih =>
    intro k d x rhs tmp hd h0 hx hr ht
    have hsm : (opsAt c d).smoother = true := by
      by_cases e : d = 0
      · subst e; exact h0 rfl
      · exact ops_smoother_mid c d e (by omega)
    have hd1 : d + 1 < c.levels := by omega
    have wres : wref c (d + 1, .res) := ⟨hd1, by simp⟩
    have werr : wref c (d + 1, .err) := ⟨hd1, by simp⟩
    have wsol : wref c (d + 1, .sol) := ⟨hd1, by simp⟩
    have hrec : ∀ k', progOK c (plain cy k' fuel (d + 1) (d + 1, .res) (d + 1, .err) (d + 1, .sol)) = true :=
      fun k' => ih k' (d + 1) _ _ _ (by omega) (by omega) wres werr.rref wsol
    have hS : instrOK c (.smooth d x rhs tmp) = true := ok_smooth hsm hx hr ht
    simp only [plain, progOK_append, progOK_cons, progOK_nil, progOK_replicate _ _ _ hS,
      ok_residual ht hr hx.rref, ok_prolong ht wres.rref, ok_add hx ht.rref, Bool.and_true, Bool.true_and]
    split
    · next e =>
      simp only [progOK_cons, progOK_nil, ok_restrict wres ht.rref,
        ok_directSolve (ops_direct_last c (d + 1) (by omega) (by omega)) wres, Bool.and_true]
    · simp only [progOK_cons, progOK_nil, progOK_append, ok_restrict werr ht.rref, ok_zero wres, Bool.true_and]
      cases k <;> simp [progOK_append, hrec]

theorem ops0_smoother_none (c : Cfg) (hm : c.extrapMode = 0) : (opsAt c 0).smoother = true := by
  simp [opsAt, hm]

theorem ops0_exSm (c : Cfg) (fgs : Bool) (hm : c.extrapMode ≠ 0) (hf : fgsConsistent c.extrapMode fgs = true) :
    (if fgs then (opsAt c 0).smoother else (opsAt c 0).exSmoother) = true := by
  unfold fgsConsistent at hf
  unfold opsAt
  generalize c.extrapMode = m at *
  match m, hm with
  | 0, hm => exact absurd rfl hm
  | 1, _ | 2, _ | 3, _ | n + 4, _ => cases fgs <;> simp_all

theorem exSm_ok (c : Cfg) (fgs : Bool) (hm : c.extrapMode ≠ 0) (hf : fgsConsistent c.extrapMode fgs = true)
    {x rhs tmp : Ref} (hx : wref c x) (hr : rref c rhs) (ht : wref c tmp) :
    instrOK c (exSm fgs 0 x rhs tmp) = true := by
  have ho := ops0_exSm c fgs hm hf
  cases fgs
  · exact ok_exSmooth ho hx hr ht
  · exact ok_smooth ho hx hr ht

theorem extrap_ok (c : Cfg) (cy : MGCycle.Cfg) (hl : cy.levels = c.levels) (h2 : 2 ≤ c.levels) (k : Kind) (fgs : Bool)
    (hm : c.extrapMode ≠ 0) (hf : fgsConsistent c.extrapMode fgs = true) :
    progOK c (extrap cy k fgs 0 (0, .sol) (0, .rhs) (0, .res)) = true := by
  have hr2 := rhsLevels_two c h2 hm
  have w0s : wref c (0, .sol) := ⟨by omega, by simp⟩
  have w0r : wref c (0, .res) := ⟨by omega, by simp⟩
  have r0 : rref c (0, .rhs) := ⟨by omega, fun _ => by show 0 < rhsLevels c; omega⟩
  have r1 : rref c (1, .rhs) := ⟨by omega, fun _ => by show 1 < rhsLevels c; omega⟩
  have w1s : wref c (1, .sol) := ⟨by omega, by simp⟩
  have w1r : wref c (1, .res) := ⟨by omega, by simp⟩
  have w1e : wref c (1, .err) := ⟨by omega, by simp⟩
  have hS := exSm_ok c fgs hm hf w0s r0 w0r
  have hrec : ∀ k', progOK c (plain cy k' (cy.levels - 2) 1 (1, .res) (1, .err) (1, .sol)) = true :=
    fun k' => plain_ok c cy hl _ k' 1 _ _ _ (by omega) (by omega) w1r w1e.rref w1s
  simp only [extrap, progOK_append, progOK_cons, progOK_nil, progOK_replicate _ _ _ hS, Nat.zero_add,
    ok_exProlong w0r w1r.rref, ok_add w0s w0r.rref, Bool.and_true, Bool.true_and]
  split
  · next e =>
    simp only [progOK_cons, progOK_nil, ok_residual w0r r0 w0s.rref, ok_exRestrict w1r w0r.rref,
      ok_inject w1s w0s.rref, ok_residual w1e r1 w1s.rref, ok_lin43 w1r w1e.rref,
      ok_directSolve (ops_direct_last c 1 (by omega) (by omega)) w1r, Bool.and_true]
  · simp only [progOK_cons, progOK_nil, progOK_append, ok_residual w0r r0 w0s.rref, ok_exRestrict w1e w0r.rref,
      ok_inject w1s w0s.rref, ok_residual w1r r1 w1s.rref, ok_lin43 w1e w1r.rref, ok_zero w1r, Bool.true_and]
    cases k <;> simp [progOK_append, hrec]

theorem cycleAt0_ok (c : Cfg) (cy : MGCycle.Cfg) (hl : cy.levels = c.levels) (h2 : 2 ≤ c.levels) (k : Kind) (fgs : Bool)
    (hf : fgsConsistent c.extrapMode fgs = true) :
    progOK c (cycleAt cy k (c.extrapMode != 0) fgs 0) = true := by
  have h1 := rhsLevels_pos c h2
  by_cases hm : c.extrapMode = 0
  · have : (c.extrapMode != 0) = false := by simp [hm]
    rw [cycleAt, this]
    exact plain_ok c cy hl _ k 0 _ _ _ (by omega) (fun _ => ops0_smoother_none c hm) ⟨by omega, by simp⟩
      ⟨by omega, fun _ => by show 0 < rhsLevels c; omega⟩ ⟨by omega, by simp⟩
  · have : (c.extrapMode != 0) = true := by simp [hm]
    rw [cycleAt, this]
    exact extrap_ok c cy hl h2 k fgs hm hf

theorem cycleAt_plain_ok (c : Cfg) (cy : MGCycle.Cfg) (hl : cy.levels = c.levels) (k : Kind) (fgs : Bool) (d : Nat)
    (hd : d + 1 < c.levels) (hr : d < rhsLevels c) (h0 : d = 0 → (opsAt c 0).smoother = true) :
    progOK c (cycleAt cy k false fgs d) = true := by
  simp only [cycleAt, Bool.false_eq_true, if_false]
  exact plain_ok c cy hl _ k d _ _ _ (by omega) h0 ⟨by omega, by simp⟩ ⟨by omega, fun _ => hr⟩ ⟨by omega, by simp⟩

theorem fmgLoop_ok (c : Cfg) (cy : MGCycle.Cfg) (hl : cy.levels = c.levels) (h2 : 2 ≤ c.levels) (hfmg : c.fmg = true)
    (fk : Kind) (fi : Nat) (fgs : Bool) (hf : fgsConsistent c.extrapMode fgs = true) :
    ∀ cur, cur < c.levels → progOK c (fmgLoop cy fk fi (c.extrapMode != 0) fgs cur) = true := by
  have hrl := rhsLevels_fmg c hfmg
  intro cur
  induction cur with
  | zero => intro _; rfl
  | succ cur ih =>
    intro hc
    have hI : instrOK c (.fmgInterp (cur + 1) (cur, .sol) (cur + 1, .sol)) = true :=
      ok_fmgInterp ⟨by omega, by simp⟩ (wref.rref ⟨hc, by simp⟩)
    have hC : progOK c (cycleAt cy fk (decide ((c.extrapMode != 0) = true ∧ cur = 0)) fgs cur) = true := by
      by_cases e : cur = 0
      · subst e
        have e' : ∀ b : Bool, decide (b = true ∧ (0 : Nat) = 0) = b := by intro b; cases b <;> rfl
        rw [e']
        exact cycleAt0_ok c cy hl h2 fk fgs hf
      · have : decide ((c.extrapMode != 0) = true ∧ cur = 0) = false := by simp [e]
        rw [this]
        exact cycleAt_plain_ok c cy hl fk fgs cur (by omega) (by omega) (fun h => absurd h e)
    simp only [fmgLoop, progOK_append, progOK_cons, progOK_nil, hI, progOK_replicate_flatten _ _ _ hC,
      ih (by omega), Bool.and_true]

end Setup
