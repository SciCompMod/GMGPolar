import GMGProofs.Lemmas.StencilLemmas3
/-!
# The operator `A`, the grid inner product, and `⟨A x, y⟩ = Σ_s Bn_s(x, y)`

`Bn o x y i j` pairs every update of node `(i, j)` with the test function at the update's target:
the scatter form IS the energy decomposition.
-/
namespace Stencil
open Finset
variable {K : Type} [_root_.Field K]

/-- the operator: `take o f x = f - A x` -/
def A (o : Op K) (x : Field K) : Field K := fun i j => -(take o (fun _ _ => 0) x i j)

/-- fields vanishing on the Dirichlet nodes -/
def V0 (o : Op K) (x : Field K) : Prop :=
  (∀ j, x (o.nr - 1) j = 0) ∧ (o.bc = true → ∀ j, x 0 j = 0)

/-- grid inner product -/
def inner (o : Op K) (u v : Field K) : K := ∑ i ∈ range o.nr, ∑ j ∈ range o.nt, u i j * v i j

/-- nodal bilinear form of node `(i, j)`: each update paired with `y` at its target -/
def Bn (o : Op K) (x y : Field K) (i j : Nat) : K :=
  ((giveNode o x i j).map fun u => u.v * y u.ti u.tj).sum

theorem take_eq_sub_A (o : Op K) (f x : Field K) (i j : Nat) : take o f x i j = f i j - A o x i j := by
  have h := take_sub o f x (fun _ _ => 0) i j
  rw [sub_zero] at h
  rw [A, sub_neg_eq_add, ← h, sub_add_cancel]

theorem pair_recv (nr nt : Nat) (y : Field K) (l : List (Upd K)) :
    ∑ a ∈ range nr, ∑ b ∈ range nt, recv l a b * y a b
      = (l.map fun u => if u.ti < nr ∧ u.tj < nt then u.v * y u.ti u.tj else 0).sum := by
  induction l with
  | nil => simp
  | cons u l ih =>
    simp only [recv_cons, add_mul, ite_mul, zero_mul, Finset.sum_add_distrib, List.map_cons, List.sum_cons]
    rw [sum_pick' nr nt u.ti u.tj fun a b => u.v * y a b, ih]

section slots
variable (o : Op K) (x y : Field K)

theorem Bn_slots (hnr : 4 ≤ o.nr) {i : Nat} (hi : i < o.nr) (j : Nat) :
    Bn o x y i j = sC o x i j * y i j + sL o x i j * y (i - 1) j + (if 0 = i then sA o x j * y 0 (ja o j) else 0)
      + sR o x i j * y (i + 1) j + sB o x i j * y i (jm o j) + sT o x i j * y i (jp o j) :=
  sum_giveNode o x (fun ti tj v => v * y ti tj) (fun _ _ => zero_mul _) hnr hi j

/-- every slot of a grid node addresses a grid node or is empty -/
theorem pair_giveNode (hnr : 4 ≤ o.nr) {i j : Nat} (hi : i < o.nr) (hj : j < o.nt) :
    ∑ a ∈ range o.nr, ∑ b ∈ range o.nt, recv (giveNode o x i j) a b * y a b = Bn o x y i j := by
  have hnt : 0 < o.nt := by omega
  have hR : (if i + 1 < o.nr ∧ j < o.nt then sR o x i j * y (i + 1) j else 0) = sR o x i j * y (i + 1) j := by
    by_cases h : i + 1 < o.nr
    · exact if_pos ⟨h, hj⟩
    · rw [if_neg fun h' => h h'.1, sR, if_neg (by omega), zero_mul]
  rw [pair_recv, Bn_slots o x y hnr hi j, sum_giveNode o x
    (fun ti tj v => if ti < o.nr ∧ tj < o.nt then v * y ti tj else 0) (fun _ _ => by simp only [zero_mul, ite_self])
    hnr hi j, hR]
  simp only [hi, hj, jm_lt o hnt j, jp_lt o hnt j, ja_lt o hnt j, show i - 1 < o.nr by omega,
    show 0 < o.nr by omega, and_self, if_true]

end slots

theorem inner_A_eq_sum_Bn (o : Op K) (hnr : 4 ≤ o.nr) (hnt : 2 ≤ o.nt) (heven : o.nt % 2 = 0)
    (hk : o.bc = false → ∀ j, j < o.nt → o.k (ja o j) = o.k j) (x y : Field K) :
    inner o (A o x) y = ∑ i ∈ range o.nr, ∑ j ∈ range o.nt, Bn o x y i j := by
  -- on grid nodes `A x` is what the nodes scatter
  have e : ∀ a, a < o.nr → ∀ b, b < o.nt → A o x a b * y a b
      = ∑ i ∈ range o.nr, ∑ j ∈ range o.nt, recv (giveNode o x i j) a b * y a b := fun a ha b hb => by
    rw [A, ← give_eq_take' o _ x hnr hnt heven hk a b ha hb, give_eq_sum, zero_sub, neg_neg, Finset.sum_mul]
    exact Finset.sum_congr rfl fun i _ => Finset.sum_mul _ _ _
  rw [inner, sum_grid_congr e, sum_grid_comm]
  exact sum_grid_congr fun i hi j hj => pair_giveNode o x y hnr hi hj

end Stencil
