import Mathlib.Algebra.BigOperators.Group.Finset.Basic
/-!
# Scatter assemblies: what a list of accumulating stores leaves in one cell

The give strategies of GMGPolar assemble matrices and vectors by `+=` / `-=` stores issued node by node.  For one cell only
the stores that hit it matter: its value is the initial value plus their `total`, its column index the one written last.
The lemmas about the code-level models `DirectGiveCode`, `SmootherGiveCode`, `ExSmootherGiveCode` and about `Stencil.give`
(through `Stencil.recv`) all reduce to this.
-/
namespace Scatter
variable {K β γ : Type} [AddCommMonoid K] (hit : β → Prop) [DecidablePred hit] (col : β → Nat) (val : β → K)

/-- total of the values of the stores that hit -/
def total (us : List β) : K := (us.map fun u => if hit u then val u else 0).sum

/-- a cell `(column, value)` under a list of stores: a store that hits overwrites the column and adds to the value -/
def cellFold (e : Nat × K) (us : List β) : Nat × K :=
  us.foldl (fun e u => if hit u then (col u, e.2 + val u) else e) e

@[simp] theorem total_nil : total hit val [] = 0 := rfl

@[simp] theorem total_cons (u : β) (us : List β) :
    total hit val (u :: us) = (if hit u then val u else 0) + total hit val us := by
  simp [total]

@[simp] theorem total_append (us vs : List β) : total hit val (us ++ vs) = total hit val us + total hit val vs := by
  simp [total]

theorem total_ite (c : Prop) [Decidable c] (us vs : List β) :
    total hit val (if c then us else vs) = if c then total hit val us else total hit val vs := by
  split <;> rfl

theorem total_flatMap (l : List γ) (g : γ → List β) :
    total hit val (l.flatMap g) = (l.map fun p => total hit val (g p)).sum := by
  induction l with
  | nil => rfl
  | cons p l ih => simp [ih]

theorem total_eq_zero {us : List β} (h : ∀ u ∈ us, ¬ hit u) : total hit val us = 0 := by
  induction us with
  | nil => rfl
  | cons u us ih =>
    rw [total_cons, if_neg (h u List.mem_cons_self), zero_add, ih fun w hw => h w (List.mem_cons_of_mem _ hw)]

theorem foldl_add (us : List β) (e : K) :
    us.foldl (fun acc u => if hit u then acc + val u else acc) e = e + total hit val us := by
  induction us generalizing e with
  | nil => simp
  | cons u us ih =>
    rw [List.foldl_cons, ih, total_cons]
    split
    · rw [add_assoc]
    · rw [zero_add]

theorem cellFold_cons (e : Nat × K) (u : β) (us : List β) :
    cellFold hit col val e (u :: us) = cellFold hit col val (if hit u then (col u, e.2 + val u) else e) us := rfl

theorem cellFold_snd (us : List β) (e : Nat × K) : (cellFold hit col val e us).2 = e.2 + total hit val us := by
  induction us generalizing e with
  | nil => simp [cellFold]
  | cons u us ih =>
    rw [cellFold_cons, ih, total_cons]
    split
    · exact add_assoc ..
    · rw [zero_add]

/-- the column of a cell all of whose stores carry the column `C` (or that keeps `C` because no store hits it) -/
theorem cellFold_fst (C : Nat) (us : List β) (e : Nat × K) (hC : ∀ u ∈ us, hit u → col u = C)
    (h : (∃ u ∈ us, hit u) ∨ e.1 = C) : (cellFold hit col val e us).1 = C := by
  induction us generalizing e with
  | nil => exact h.resolve_left fun ⟨_, hu, _⟩ => by cases hu
  | cons u us ih =>
    rw [cellFold_cons]
    apply ih _ fun w hw => hC w (List.mem_cons_of_mem _ hw)
    by_cases hu : hit u
    · rw [if_pos hu]; exact .inr (hC u List.mem_cons_self hu)
    · rw [if_neg hu]
      refine h.imp (fun ⟨w, hw, hw'⟩ => ?_) id
      rcases List.mem_cons.mp hw with rfl | hw
      · exact absurd hw' hu
      · exact ⟨w, hw, hw'⟩

end Scatter
