import Mathlib.Algebra.BigOperators.Group.Finset.Basic
import Mathlib.Algebra.BigOperators.Intervals
import Mathlib.Algebra.BigOperators.Ring.Finset
import Mathlib.Tactic.Abel
/-!
# Reindexing lemmas for the transfer operators (C08)

Parity splits of the fine index ranges (`2m+1` radial nodes, `2q` angular nodes), the one-sided shifts of the
radial direction, the cyclic shift of the angular direction, and the wrapped-index arithmetic (`% n` with a
variable modulus, which `omega` does not do).
-/
open Finset

namespace InterpSums

/-! ### parity (with `Nat.mul_mod_right`, `Nat.mul_add_mod`, `Nat.mul_div_cancel_left` of the default simp set) -/

@[simp] theorem half_odd (I : ℕ) : (2 * I + 1) / 2 = I := by omega

theorem mod_of_add (a r n : ℕ) (h : a = r + n) (hr : r < n) : a % n = r := by
  subst h; rw [Nat.add_mod_right, Nat.mod_eq_of_lt hr]

theorem wrap_pred (j n : ℕ) (h0 : 0 < j) (hj : j < n) : (j + n - 1) % n = j - 1 :=
  mod_of_add _ _ _ (by omega) (by omega)

theorem succ_mod_cases (J q : ℕ) (hJ : J < q) :
    (J + 1 < q ∧ (J + 1) % q = J + 1) ∨ (J + 1 = q ∧ (J + 1) % q = 0) := by
  by_cases h : J + 1 < q
  · exact Or.inl ⟨h, Nat.mod_eq_of_lt h⟩
  · have : J + 1 = q := by omega
    exact Or.inr ⟨this, by rw [this, Nat.mod_self]⟩

/-- the fine node left of the (wrapped) next coarse node is `2J+1` -/
theorem wrapM1_succ (J q : ℕ) (hJ : J < q) : (2 * ((J + 1) % q) + 2 * q - 1) % (2 * q) = 2 * J + 1 := by
  rcases succ_mod_cases J q hJ with ⟨h, e⟩ | ⟨h, e⟩ <;> rw [e]
  · exact mod_of_add _ _ _ (by omega) (by omega)
  · exact (Nat.mod_eq_of_lt (by omega)).trans (by omega)

theorem wrapM2_succ (J q : ℕ) (hJ : J < q) : (2 * ((J + 1) % q) + 2 * q - 2) % (2 * q) = 2 * J := by
  rcases succ_mod_cases J q hJ with ⟨h, e⟩ | ⟨h, e⟩ <;> rw [e]
  · exact mod_of_add _ _ _ (by omega) (by omega)
  · exact (Nat.mod_eq_of_lt (by omega)).trans (by omega)

theorem wrapP1 (J q : ℕ) (hJ : J < q) : (2 * J + 1) % (2 * q) = 2 * J + 1 :=
  Nat.mod_eq_of_lt (by omega)

theorem wrapM1_odd (J q : ℕ) (hJ : J < q) : (2 * J + 1 + 2 * q - 1) % (2 * q) = 2 * J :=
  mod_of_add _ _ _ (by omega) (by omega)

variable {K : Type} [AddCommMonoid K]

theorem sum_odd_split (f : ℕ → K) : ∀ m : ℕ,
    ∑ i ∈ range (2 * m + 1), f i = ∑ I ∈ range (m + 1), f (2 * I) + ∑ I ∈ range m, f (2 * I + 1)
  | 0 => by simp
  | m + 1 => by
      have ih := sum_odd_split f m
      have e : 2 * (m + 1) + 1 = (2 * m + 1) + 1 + 1 := by omega
      rw [e, Finset.sum_range_succ, Finset.sum_range_succ, ih,
        Finset.sum_range_succ (fun I => f (2 * I)) (m + 1), Finset.sum_range_succ (fun I => f (2 * I + 1)) m]
      have a1 : 2 * m + 1 + 1 = 2 * (m + 1) := by omega
      rw [a1]
      abel

theorem sum_even_split (f : ℕ → K) : ∀ q : ℕ,
    ∑ j ∈ range (2 * q), f j = ∑ J ∈ range q, f (2 * J) + ∑ J ∈ range q, f (2 * J + 1)
  | 0 => by simp
  | q + 1 => by
      have ih := sum_even_split f q
      have e : 2 * (q + 1) = 2 * q + 1 + 1 := by omega
      rw [e, Finset.sum_range_succ, Finset.sum_range_succ, ih,
        Finset.sum_range_succ (fun I => f (2 * I)) q, Finset.sum_range_succ (fun I => f (2 * I + 1)) q]
      abel

/-- "left neighbour" part: present for `I > 0` -/
theorem sum_left (f : ℕ → K) (m : ℕ) :
    ∑ I ∈ range (m + 1), (if I > 0 then f I else 0) = ∑ I ∈ range m, f (I + 1) := by
  rw [Finset.sum_range_succ']
  simp

/-- "right neighbour" part: present for `I + 1 < nrC` -/
theorem sum_right (f : ℕ → K) (m : ℕ) :
    ∑ I ∈ range (m + 1), (if I + 1 < m + 1 then f I else 0) = ∑ I ∈ range m, f I := by
  rw [Finset.sum_range_succ]
  simp only [lt_irrefl, if_false, add_zero]
  apply Finset.sum_congr rfl
  intro I hI
  have : I + 1 < m + 1 := by simp at hI; omega
  simp [this]

theorem sum_shift (n : ℕ) (g : ℕ → K) :
    ∑ j ∈ range n, g ((j + 1) % n) = ∑ j ∈ range n, g j := by
  rcases n with _ | m
  · simp
  rw [Finset.sum_range_succ, Finset.sum_range_succ']
  have h1 : ∀ j ∈ range m, g ((j + 1) % (m + 1)) = g (j + 1) := by
    intro j hj; rw [Nat.mod_eq_of_lt]; simp at hj; omega
  rw [Finset.sum_congr rfl h1]
  simp

/-- cyclic shift of a summand that reads the fine nodes `2J-2`, `2J-1` (wrapped): seen from the previous coarse node
    they are `2J`, `2J+1`, unwrapped -/
theorem sum_wrapM (q : ℕ) (F : ℕ → ℕ → ℕ → K) :
    ∑ J ∈ range q, F J ((2 * J + 2 * q - 2) % (2 * q)) ((2 * J + 2 * q - 1) % (2 * q))
      = ∑ J ∈ range q, F ((J + 1) % q) (2 * J) (2 * J + 1) := by
  rw [← sum_shift q (fun J => F J ((2 * J + 2 * q - 2) % (2 * q)) ((2 * J + 2 * q - 1) % (2 * q)))]
  refine Finset.sum_congr rfl fun J hJ => ?_
  have hJ' : J < q := by simpa using hJ
  simp only [wrapM1_succ J q hJ', wrapM2_succ J q hJ']

end InterpSums
