import GMGProofs.Lemmas.TridiagLemmas
import Mathlib.Tactic.Linarith
import Mathlib.Tactic.Positivity
import Mathlib.Algebra.Order.Field.Basic
/-!
# Quadratic form, positive definiteness and positive pivots of the tridiagonal matrix (C14)
-/
namespace Tridiag

section Form
variable {K : Type} [Field K]

/-- quadratic form xᵀ T x of the symmetric tridiagonal matrix (diag a, sub-diag b) -/
def Q : List K → List K → List K → K
  | [a], [], [x] => a * x * x
  | a :: as, b :: bs, x :: x' :: xs => a * x * x + 2 * b * x * x' + Q as bs (x' :: xs)
  | _, _, _ => 0

def allZero : List K → Prop
  | [] => True
  | x :: xs => x = 0 ∧ allZero xs

theorem Q_setHead_sub (d : K) (a b x : List K) (h1 : a.length = x.length)
    (h2 : b.length + 1 = a.length) :
    Q (setHead a (fun v => v - d)) b x = Q a b x - d * (x.headD 0 * x.headD 0) := by
  refine tri_induction (motive := fun a b x =>
    Q (setHead a (fun v => v - d)) b x = Q a b x - d * (x.headD 0 * x.headD 0)) ?_ ?_ a b x h1 h2
  · intro a x; simp only [setHead, Q, List.headD_cons]; ring
  · intro a a' as b bs x x' xs _ _ _; simp only [setHead, Q, List.headD_cons]; ring

theorem Q_shift_first (a d : K) : ∀ (as bs : List K) (x : K) (xs : List K),
    bs.length = as.length → xs.length = as.length →
    Q ((a + d) :: as) bs (x :: xs) = Q (a :: as) bs (x :: xs) + d * x * x := by
  intro as bs x xs hb hx
  have := Q_setHead_sub (-d) (a :: as) bs (x :: xs) (by simp [hx]) (by simp [hb])
  simp only [setHead, sub_neg_eq_add, List.headD_cons] at this
  rw [this]; ring

theorem Q_zero_tail (a : K) : ∀ (as bs : List K) (xs : List K), bs.length = as.length →
    xs.length = as.length → allZero xs → ∀ x, Q (a :: as) bs (x :: xs) = a * x * x := by
  intro as bs xs hb hx hz x
  refine tri_induction (motive := fun a b x => allZero x.tail → Q a b x = a.headD 0 * x.headD 0 * x.headD 0)
    ?_ ?_ (a :: as) bs (x :: xs) (by simp [hx]) (by simp [hb]) hz
  · intro a x _; rfl
  · intro a a' as b bs x x' xs _ _ ih hz
    obtain ⟨rfl, hz⟩ := hz
    simp [Q, ih hz]

theorem zeros_exist : ∀ n : Nat, ∃ z : List K, z.length = n ∧ allZero z
  | 0 => ⟨[], rfl, trivial⟩
  | n + 1 => by obtain ⟨z, h1, h2⟩ := zeros_exist n; exact ⟨0 :: z, by simp [h1], ⟨rfl, h2⟩⟩

end Form

section Ordered
variable {K : Type} [Field K] [LinearOrder K] [IsStrictOrderedRing K]

/-- positive definiteness on vectors of the right length -/
def SPD (a b : List K) : Prop := ∀ x : List K, x.length = a.length → ¬ allZero x → 0 < Q a b x

def pivotsPos : List K → List K → Prop
  | [a], [] => 0 < a
  | a :: a' :: as, b :: bs => 0 < a ∧ pivotsPos ((a' - b / a * (b / a) * a) :: as) bs
  | _, _ => False

omit [IsStrictOrderedRing K] in
theorem pivotsPos_pivotsOK (a b : List K) (h : b.length + 1 = a.length) (hp : pivotsPos a b) :
    pivotsOK a b :=
  (pivotsOK_iff_factor a b h).2 fun d hd => ne_of_gt <|
    (pivots_iff_factor (fun _ => Iff.rfl) (fun _ _ _ _ _ => Iff.rfl) a b h).1 hp d hd

theorem spd_pivots : ∀ (a b : List K), b.length + 1 = a.length → SPD a b → pivotsPos a b := by
  intro a b hl h
  refine duo_induction (motive := fun a b => SPD a b → pivotsPos a b) ?_ ?_ a b hl h
  · intro a h
    simpa [Q, pivotsPos] using h [1] rfl (by simp [allZero])
  · intro a a' as b bs hbl ih h
    -- a > 0 : test with e₀
    have ha : 0 < a := by
      obtain ⟨z, hz1, hz2⟩ := zeros_exist (K := K) (as.length + 1)
      have := h (1 :: z) (by simp [hz1]) (by simp [allZero])
      rwa [Q_zero_tail a (a' :: as) (b :: bs) z (by simpa using hbl) hz1 hz2 1, mul_one, mul_one] at this
    refine ⟨ha, ih _ ?_⟩
    -- the Schur complement form at `x` is the full form at `(-l x₀) :: x`
    intro xs hxs hnz
    cases xs with
    | nil => simp at hxs
    | cons x' xs =>
        have hx : xs.length = as.length := by simpa using hxs
        have key := h ((-(b / a) * x') :: x' :: xs) (by simp [hx]) fun hz => hnz hz.2
        have e := Q_setHead_sub (b / a * (b / a) * a) (a' :: as) bs (x' :: xs) (by simp [hx]) (by simp [hbl])
        rw [show setHead (a' :: as) _ = (a' - b / a * (b / a) * a) :: as from rfl] at e
        rw [e]
        have : Q (a :: a' :: as) (b :: bs) ((-(b / a) * x') :: x' :: xs)
            = Q (a' :: as) bs (x' :: xs) - b / a * (b / a) * a * (x' * x') := by
          simp only [Q]; field_simp; ring
        rwa [this] at key

end Ordered
end Tridiag
