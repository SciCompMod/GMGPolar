import GMGProofs.Lemmas.ConcreteOps
/-!
# Translation invariance of the concrete cycles, and the coarse-grid correction at operator level
If `A₀ w = g` on the grid of level 0 (and `A₁ (inject w) = g₁` on the grid of level 1 for the extrapolated cycle), then on level 0
* both smoothers map `(x + w, f + g)` to `y + w` when they map `(x, f)` to `y` (`SweepLaw.shift_arr`);
* the residual arrays of `(f + g, x + w)` and `(f, x)` are EQUAL, so the coarse problem is the same one;
* `(x + w) += e` is `(x += e) + w`;
hence (`MGCycle.twoGrid_rel`) one cycle of the concrete model commutes with the shift.

`ops_correction`, `ops_fmg_correction`: when `u += P (solve₁ b)` resp. `fmgInterp₁ (solve₁ b)` returned `some y`, the coarse solve
returned a vector `e` of the size of level 1 that satisfies the coarse system with the right-hand side `b` the CODE holds.
-/
namespace Concrete
open Stencil Scalar MGCycle Smoother

section AnyField
variable {K : Type} [_root_.Field K]

/-- the iterate `x'` is the iterate `x` (present, of the size of level 0) shifted by `w` -/
def Shift (H : Hier K) (w : Array K) (x x' : Option (Array K)) : Prop :=
  ∃ a, x = some a ∧ a.size = (lvl H 0).op.nr * (lvl H 0).op.nt ∧ x' = some (addArr a w)

theorem ops_resid_shift (H : Hier K) (h01 : (lvl H 0).op.bc = true ∨ 2 ≤ (lvl H 0).op.nr) (f g w : Array K)
    (hf : (lvl H 0).op.nr * (lvl H 0).op.nt ≤ f.size) (hAw : Solves H 0 g w)
    (x x' : Option (Array K)) (h : Shift H w x x') :
    (ops H).resid 0 (some (addArr f g)) x' = (ops H).resid 0 (some f) x := by
  obtain ⟨a, rfl, ha, rfl⟩ := h
  refine congrArg some (ofField_congr _ _ _ _ fun i j hi hj => ?_)
  exact take_shift (lvl H 0).op h01 (fld H 0 f) (fld H 0 g) (fld H 0 a) (fld H 0 w) _ _ i j hi hj
    (fld_addArr_grid _ _ f g hf i j hi hj) (fun p q hp hq => fld_addArr_grid _ _ a w (Nat.le_of_eq ha.symm) p q hp hq) (hAw i j hi hj)

/-- the level-1 residual of the injected iterate does not see the shift.  `hinj`: the injection reads `x + w` from an ARRAY of
    the size of level 0 — a coarse node whose fine counterpart lies off that array reads `0`, not the entry of `w` -/
theorem ops_resid_inject_shift (H : Hier K) (h01 : (lvl H 1).op.bc = true ∨ 2 ≤ (lvl H 1).op.nr) (f1 g1 w : Array K)
    (hf1 : (lvl H 1).op.nr * (lvl H 1).op.nt ≤ f1.size)
    (hinj : ∀ p q, p < (lvl H 1).op.nr → q < (lvl H 1).op.nt →
      2 * p * (lvl H 0).op.nt + 2 * q < (lvl H 0).op.nr * (lvl H 0).op.nt ∨ w.getD (2 * p * (lvl H 0).op.nt + 2 * q) 0 = 0)
    (hAw1 : InjSolves H g1 w) (a : Array K) (ha : a.size = (lvl H 0).op.nr * (lvl H 0).op.nt) :
    (ops H).resid 1 (some (addArr f1 g1)) ((ops H).inject 0 (some (addArr a w))) =
      (ops H).resid 1 (some f1) ((ops H).inject 0 (some a)) := by
  rw [ops_inject_some, ops_inject_some]
  refine congrArg some (ofField_congr _ _ _ _ fun i j hi hj => ?_)
  refine take_shift (lvl H 1).op h01 (fld H 1 f1) (fld H 1 g1) _ (Interp.inject (fld H 0 w)) _ _ i j hi hj
    (fld_addArr_grid _ _ f1 g1 hf1 i j hi hj) (fun p q hp hq => ?_) (hAw1 i j hi hj)
  simp only [Nat.zero_add]
  rw [fld_ofFld_grid H 1 _ p q hp hq, fld_ofFld_grid H 1 _ p q hp hq]
  unfold Interp.inject fld ntOf
  rw [fld_eq, fld_eq, fld_eq, getD_addArr]
  split
  · rfl
  · rename_i hlt
    simp only [(hinj p q hp hq).resolve_left (by rw [← ha]; exact hlt), add_zero]

theorem ops_corr_shift (H : Hier K) (w : Array K) {x x' e e' : Option (Array K)} (h : Shift H w x x') (he : e' = e)
    (hb : ∃ b, e = some b) : Shift H w ((ops H).add x e) ((ops H).add x' e') := by
  obtain ⟨a, rfl, ha, rfl⟩ := h
  obtain ⟨b, rfl⟩ := hb
  subst he
  refine ⟨addArr a b, ops_add_some H a b, by rw [addArr_size, ha], ?_⟩
  rw [ops_add_some, addArr_comm_right]

theorem ops_sm_shift (H : Hier K) {sw : Stencil.Field K → Array K → Option (Array K)}
    {Is : Stencil.Field K → Stencil.Field K → Stencil.Field K → Prop} {R : Nat → Nat → Prop}
    (S : SweepLaw (lvl H 0).op sw Is R) (f g w : Array K) (hf : (lvl H 0).op.nr * (lvl H 0).op.nt ≤ f.size)
    (hAw : Solves H 0 g w) (x x' : Option (Array K)) (h : Shift H w x x') :
    Shift H w (x.bind (sw (fld H 0 f))) (x'.bind (sw (fld H 0 (addArr f g)))) := by
  obtain ⟨a, rfl, ha, rfl⟩ := h
  obtain ⟨y, hy⟩ := S.total (fld H 0 f) a
  exact ⟨y, hy, (S.size _ _ _ hy).trans ha, S.shift_arr (fld H 0 f) (fld H 0 g) _
    (fun i j hi hj => fld_addArr_grid _ _ f g hf i j hi hj) a w y ha (fun i j hi hj _ => hAw i j hi hj) hy⟩

end AnyField

section Ordered
variable {K : Type} [_root_.Field K] [LinearOrder K] [IsStrictOrderedRing K]

/-- **one cycle of the concrete model (any depth, V/W/F, any smoothing counts) commutes with the shift** -/
theorem cyc_translate (H : Hier K) (L nu1 nu2 : Nat) (hL : 2 ≤ L) (k : Kind)
    (h0 : LevelHyp (lvl H 0)) (hbc : ∀ l, l + 1 < L → (lvl H l).op.bc = true) (ht1 : H.tiny 1 = false)
    (hc : CoarseOK H (L - 1)) (f g w : Array K) (hf : (lvl H 0).op.nr * (lvl H 0).op.nt ≤ f.size) (hAw : Solves H 0 g w)
    (x x' : Option (Array K)) (h : Shift H w x x') :
    Shift H w (cyc (ops H) ⟨L, nu1, nu2⟩ k (L - 1) 0 x (some f))
      (cyc (ops H) ⟨L, nu1, nu2⟩ k (L - 1) 0 x' (some (addArr f g))) := by
  have I := opsInvL H L nu1 nu2 hbc ht1 hc
  obtain ⟨n, rfl⟩ : ∃ n, L = n + 2 := ⟨L - 2, by omega⟩
  show Shift H w (cyc (ops H) ⟨n + 2, nu1, nu2⟩ k (n + 1) 0 x (some f))
      (cyc (ops H) ⟨n + 2, nu1, nu2⟩ k (n + 1) 0 x' (some (addArr f g)))
  rw [cyc_succ_twoGrid, cyc_succ_twoGrid]
  refine twoGrid_rel (ops_sm_shift H (sweepLaw (lvl H 0) h0 H.tiny ht1) f g w hf hAw) (fun y y' hy => ops_corr_shift H w hy
    (by rw [ops_resid_shift H (Or.inl h0.2.2.2.2.1) f g w hf hAw y y' hy]) ?_) _ _ h
  -- the correction is present: the coarse part maps a present right-hand side to a present vector
  obtain ⟨a, rfl, ha, _⟩ := hy
  obtain ⟨e, he, _⟩ := coarseOrSolve_inv I n k (show 0 + 1 ≤ n + 2 - 1 by omega)
    (I.resid_restrict 0 (some f) (some a) (show 0 < n + 2 - 1 by omega) ⟨f, rfl, fun h => by omega⟩ ⟨a, rfl, ha⟩)
  exact ⟨_, by rw [he]; rfl⟩

/-- **one implicitly extrapolated cycle of the concrete model (any depth, V/W/F, any smoothing counts, either level-0 smoother)
    commutes with the shift** -/
theorem excyc_translate (H : Hier K) (L nu1 nu2 : Nat) (hL : 2 ≤ L) (k : Kind) (fgs : Bool)
    (h0 : LevelHyp (lvl H 0)) (hodd : fgs = false → (lvl H 0).op.nr % 2 = 1)
    (hbc : ∀ l, l + 1 < L → (lvl H l).op.bc = true) (ht1 : H.tiny 1 = false)
    (h01 : (lvl H 1).op.bc = true ∨ 2 ≤ (lvl H 1).op.nr) (hc : CoarseOK H (L - 1))
    (f g f1 g1 w : Array K) (hf : (lvl H 0).op.nr * (lvl H 0).op.nt ≤ f.size)
    (hf1 : (lvl H 1).op.nr * (lvl H 1).op.nt ≤ f1.size)
    (hinj : ∀ p q, p < (lvl H 1).op.nr → q < (lvl H 1).op.nt →
      2 * p * (lvl H 0).op.nt + 2 * q < (lvl H 0).op.nr * (lvl H 0).op.nt ∨ w.getD (2 * p * (lvl H 0).op.nt + 2 * q) 0 = 0)
    (hAw : Solves H 0 g w) (hAw1 : InjSolves H g1 w) (x x' : Option (Array K)) (h : Shift H w x x') :
    Shift H w (excyc (ops H) ⟨L, nu1, nu2⟩ k fgs x (some f) (some f1))
      (excyc (ops H) ⟨L, nu1, nu2⟩ k fgs x' (some (addArr f g)) (some (addArr f1 g1))) := by
  have I := opsInvL H L nu1 nu2 hbc ht1 hc
  have EI := exOpsInvU H L fgs (hbc 0 (by omega)) ht1
  have hsm : ∀ y y', Shift H w y y' →
      Shift H w (exSmF (ops H) fgs (some f) y) (exSmF (ops H) fgs (some (addArr f g)) y') := by
    cases fgs
    · exact ops_sm_shift H (exSweepLaw (lvl H 0) h0 (hodd rfl) H.tiny ht1) f g w hf hAw
    · exact ops_sm_shift H (sweepLaw (lvl H 0) h0 H.tiny ht1) f g w hf hAw
  rw [excyc_twoGrid, excyc_twoGrid]
  refine twoGrid_rel hsm (fun y y' hy => ops_corr_shift H w hy ?_ ?_) _ _ h
  · unfold exRhs
    rw [ops_resid_shift H (Or.inl h0.2.2.2.2.1) f g w hf hAw y y' hy]
    obtain ⟨a, rfl, ha, rfl⟩ := hy
    rw [ops_resid_inject_shift H h01 f1 g1 w hf1 hinj hAw1 a ha]
  · obtain ⟨a, rfl, ha, _⟩ := hy
    obtain ⟨e, he, _⟩ := coarseOrSolve_inv I (L - 2) k (show 1 ≤ L - 1 by omega)
      (EI.exRhs (some f) (some f1) (some a) ⟨f, rfl, fun h => by omega⟩ ⟨f1, rfl⟩ ⟨a, rfl, ha⟩)
    exact ⟨_, by rw [he]; rfl⟩

theorem ops_solve_solves (H : Hier K) (l : Nat) (b e : Array K) (htab : H.tables = C04c.genTables)
    (hnr : 4 ≤ (lvl H l).op.nr) (hnt : 4 ≤ (lvl H l).op.nt) (heven : (lvl H l).op.nt % 2 = 0)
    (hbc : (lvl H l).op.bc = true) (he : Elliptic (lvl H l).op) (hb : b.size = (lvl H l).op.nr * (lvl H l).op.nt)
    (hs : (ops H).solve l (some b) = some e) : e.size = (lvl H l).op.nr * (lvl H l).op.nt ∧ Solves H l b e := by
  obtain ⟨xs, hxs, rfl, hlen⟩ := ops_solve_eq_some H l b e hs
  refine ⟨by rw [List.size_toArray, hlen, hb], fun I J hI hJ => ?_⟩
  rw [htab] at hxs
  have h := C04c.code_solve_inverts_dirichlet (lvl H l).op hnr hnt heven hbc he H.tiny b.toList xs
    (by rw [Array.length_toList, hb]) hxs I J hI hJ
  rwa [vget_toList, vget_toArray] at h

/-- `u += P (solve₁ b)` returned `some y`: the coarse solve returned a vector `e` of the size of level 1 that satisfies the coarse
    system with the right-hand side `b`, and `y = u + P e` on the fine grid -/
theorem ops_correction (H : Hier K) (u b y : Array K) (htab : H.tables = C04c.genTables)
    (hnr1 : 4 ≤ (lvl H 1).op.nr) (hnt1 : 4 ≤ (lvl H 1).op.nt) (heven1 : (lvl H 1).op.nt % 2 = 0)
    (hbc1 : (lvl H 1).op.bc = true) (he1 : Elliptic (lvl H 1).op)
    (hu : u.size = (lvl H 0).op.nr * (lvl H 0).op.nt) (hb : b.size = (lvl H 1).op.nr * (lvl H 1).op.nt)
    (hy : (ops H).add (some u) ((ops H).prolong 1 ((ops H).solve 1 (some b))) = some y) :
    ∃ e : Array K, e.size = (lvl H 1).op.nr * (lvl H 1).op.nt ∧ Solves H 1 b e ∧
      ∀ i j, i < (lvl H 0).op.nr → j < (lvl H 0).op.nt →
        fld H 0 y i j = fld H 0 u i j + Interp.prolong (pair H 0) (fld H 1 e) i j := by
  cases hs : (ops H).solve 1 (some b) with
  | none => rw [hs] at hy; cases hy
  | some e =>
    obtain ⟨h1, h2⟩ := ops_solve_solves H 1 b e htab hnr1 hnt1 heven1 hbc1 he1 hb hs
    rw [hs] at hy
    obtain rfl : addArr u (ofFld H 0 (Interp.prolong (pair H 0) (fld H (0 + 1) e))) = y :=
      Option.some.inj ((ops_add_some H u _).symm.trans hy)
    refine ⟨e, h1, h2, fun i j hi hj => ?_⟩
    unfold fld
    rw [fld_addArr_grid (nrOf H 0) (ntOf H 0) u _ (Nat.le_of_eq hu.symm) i j hi hj]
    congr 1
    exact fld_ofFld_grid H 0 _ i j hi hj

/-- `fmgInterp₁ (solve₁ f₁)` returned `some y`: the same, and `y` is the array of the FMG interpolation of `e` -/
theorem ops_fmg_correction (H : Hier K) (f1 y : Array K) (htab : H.tables = C04c.genTables)
    (hnr1 : 4 ≤ (lvl H 1).op.nr) (hnt1 : 4 ≤ (lvl H 1).op.nt) (heven1 : (lvl H 1).op.nt % 2 = 0)
    (hbc1 : (lvl H 1).op.bc = true) (he1 : Elliptic (lvl H 1).op) (hf1 : f1.size = (lvl H 1).op.nr * (lvl H 1).op.nt)
    (hy : (ops H).fmgInterp 1 ((ops H).solve 1 (some f1)) = some y) :
    ∃ e : Array K, e.size = (lvl H 1).op.nr * (lvl H 1).op.nt ∧ Solves H 1 f1 e ∧
      y = ofFld H 0 (Interp.fmgInterp (pair H 0) (fld H 1 e)) := by
  cases hs : (ops H).solve 1 (some f1) with
  | none => rw [hs] at hy; cases hy
  | some e =>
    obtain ⟨h1, h2⟩ := ops_solve_solves H 1 f1 e htab hnr1 hnt1 heven1 hbc1 he1 hf1 hs
    rw [hs] at hy
    exact ⟨e, h1, h2, (Option.some.inj hy).symm⟩

end Ordered
end Concrete
