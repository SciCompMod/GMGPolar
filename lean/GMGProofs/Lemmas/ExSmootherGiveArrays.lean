import GMGProofs.Lemmas.ExSmootherGiveDiag
import GMGProofs.Lemmas.ExSmootherGiveOff
/-!
# Code-level extrapolated smoother (give): every stored array equals the gather assembly's

Under `Admissible` the scatter assembly is in bounds, and array by array the values it accumulates are those the gather
assembly stores.  For the CSR matrix of the innermost circle this holds row by row, column indices and storage order
included, which needs that every allocated slot receives at least one store.
-/
namespace ExSmootherGiveCode
open Stencil SparseLU SmootherCode Scalar Finset GiveCommon
open DirectCode (Pos)
open DirectGiveCode (massValue diagValue nodeOrder)
open ExSmootherCode (innerNnz)
variable {K : Type} [_root_.Field K]

/-- admissible shapes: the header's tables, at least three circles and three radial nodes (asserted by the C++), `nr` odd,
    `nt` even and at least 4; across the origin `nt` divisible by 4 (asserted by the C++: otherwise the `Left` store of an odd
    node goes to the one-slot row of its even antipode) and antipodally symmetric angular spacing -/
structure Admissible (T : Tables) (o : Op K) (nc : Nat) : Prop where
  tables : GoodTables T
  hnc : 3 ≤ nc
  hnr : nc + 3 ≤ o.nr
  hodd : o.nr % 2 = 1
  hnt : 4 ≤ o.nt
  heven : o.nt % 2 = 0
  h4 : o.bc = false → o.nt % 4 = 0
  hk : o.bc = false → ∀ j, j < o.nt → o.k (ja o j) = o.k j

section
variable (T : Tables) (o : Op K) (nc : Nat)

theorem assemble_values (A : Admissible T o nc) :
    ∃ mf, assemble T o nc = some mf ∧ (∀ a, (mf a).length = alloc o nc a) ∧
      (∀ a q, ((mf a).getD q (0, Scalar.n 0)).2 = slotSum o nc (allUpdates T o nc) a q) ∧
      ∀ a q, (mf a).getD q (0, Scalar.n 0)
        = Scatter.cellFold (Hits o nc a q) Upd.col Upd.val (0, Scalar.n 0) (allUpdates T o nc) := by
  obtain ⟨mf, h1, h2, h3⟩ := assemble_spec T o nc A.tables A.hnc A.hnr (by have := A.hnt; omega) A.heven A.h4
  refine ⟨mf, h1, h2, fun a q => ?_, h3⟩
  rw [h3, Scatter.cellFold_snd, slotSum_eq_total]
  show Scalar.n 0 + _ = _
  rw [Scalar.n_zero, zero_add]

theorem diag_slot (A : Admissible T o nc) {a : Arr} {q x y : Nat} (hd : diagNode nc a q = some (x, y))
    (hq : q < alloc o nc a) (hx : x < o.nr) (hy : y < o.nt) :
    slotSum o nc (allUpdates T o nc) a q = expD o x y := by
  have hnt := A.hnt
  rw [slotSum_diag T o nc A.tables A.hnc A.hnr (by omega) A.heven A.h4 hd hq,
    dsum_all T o nc A.tables A.hnc A.hnr A.hodd (by omega) A.heven x y hx hy]
  exact diag_value o (by have := A.hnc; have := A.hnr; omega) (by omega) A.heven A.h4 A.hk x y hx hy

theorem vals_tab (m : Mem K) (a : Arr) (n : Nat) (F : Nat → K) (hl : (m a).length = n)
    (hv : ∀ q, q < n → ((m a).getD q (0, Scalar.n 0)).2 = F q) :
    vals m a = (List.range n).map F := by
  rw [vals_eq, hl]
  apply List.map_congr_left
  intro q hq
  exact hv q (List.mem_range.mp hq)

variable (mf : Mem K) (A : Admissible T o nc)
include A

theorem off_slot {a : Arr} {q : Nat} {e : Nat × Nat × Nat × Nat} (hd : offEntry o nc a q = some e)
    (hq : q < alloc o nc a) : slotSum o nc (allUpdates T o nc) a q = osum o nc (allUpdates T o nc) e := by
  have hnt := A.hnt
  exact slotSum_off T o nc A.tables A.hnc A.hnr (by omega) A.heven A.h4 hd hq

variable (hl : ∀ a, (mf a).length = alloc o nc a)
  (hv : ∀ a q, ((mf a).getD q (0, Scalar.n 0)).2 = slotSum o nc (allUpdates T o nc) a q)
include hl hv

/-- `main_diagonal` of the odd circles -/
theorem vals_ctMain (i : Nat) (hinc : i < nc) (hio : i % 2 = 1) :
    vals mf (.ctMain (i / 2)) = ExSmootherCode.circleTriMain o i := by
  have hnr := A.hnr
  unfold ExSmootherCode.circleTriMain
  apply vals_tab mf _ o.nt _ (by rw [hl]; simp only [alloc]; rw [if_pos (by omega)])
  intro q hq
  rw [hv, diag_slot T o nc A (a := .ctMain (i / 2)) (q := q) (x := i) (y := q)
    (by simp only [diagNode]; congr 2; omega) (by simp only [alloc]; rw [if_pos (by omega)]; exact hq) (by omega) hq]
  unfold expD
  rw [if_neg (by omega), if_neg (by omega), if_neg (by omega)]

/-- `diagonal` of the even circles -/
theorem vals_cd (i : Nat) (hi0 : 0 < i) (hinc : i < nc) (hio : ¬ i % 2 = 1) :
    vals mf (.cd (i / 2)) = ExSmootherCode.circleDiag o i := by
  have hnr := A.hnr
  unfold ExSmootherCode.circleDiag
  apply vals_tab mf _ o.nt _ (by rw [hl]; simp only [alloc]; rw [if_pos (by omega)])
  intro q hq
  rw [hv, diag_slot T o nc A (a := .cd (i / 2)) (q := q) (x := i) (y := q)
    (by simp only [diagNode]; congr 2; omega) (by simp only [alloc]; rw [if_pos (by omega)]; exact hq) (by omega) hq]
  unfold expD
  by_cases hqo : q % 2 = 1
  · rw [if_neg (by omega), if_pos hqo, if_neg (by omega), if_neg (by omega)]
  · rw [if_pos (Or.inr (Or.inr ⟨hio, hqo⟩)), if_neg hqo]; simp

/-- `main_diagonal` of the odd radial lines -/
theorem vals_rtMain (j : Nat) (hj : j < o.nt) (hjo : j % 2 = 1) :
    vals mf (.rtMain (j / 2)) = ExSmootherCode.radialTriMain o nc j := by
  have hnr := A.hnr
  have hnc := A.hnc
  have heven := A.heven
  unfold ExSmootherCode.radialTriMain
  apply vals_tab mf _ (o.nr - nc) _ (by rw [hl]; simp only [alloc]; rw [if_pos (by omega)])
  intro t ht
  rw [hv, diag_slot T o nc A (a := .rtMain (j / 2)) (q := t) (x := nc + t) (y := j)
    (by simp only [diagNode]; congr 2; omega) (by simp only [alloc]; rw [if_pos (by omega)]; exact ht) (by omega) hj]
  unfold expD
  simp only []
  by_cases h1 : nc + t + 1 = o.nr
  · rw [if_pos (Or.inl h1), if_neg (by omega), if_neg (by omega), if_neg (by omega), if_pos h1]; simp
  · rw [if_neg (by omega), if_neg (by omega), if_neg (by omega)]
    by_cases h2 : nc < nc + t ∧ nc + t + 2 < o.nr
    · rw [if_pos h2]
    · rw [if_neg h2]
      by_cases h3 : nc + t = nc
      · rw [if_pos h3]
      · rw [if_neg h3, if_pos (by omega)]

/-- `diagonal` of the even radial lines -/
theorem vals_rd (j : Nat) (hj : j < o.nt) (hjo : ¬ j % 2 = 1) :
    vals mf (.rd (j / 2)) = ExSmootherCode.radialDiag o nc j := by
  have hnr := A.hnr
  have hnc := A.hnc
  have heven := A.heven
  have hodd := A.hodd
  unfold ExSmootherCode.radialDiag
  apply vals_tab mf _ (o.nr - nc) _ (by rw [hl]; simp only [alloc]; rw [if_pos (by omega)])
  intro t ht
  rw [hv, diag_slot T o nc A (a := .rd (j / 2)) (q := t) (x := nc + t) (y := j)
    (by simp only [diagNode]; congr 2; omega) (by simp only [alloc]; rw [if_pos (by omega)]; exact ht) (by omega) hj]
  unfold expD
  simp only []
  by_cases h1 : nc + t + 1 = o.nr
  · rw [if_pos (Or.inl h1), if_neg (by omega), if_neg (by omega), if_neg (by omega), if_pos h1]; simp
  · by_cases hto : (nc + t) % 2 = 1
    · rw [if_neg (by omega), if_neg (by omega), if_neg (by omega)]
      by_cases h2 : nc < nc + t ∧ nc + t + 2 < o.nr
      · rw [if_pos h2, if_pos hto]
      · rw [if_neg h2]
        by_cases h3 : nc + t = nc
        · rw [if_pos h3, if_pos hto]
        · rw [if_neg h3, if_pos (by omega)]
    · rw [if_pos (Or.inr (Or.inr ⟨hto, hjo⟩))]
      by_cases h2 : nc < nc + t ∧ nc + t + 2 < o.nr
      · rw [if_pos h2, if_neg hto]; simp
      · rw [if_neg h2]
        by_cases h3 : nc + t = nc
        · rw [if_pos h3, if_neg hto]; simp
        · exfalso; omega

/-- `sub_diagonal` of the odd circles -/
theorem vals_ctSub (i : Nat) (hi0 : 0 < i) (hinc : i < nc) (hio : i % 2 = 1) :
    vals mf (.ctSub (i / 2)) = ExSmootherCode.circleTriSub o i := by
  have hnr := A.hnr
  have hnt := A.hnt
  unfold ExSmootherCode.circleTriSub
  apply vals_tab mf _ (o.nt - 1) _ (by rw [hl]; simp only [alloc]; rw [if_pos (by omega)])
  intro q hq
  have hI : 2 * (i / 2) + 1 = i := by omega
  rw [hv, off_slot T o nc A (a := .ctSub (i / 2)) (q := q) (e := (i, q, i, q + 1))
    (by simp only [offEntry, hI]) (by simp only [alloc]; rw [if_pos (by omega)]; exact hq),
    osum_ctSub T o nc A.tables A.hnc A.hnr A.hodd (by omega) i q hi0 hinc hio (by omega)]
  have e1 : jp o q = q + 1 := by rw [jp_eq o (by omega)]; rw [if_neg (by omega)]
  have e2 : jm o (q + 1) = q := by rw [jm_eq o (by omega)]; rw [if_neg (by omega)]; omega
  unfold topValue coeff3 coeff4
  rw [e1, e2]
  ring

omit hl in
/-- `cyclic_corner_element()` of the odd circles -/
theorem corner_ct (i : Nat) (hi0 : 0 < i) (hinc : i < nc) (hio : i % 2 = 1) :
    ((mf (.ctCorner (i / 2))).getD 0 (0, Scalar.n 0)).2 = ExSmootherCode.circleTriCorner o i := by
  have hnr := A.hnr
  have hnt := A.hnt
  have hI : 2 * (i / 2) + 1 = i := by omega
  rw [hv, off_slot T o nc A (a := .ctCorner (i / 2)) (q := 0) (e := (i, 0, i, o.nt - 1))
    (by simp only [offEntry, hI]) (by simp only [alloc]; rw [if_pos (by omega)]; omega),
    osum_ctCorner T o nc A.tables A.hnc A.hnr A.hodd (by omega) i hi0 hinc hio]
  have e1 : jm o 0 = o.nt - 1 := by rw [jm_eq o (by omega)]; rw [if_pos rfl]
  unfold ExSmootherCode.circleTriCorner bottomValue coeff3 coeff4
  rw [e1]
  ring

/-- `sub_diagonal` of the odd radial lines (the entry next to the outer boundary stays `0.0`) -/
theorem vals_rtSub (j : Nat) (hj : j < o.nt) (hjo : j % 2 = 1) :
    vals mf (.rtSub (j / 2)) = ExSmootherCode.radialTriSub o nc j := by
  have hnr := A.hnr
  have hnt := A.hnt
  have heven := A.heven
  unfold ExSmootherCode.radialTriSub
  apply vals_tab mf _ (o.nr - nc - 1) _ (by rw [hl]; simp only [alloc]; rw [if_pos (by omega)])
  intro t ht
  have hJ : 2 * (j / 2) + 1 = j := by omega
  rw [hv, off_slot T o nc A (a := .rtSub (j / 2)) (q := t) (e := (nc + t, j, nc + t + 1, j))
    (by simp only [offEntry, hJ]) (by simp only [alloc]; rw [if_pos (by omega)]; exact ht),
    osum_rtSub T o nc A.tables A.hnc A.hnr A.hodd (by omega) (nc + t) j (by omega) (by omega) hj hjo]
  simp only []
  by_cases h : nc + t + 2 < o.nr
  · rw [if_pos h, coeff1_succ]
    by_cases h2 : nc < nc + t ∧ nc + t + 2 < o.nr
    · rw [if_pos h2]; unfold rightValue; ring
    · rw [if_neg h2, if_pos (by omega)]; unfold rightValue; ring
  · rw [if_neg h, if_neg (by omega), if_neg (by omega), if_pos (by omega)]; simp

omit hl in
/-- the corner member of the radial solvers keeps its initial `0.0` -/
theorem corner_rt (j : Nat) (hj : j < o.nt) (hjo : j % 2 = 1) :
    ((mf (.rtCorner (j / 2))).getD 0 (0, Scalar.n 0)).2 = Scalar.n 0 := by
  have hnt := A.hnt
  have heven := A.heven
  have hJ : 2 * (j / 2) + 1 = j := by omega
  rw [hv, off_slot T o nc A (a := .rtCorner (j / 2)) (q := 0) (e := (nc, j, o.nr - 1, j))
    (by simp only [offEntry, hJ]) (by simp only [alloc]; rw [if_pos (by omega)]; omega),
    osum_rtCorner T o nc A.tables A.hnc A.hnr A.hodd (by omega) j]
  simp

theorem circleTriSolver_eq (i : Nat) (hi0 : 0 < i) (hinc : i < nc) (hio : i % 2 = 1) :
    circleTriSolver mf i = ExSmootherCode.circleTriSolver o i := by
  unfold circleTriSolver ExSmootherCode.circleTriSolver
  rw [vals_ctMain T o nc mf A hl hv i hinc hio, vals_ctSub T o nc mf A hl hv i hi0 hinc hio,
    corner_ct T o nc mf A hv i hi0 hinc hio]

theorem radialTriSolver_eq (j : Nat) (hj : j < o.nt) (hjo : j % 2 = 1) :
    radialTriSolver mf j = ExSmootherCode.radialTriSolver o nc j := by
  unfold radialTriSolver ExSmootherCode.radialTriSolver
  rw [vals_rtMain T o nc mf A hl hv j hj hjo, vals_rtSub T o nc mf A hl hv j hj hjo,
    corner_rt T o nc mf A hv j hj hjo]

end

section
variable (T : Tables) (o : Op K) (nc : Nat)

/-- every node of the innermost circle stores on its own `Center` slot -/
theorem inner_hit0 (hT : GoodTables T) (hnc : 3 ≤ nc) (hnr : nc + 3 ≤ o.nr) (r : Nat) (hr : r < o.nt) :
    ∃ u ∈ allUpdates T o nc, target o nc u = .slot (.inner r) 0 := by
  have hmem : (0, r) ∈ nodeOrder o nc := DirectGiveCode.mem_nodeOrder o nc (by omega) hr
  have key : ∃ u ∈ nodeUpdates T o nc 0 r, target o nc u = .slot (.inner r) 0 := by
    rw [nodeUpdates_zero T o nc r hnc, off_center T o hT]
    split_ifs <;> exact ⟨_, List.mem_cons_self, rfl⟩
  obtain ⟨u, hu, ht⟩ := key
  exact ⟨u, List.mem_flatMap.mpr ⟨(0, r), hmem, hu⟩, ht⟩

/-- across the origin every odd node of the innermost circle stores on its own `Left` slot -/
theorem inner_hit1 (hT : GoodTables T) (hnc : 3 ≤ nc) (hnr : nc + 3 ≤ o.nr) (hb : o.bc = false) (r : Nat)
    (hr : r < o.nt) (hro : r % 2 = 1) : ∃ u ∈ allUpdates T o nc, target o nc u = .slot (.inner r) 1 := by
  have hmem : (0, r) ∈ nodeOrder o nc := DirectGiveCode.mem_nodeOrder o nc (by omega) hr
  have key : ∃ u ∈ nodeUpdates T o nc 0 r, target o nc u = .slot (.inner r) 1 := by
    rw [nodeUpdates_zero T o nc r hnc, hb, if_neg nofun, if_pos hro, off_left T o hT r hro hb]
    exact ⟨_, List.mem_cons_of_mem _ List.mem_cons_self, rfl⟩
  obtain ⟨u, hu, ht⟩ := key
  exact ⟨u, List.mem_flatMap.mpr ⟨(0, r), hmem, hu⟩, ht⟩

variable (mf : Mem K) (A : Admissible T o nc)
  (hl : ∀ a, (mf a).length = alloc o nc a)
  (hv : ∀ a q, ((mf a).getD q (0, Scalar.n 0)).2 = slotSum o nc (allUpdates T o nc) a q)
  (hf : ∀ a q, (mf a).getD q (0, Scalar.n 0)
    = Scatter.cellFold (Hits o nc a q) Upd.col Upd.val (0, Scalar.n 0) (allUpdates T o nc))

include A hl hv hf

omit hl hv in
theorem inner_col (r q : Nat) (hr : r < o.nt) (hq : q < innerNnz o r) :
    ((mf (.inner r)).getD q (0, Scalar.n 0)).1 = if q = 0 then r else ja o r := by
  have hnt := A.hnt
  rw [hf]
  apply Scatter.cellFold_fst
  · intro u hu ht
    have hok := allUpdates_ok T o nc A.tables A.hnc A.hnr (by omega) A.heven A.h4 u hu
    unfold StoreOK at hok
    rw [ht] at hok
    exact hok.2 r rfl
  · left
    by_cases h0 : q = 0
    · subst h0
      exact inner_hit0 T o nc A.tables A.hnc A.hnr r hr
    · have hq1 : q = 1 := by
        unfold innerNnz at hq
        split_ifs at hq <;> omega
      subst hq1
      have hb : o.bc = false := by
        unfold innerNnz at hq
        cases hh : o.bc with
        | true => rw [hh] at hq; simp at hq
        | false => rfl
      have hro : r % 2 = 1 := by
        unfold innerNnz at hq
        rw [hb] at hq
        simp only [Bool.false_eq_true, if_false] at hq
        split_ifs at hq <;> omega
      exact inner_hit1 T o nc A.tables A.hnc A.hnr hb r hr hro

/-- **row `r` of the inner matrix: the gather assembly's slots (column index and value, storage order)** -/
theorem inner_row_eq (r : Nat) (hr : r < o.nt) : mf (.inner r) = ExSmootherCode.innerRow o r := by
  have hnt := A.hnt
  have hnc := A.hnc
  have hnr := A.hnr
  have hlen : (mf (.inner r)).length = innerNnz o r := by rw [hl]; simp only [alloc]; rw [if_pos hr]
  have v0 : ((mf (.inner r)).getD 0 (0, Scalar.n 0)).2 = expD o 0 r := by
    rw [hv, diag_slot T o nc A (a := .inner r) (q := 0) (x := 0) (y := r) (by simp [diagNode])
      (by
        simp only [alloc]; rw [if_pos hr]
        unfold innerNnz; split_ifs <;> omega) (by omega) hr]
  rw [DirectGiveCode.list_eq_tab (mf (.inner r)) (0, Scalar.n 0), hlen]
  unfold ExSmootherCode.innerRow
  by_cases hb : o.bc = true
  · have hn : innerNnz o r = 1 := by unfold innerNnz; rw [if_pos hb]
    rw [hn, if_pos hb]
    have c0 := inner_col T o nc mf A hf r 0 hr (by omega)
    simp only [List.range_one, List.map_cons, List.map_nil]
    congr 1
    apply Prod.ext
    · rw [c0]; simp
    · rw [v0]; unfold expD; rw [if_pos (Or.inr (Or.inl ⟨rfl, hb⟩))]; simp
  · have hb' : o.bc = false := by simpa using hb
    rw [if_neg hb]
    by_cases hro : r % 2 = 1
    · have hn : innerNnz o r = 2 := by
        unfold innerNnz; rw [if_neg hb, if_neg (by omega)]
      rw [hn, if_pos hro]
      have c0 := inner_col T o nc mf A hf r 0 hr (by omega)
      have c1 := inner_col T o nc mf A hf r 1 hr (by omega)
      have v1 : ((mf (.inner r)).getD 1 (0, Scalar.n 0)).2 = leftValue o 0 r 0 (ja o r) := by
        rw [hv, off_slot T o nc A (a := .inner r) (q := 1) (e := (0, r, 0, ja o r)) (by simp [offEntry])
          (by simp only [alloc]; rw [if_pos hr]; omega),
          osum_inner T o nc A.tables A.hnc A.hnr A.hodd (by omega) (A.h4 hb') hb' r hr hro,
          coeff1_ja o (by omega) A.heven (A.hk hb') hr]
        unfold leftValue
        ring
      have hr2 : List.range 2 = [0, 1] := by decide
      simp only [hr2, List.map_cons, List.map_nil]
      congr 1
      · apply Prod.ext
        · rw [c0]; simp
        · rw [v0]; unfold expD
          rw [if_neg (by
            rintro (h | ⟨_, h⟩ | ⟨_, h⟩)
            · omega
            · exact hb h
            · exact h hro)]
          simp
      · congr 1
        apply Prod.ext
        · rw [c1]; simp
        · rw [v1]
    · have hn : innerNnz o r = 1 := by
        unfold innerNnz; rw [if_neg hb, if_pos (by omega)]
      rw [hn, if_neg hro]
      have c0 := inner_col T o nc mf A hf r 0 hr (by omega)
      simp only [List.range_one, List.map_cons, List.map_nil]
      congr 1
      apply Prod.ext
      · rw [c0]; simp
      · rw [v0]; unfold expD; rw [if_pos (Or.inr (Or.inr ⟨by omega, hro⟩))]; simp

theorem innerCSR_eq : innerCSR o mf = ExSmootherCode.innerCSR o := by
  unfold innerCSR ExSmootherCode.innerCSR
  have hrows : (List.range o.nt).map (fun r => mf (.inner r)) = (List.range o.nt).map (ExSmootherCode.innerRow o) := by
    apply List.map_congr_left
    intro r hr
    exact inner_row_eq T o nc mf A hl hv hf r (List.mem_range.mp hr)
  simp only [hrows]

end

end ExSmootherGiveCode
