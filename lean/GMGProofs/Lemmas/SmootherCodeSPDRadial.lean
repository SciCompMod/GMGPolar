import GMGProofs.Lemmas.SmootherCodeSPD
/-!
# The quadratic form of a stored radial matrix (C06d)

The last entry of the line vector belongs to the outer Dirichlet node (identity row, coupling stored as zero):
`Q (radial matrix) xs = ⟨A e, e⟩ + xs_last²` for the field `e` carrying all but the last entry of `xs` on the line.
-/
namespace SmootherCode
open Stencil Tridiag C06c Finset
variable {K : Type} [_root_.Field K]

/-- the field carrying `xs` (without its last entry) on the nodes `nc ≤ a < nr - 1` of radial line `j` -/
def radialField (o : Op K) (nc j : Nat) (xs : List K) : Stencil.Field K :=
  withRadial nc (fun _ _ => 0) j (fun a => if a + 1 < o.nr then xs.getD (a - nc) 0 else 0)

theorem radialField_apply (o : Op K) (nc j : Nat) (xs : List K) (a b : Nat) :
    radialField o nc j xs a b = if nc ≤ a ∧ a + 1 < o.nr ∧ b = j then xs.getD (a - nc) 0 else 0 := by
  unfold radialField withRadial
  by_cases h1 : nc ≤ a <;> by_cases h2 : a + 1 < o.nr <;> by_cases h3 : b = j <;> simp [h1, h2, h3]

/-- the rows below the Dirichlet row do not see the entry of the Dirichlet node (its coupling is stored as zero) -/
theorem radialRow_trunc (o : Op K) (nc j : Nat) (xs : List K) (i : Nat) (hir : i + 1 < o.nr) :
    radialRow o nc j (fun a => if a + 1 < o.nr then xs.getD (a - nc) 0 else 0) i
      = radialRow o nc j (fun a => xs.getD (a - nc) 0) i := by
  unfold radialRow
  by_cases h2 : i + 2 = o.nr
  · simp (disch := omega) only [if_pos, if_neg]
  · simp (disch := omega) only [if_pos, if_neg]

theorem A_radialField (o : Op K) (nc j : Nat) (xs : List K) (i : Nat) (hnc : 2 ≤ nc) (hnr : nc + 3 ≤ o.nr)
    (hnt : 2 ≤ o.nt) (hi : nc ≤ i) (hir : i + 1 < o.nr) :
    A o (radialField o nc j xs) i j = radialRow o nc j (fun a => xs.getD (a - nc) 0) i := by
  unfold A radialField
  have hv : (fun a => if a + 1 < o.nr then xs.getD (a - nc) 0 else (0 : K)) (o.nr - 1)
      = (fun _ _ => (0 : K)) (o.nr - 1) j := by
    show (if o.nr - 1 + 1 < o.nr then xs.getD (o.nr - 1 - nc) 0 else (0 : K)) = 0
    rw [if_neg (by omega)]
  rw [radial_split o nc _ _ _ i j hnc hnr hnt hi (by omega) hv, orthoRadial_zero,
    radialRow_trunc o nc j xs i hir]
  ring

theorem radial_Q_eq_sum (o : Op K) (nc j : Nat) (hnc : 1 ≤ nc) (hnr : nc + 3 ≤ o.nr) (hj : j < o.nt)
    (xs : List K) (hxs : xs.length = o.nr - nc) :
    Q (radialMain o nc j) (radialSub o nc j) xs
      = ∑ t ∈ range (o.nr - nc), xs.getD t 0 * radialRow o nc j (fun a => xs.getD (a - nc) 0) (nc + t) := by
  have h := dot_mulT (radialMain o nc j) (radialSub o nc j) xs (by simp [hxs]) (by simp; omega) 0
  rw [zero_mul, zero_add] at h
  rw [← h, dot_eq_sum xs _ (o.nr - nc) (by omega)]
  apply Finset.sum_congr rfl; intro t ht
  have := radial_matrix_rows o nc j (fun i => xs.getD (i - nc) 0) hnr hnc hj t (by simpa using ht)
  rw [← list_eq_map_range_shift xs (o.nr - nc) nc hxs] at this
  rw [this]

theorem radial_inner_eq_sum (o : Op K) (nc j : Nat) (hnc : 2 ≤ nc) (hnr : nc + 3 ≤ o.nr) (hnt : 2 ≤ o.nt)
    (hj : j < o.nt) (xs : List K) :
    inner o (A o (radialField o nc j xs)) (radialField o nc j xs)
      = ∑ t ∈ range (o.nr - nc - 1), xs.getD t 0 * radialRow o nc j (fun a => xs.getD (a - nc) 0) (nc + t) := by
  unfold inner
  have hcol : ∀ a, ∑ b ∈ range o.nt, A o (radialField o nc j xs) a b * radialField o nc j xs a b
      = A o (radialField o nc j xs) a j * radialField o nc j xs a j := by
    intro a
    rw [Finset.sum_eq_single j]
    · intro b _ hb
      rw [radialField_apply, if_neg (by intro h; exact hb h.2.2)]; ring
    · intro h; exfalso; apply h; simp only [Finset.mem_range]; exact hj
  simp only [hcol]
  have e1 : o.nr = nc + (o.nr - nc - 1 + 1) := by omega
  conv_lhs => rw [e1]
  rw [Finset.sum_range_add, Finset.sum_range_succ]
  have z1 : ∑ a ∈ range nc, A o (radialField o nc j xs) a j * radialField o nc j xs a j = 0 := by
    apply Finset.sum_eq_zero; intro a ha
    have : a < nc := by simpa using ha
    rw [radialField_apply, if_neg (by omega)]; ring
  have z2 : radialField o nc j xs (nc + (o.nr - nc - 1)) j = 0 := by
    rw [radialField_apply, if_neg (by omega)]
  rw [z1, z2, zero_add, mul_zero, add_zero]
  apply Finset.sum_congr rfl; intro t ht
  have ht' : t < o.nr - nc - 1 := by simpa using ht
  rw [A_radialField o nc j xs (nc + t) hnc hnr hnt (by omega) (by omega), radialField_apply,
    if_pos ⟨by omega, by omega, rfl⟩, Nat.add_sub_cancel_left]
  ring

theorem radial_Q_eq_inner (o : Op K) (nc j : Nat) (hnc : 2 ≤ nc) (hnr : nc + 3 ≤ o.nr) (hnt : 2 ≤ o.nt)
    (hj : j < o.nt) (xs : List K) (hxs : xs.length = o.nr - nc) :
    Q (radialMain o nc j) (radialSub o nc j) xs
      = inner o (A o (radialField o nc j xs)) (radialField o nc j xs)
        + xs.getD (o.nr - nc - 1) 0 * xs.getD (o.nr - nc - 1) 0 := by
  rw [radial_Q_eq_sum o nc j (by omega) hnr hj xs hxs, radial_inner_eq_sum o nc j hnc hnr hnt hj xs]
  have e1 : o.nr - nc = o.nr - nc - 1 + 1 := by omega
  conv_lhs => rw [e1]
  rw [Finset.sum_range_succ]
  congr 1
  unfold radialRow
  rw [if_pos (by omega)]
  have : nc + (o.nr - nc - 1) - nc = o.nr - nc - 1 := by omega
  simp only [this]

theorem radialField_V0 (o : Op K) (nc j : Nat) (xs : List K) (hnc : 1 ≤ nc) : V0 o (radialField o nc j xs) := by
  constructor
  · intro b; rw [radialField_apply, if_neg (by omega)]
  · intro _ b; rw [radialField_apply, if_neg (by omega)]

end SmootherCode
