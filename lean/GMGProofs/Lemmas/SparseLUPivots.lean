import GMGProofs.Lemmas.SparseLULemmas
/-!
# C16: a zero pivot gives a kernel vector of a leading principal block

`kerVec`: back substitution building a vector `x` supported on `[0..i]`, `x i = 1`, with `U x = 0`
on the rows `≤ i` whenever the pivots `< i` are non-zero and pivot `i` IS zero.  Since `A = L U` on
the leading block (`sum_toDense_mul`), `x` is then in the kernel of that block of `A`.
-/

namespace SparseLU
open Finset

section Pivots
variable {K : Type} [Field K]

/-- back substitution from `x i = 1` downwards: after `n` steps the entries `i, i-1, …, i-n` are final -/
def kerVec (U : ℕ → ℕ → K) (i : ℕ) : ℕ → ℕ → K
  | 0 => fun k => if k = i then 1 else 0
  | n + 1 => fun k =>
      if k = i - (n + 1) then
        -(∑ m ∈ range (i + 1), U (i - (n + 1)) m * kerVec U i n m) / U (i - (n + 1)) (i - (n + 1))
      else kerVec U i n k

theorem kerVec_succ (U : ℕ → ℕ → K) (i n k : ℕ) :
    kerVec U i (n + 1) k =
      if k = i - (n + 1) then
        -(∑ m ∈ range (i + 1), U (i - (n + 1)) m * kerVec U i n m) / U (i - (n + 1)) (i - (n + 1))
      else kerVec U i n k := rfl

theorem kerVec_spec (U : ℕ → ℕ → K) (i : ℕ)
    (hup : ∀ m k, k < m → U m k = 0) (hp : ∀ m, m < i → U m m ≠ 0) :
    ∀ n, n ≤ i →
      kerVec U i n i = 1 ∧ (∀ k, k < i - n → kerVec U i n k = 0) ∧
      (∀ m, i - n ≤ m → m < i → ∑ k ∈ range (i + 1), U m k * kerVec U i n k = 0)
  | 0, _ => by
      refine ⟨by simp [kerVec], ?_, ?_⟩
      · intro k hk
        have : k ≠ i := by omega
        simp [kerVec, this]
      · intro m h1 h2; omega
  | n + 1, hn => by
      obtain ⟨h1, h2, h3⟩ := kerVec_spec U i hup hp n (by omega)
      have hm0 : i - (n + 1) < i := by omega
      refine ⟨?_, ?_, ?_⟩
      · rw [kerVec_succ, if_neg (by omega)]; exact h1
      · intro k hk
        rw [kerVec_succ, if_neg (by omega)]; exact h2 k (by omega)
      · intro m hm hmi
        simp only [kerVec_succ]
        rw [sum_update _ (i - (n + 1)) (mem_range.mpr (by omega))]
        have hx : ∀ k ∈ range (i + 1), U m k * (if k = i - (n + 1) then 0 else kerVec U i n k)
            = U m k * kerVec U i n k := by
          intro k _; split
          · rw [‹k = _›, h2 _ (by omega)]
          · rfl
        rw [Finset.sum_congr rfl hx]
        by_cases hmm : m = i - (n + 1)
        · subst hmm
          have hd := hp (i - (n + 1)) hm0
          field_simp
          ring
        · rw [h3 m (by omega) hmi, hup m (i - (n + 1)) (by omega)]
          ring

/-- pivots `< i` non-zero, pivot `i` zero: a vector with `x i = 1` in the kernel of the leading block of `U` -/
theorem kerVec_final (U : ℕ → ℕ → K) (i : ℕ)
    (hup : ∀ m k, k < m → U m k = 0) (hp : ∀ m, m < i → U m m ≠ 0) (h0 : U i i = 0) :
    kerVec U i i i = 1 ∧ ∀ m, m ≤ i → ∑ k ∈ range (i + 1), U m k * kerVec U i i k = 0 := by
  obtain ⟨h1, _, h3⟩ := kerVec_spec U i hup hp i (le_refl i)
  refine ⟨h1, ?_⟩
  intro m hm
  by_cases hmi : m = i
  · subst hmi
    rw [Finset.sum_range_succ, h0, zero_mul, add_zero]
    apply Finset.sum_eq_zero
    intro k hk
    rw [hup m k (by simpa using hk), zero_mul]
  · exact h3 m (by omega) (by omega)

theorem sum_trunc {k N : ℕ} (hk : k < N) (f x : ℕ → K) :
    ∑ q ∈ range N, f q * (if q ≤ k then x q else 0) = ∑ q ∈ range (k + 1), f q * x q := by
  simp only [mul_ite, mul_zero, ← Finset.sum_filter]
  congr 1
  ext q; simp only [mem_filter, mem_range]; omega

end Pivots

end SparseLU
