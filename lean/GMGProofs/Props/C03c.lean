import GMGModel.Cache
import GMGProofs.Props.C17
import GMGProofs.Lemmas.FieldScalar
import GMGProofs.Lemmas.Cache1
import GMGProofs.Lemmas.Cache2
/-!
# C03 (code level) — coefficient caches on coarse levels equal a fresh evaluation at the coarse nodes

Model: `GMGModel/Cache.lean` (both `LevelCache` constructors with the library's node numbering and the different
circle/radial splits of the two levels, `obtainValues`).  The input functions are arbitrary (`Env`), the scalar type is
arbitrary (`[Scalar α]`: the statements are equalities of stored values, so they hold for IEEE doubles as well).
Property theorems and the nesting predicate `Nested`; helper lemmas in `GMGProofs/Lemmas/Cache{1,2}.lean`.
-/
namespace C03c
open Cache

variable {α : Type} [Scalar α]

/-- the coarse grid is the every-second-node subgrid of the fine grid (what `coarseningGrid` builds, C17/C18) -/
structure Nested (GF GC : GridData α) : Prop where
  validF : GF.g.Valid
  validC : GC.g.Valid
  nr : GF.g.nr = 2 * GC.g.nr - 1
  nt : GF.g.nt = 2 * GC.g.nt
  radius : ∀ i, i < GC.g.nr → GC.radius i = GF.radius (2 * i)
  theta : ∀ j, j < GC.g.nt → GC.theta j = GF.theta (2 * j)

/-- whatever the cache flags, an operator obtains from a freshly built cache exactly the direct evaluation -/
theorem fresh_obtain (E : Env α) (G : GridData α) (hv : G.g.Valid) (cc cg : Bool) (i j : Nat)
    (hi : i < G.g.nr) (hj : j < G.g.nt) :
    obtain E G (fresh E G cc cg) i j = direct E G i j := by
  have hs : ∀ f : Nat → α, (Array.ofFn (n := G.g.nt) fun j => f j.val).getD j (Scalar.n 0) = f j :=
    fun f => ofFn_getD _ f j _ hj
  have hr : ∀ f : Nat → α, (Array.ofFn (n := G.g.nr) fun i => f i.val).getD i (Scalar.n 0) = f i :=
    fun f => ofFn_getD _ f i _ hi
  unfold obtain direct fresh
  cases cc <;> cases cg <;>
    simp only [hs (fun j => E.sinF (G.theta j)), hs (fun j => E.cosF (G.theta j)), hr (fun i => E.beta (G.radius i)),
      hr (fun i => E.alpha (G.radius i)), fillNodes_getD G.g hv _ _ i j hi hj,
      Bool.false_eq_true, if_false, if_true, false_and, not_true_eq_false, not_false_eq_true, and_self,
      and_false]

/-- the sampling constructor reproduces the fresh constructor on the coarse grid, array by array — although the two
    levels number their nodes with different circle/radial splits -/
theorem coarsen_fresh (E : Env α) (GF GC : GridData α) (h : Nested GF GC) (cc cg : Bool) :
    coarsen (fresh E GF cc cg) GF.g GC.g = fresh E GC cc cg := by
  obtain ⟨hF, hC, hnr, hnt, hrad, hth⟩ := h
  have hsin := sample_ofFn GF.g.nt GC.g.nt (fun j => E.sinF (GF.theta j)) (fun j => E.sinF (GC.theta j)) (Scalar.n 0)
    (fun j hj => by omega) (fun j hj => by rw [hth j hj])
  have hcos := sample_ofFn GF.g.nt GC.g.nt (fun j => E.cosF (GF.theta j)) (fun j => E.cosF (GC.theta j)) (Scalar.n 0)
    (fun j hj => by omega) (fun j hj => by rw [hth j hj])
  have halpha := sample_ofFn GF.g.nr GC.g.nr (fun i => E.alpha (GF.radius i)) (fun i => E.alpha (GC.radius i))
    (Scalar.n 0) (fun i hi => by omega) (fun i hi => by rw [hrad i hi])
  have hbeta := sample_ofFn GF.g.nr GC.g.nr (fun i => E.beta (GF.radius i)) (fun i => E.beta (GC.radius i))
    (Scalar.n 0) (fun i hi => by omega) (fun i hi => by rw [hrad i hi])
  have hca := cond_ofFn GF.g.nr GC.g.nr (fun i => E.alpha (GF.radius i.val))
    (fun i => E.alpha (GC.radius i.val)) (by omega)
  have hcb := cond_ofFn GF.g.nr GC.g.nr (fun i => E.beta (GF.radius i.val))
    (fun i => E.beta (GC.radius i.val)) (by omega)
  have hfill := fun π : α × α × α × α → α => sample_fill GF.g GC.g hF hC hnr hnt
    (fun i j => π (elements E (GF.radius i) (GF.theta j)
      ((Array.ofFn (n := GF.g.nt) fun j => E.sinF (GF.theta j.val)).getD j (Scalar.n 0))
      ((Array.ofFn (n := GF.g.nt) fun j => E.cosF (GF.theta j.val)).getD j (Scalar.n 0)) (E.alpha (GF.radius i))))
    (fun i j => π (elements E (GC.radius i) (GC.theta j)
      ((Array.ofFn (n := GC.g.nt) fun j => E.sinF (GC.theta j.val)).getD j (Scalar.n 0))
      ((Array.ofFn (n := GC.g.nt) fun j => E.cosF (GC.theta j.val)).getD j (Scalar.n 0)) (E.alpha (GC.radius i))))
    (Scalar.n 0) fun i j hi hj => by
      rw [ofFn_getD GF.g.nt (fun j => E.sinF (GF.theta j)) (2 * j) _ (by omega),
        ofFn_getD GF.g.nt (fun j => E.cosF (GF.theta j)) (2 * j) _ (by omega),
        ofFn_getD GC.g.nt (fun j => E.sinF (GC.theta j)) j _ hj,
        ofFn_getD GC.g.nt (fun j => E.cosF (GC.theta j)) j _ hj, hth j hj, hrad i hi]
  have h1 := hfill fun x => x.1
  have h2 := hfill fun x => x.2.1
  have h3 := hfill fun x => x.2.2.1
  have h4 := hfill fun x => x.2.2.2
  unfold coarsen fresh
  cases cc <;> cases cg <;>
    simp only [Bool.false_eq_true, if_false, if_true, false_and, not_true_eq_false,
      not_false_eq_true, and_self, and_false, fillNodes_zero, Array.size_empty, Nat.lt_irrefl, gt_iff_lt,
      Array.replicate_zero, hsin, hcos, hca, hcb, halpha, hbeta, h1, h2, h3, h4]

/-- hence on every level of a coarsening chain the cache is the fresh one … -/
theorem chain_fresh (E : Env α) (cc cg : Bool) (Gs : List (GridData α)) (G0 : GridData α)
    (hchain : List.IsChain Nested (G0 :: Gs)) :
    (Gs.foldl (fun (acc : LevelCache α × GridData α) G => (coarsen acc.1 acc.2.g G.g, G)) (fresh E G0 cc cg, G0)).1
      = fresh E ((G0 :: Gs).getLast (by simp)) cc cg := by
  induction Gs generalizing G0 with
  | nil => rfl
  | cons G Gs ih =>
      rw [List.isChain_cons_cons] at hchain
      rw [List.foldl_cons]
      simp only [coarsen_fresh E G0 G hchain.1 cc cg]
      rw [ih G hchain.2]
      simp [List.getLast_cons]

/-- … and what the operators obtain on a coarse level is the direct evaluation at the coarse nodes -/
theorem coarsen_obtain (E : Env α) (GF GC : GridData α) (h : Nested GF GC) (cc cg : Bool) (i j : Nat)
    (hi : i < GC.g.nr) (hj : j < GC.g.nt) :
    obtain E GC (coarsen (fresh E GF cc cg) GF.g GC.g) i j = direct E GC i j := by
  rw [coarsen_fresh E GF GC h cc cg]
  exact fresh_obtain E GC h.validC cc cg i j hi hj

/-- the realistic defect class is visible to the model: sampling `coeff_alpha` at `i` instead of `2 i` gives a cache
    that differs from the fresh one (concrete instance over ℚ) -/
theorem wrong_sampling_detected : ∃ (E : Env ℚ) (GF GC : GridData ℚ), Nested GF GC ∧
    (let c := fresh E GF true false
     { coarsen c GF.g GC.g with alpha := Array.ofFn (n := GC.g.nr) fun i => c.alpha.getD i.val 0 }) ≠ fresh E GC true false := by
  refine ⟨{ sinF := fun _ => 0, cosF := fun _ => 1, alpha := fun r => r, beta := fun _ => 1,
            jac := fun _ _ _ _ => (1, 0, 0, 1), absF := fun x => x },
    { g := ⟨3, 2, 0, true⟩, radius := fun i => (i : ℚ), theta := fun _ => 0 },
    { g := ⟨2, 1, 0, true⟩, radius := fun i => 2 * (i : ℚ), theta := fun _ => 0 },
    ⟨⟨by decide, by decide, by decide, by decide⟩, ⟨by decide, by decide, by decide, by decide⟩, rfl, rfl,
      fun i _ => by simp, fun _ _ => rfl⟩, ?_⟩
  intro h
  have h1 := congrArg (fun c => c.alpha.getD 1 0) h
  simp [fresh] at h1

end C03c
