import GMGProofs.Lemmas.SmootherCode4
import GMGProofs.Lemmas.SmootherCode5
import GMGProofs.Props.C06
import GMGProofs.Props.C14
import GMGProofs.Props.C16
/-!
# C06 (code level) — the assembled line systems of `SmootherTake` ARE the zebra relaxation of the operator

Model: `GMGModel/SmootherCode.lean` (what `buildAscMatrices` stores, `temp = rhs - A_sc^ortho x`, the line solves through
the models of `Tridiag.lean` / `SparseLU.lean`, the four-phase sweep on a row-major array).  Holds the fields `withCircle`,
`withRadial` carrying a line solution, the stored rows `radialRow`, `innerRowDot`, the non-singularity bundle `LinesOK`, the
row-by-row splitting `A_sc + A_sc^ortho = A`, the property theorems and an instance; helper lemmas live in
`GMGProofs/Lemmas/SmootherCode{1,2,3,4,5}.lean`.
-/
namespace C06c
open Stencil Smoother SmootherCode

section AnyField
variable {K : Type} [_root_.Field K]

/-- the iterate with the values `v` on circle `i` -/
def withCircle (u : Stencil.Field K) (i : Nat) (v : Nat → K) : Stencil.Field K := fun a b => if a = i then v b else u a b
/-- the iterate with the values `v` (indexed by the radial node index `a ≥ nc`) on radial line `j` -/
def withRadial (nc : Nat) (u : Stencil.Field K) (j : Nat) (v : Nat → K) : Stencil.Field K :=
  fun a b => if nc ≤ a ∧ b = j then v a else u a b

/-- row `i` of the stored radial matrix of line `j` applied to `v` (identity row on the outer boundary, no "Left" at
    `i = nc`, the "Right" of `i = nr - 2` stored as zero) -/
def radialRow (o : Op K) (nc j : Nat) (v : Nat → K) (i : Nat) : K :=
  if i + 1 = o.nr then v i
  else centerValue o i j (i - 1) j * v i
    + (if i = nc then 0 else leftValue o i j (i - 1) j * v (i - 1))
    + (if i + 2 = o.nr then 0 else rightValue o i j * v (i + 1))

/-- row `j` of the stored innermost-circle matrix applied to `v` -/
def innerRowDot (o : Op K) (v : Nat → K) (j : Nat) : K :=
  if o.bc then v j
  else centerValue o 0 j 0 (ja o j) * v j + leftValue o 0 j 0 (ja o j) * v (ja o j)
    + bottomValue o 0 j * v (jm o j) + topValue o 0 j * v (jp o j)

omit [_root_.Field K] in
@[simp] theorem withCircle_self (u : Stencil.Field K) (i : Nat) (v : Nat → K) (b : Nat) : withCircle u i v i b = v b :=
  if_pos rfl

omit [_root_.Field K] in
theorem withCircle_of_ne (u : Stencil.Field K) (v : Nat → K) {a i : Nat} (h : a ≠ i) (b : Nat) :
    withCircle u i v a b = u a b := if_neg h

omit [_root_.Field K] in
theorem withRadial_self (u : Stencil.Field K) (j : Nat) (v : Nat → K) {nc a : Nat} (h : nc ≤ a) :
    withRadial nc u j v a j = v a := if_pos ⟨h, rfl⟩

omit [_root_.Field K] in
theorem withRadial_of_ne (nc : Nat) (u : Stencil.Field K) (v : Nat → K) (a : Nat) {b j : Nat} (h : b ≠ j) :
    withRadial nc u j v a b = u a b := if_neg fun h' => h h'.2

omit [_root_.Field K] in
theorem withRadial_of_lt (u : Stencil.Field K) (j : Nat) (v : Nat → K) {nc a : Nat} (h : a < nc) (b : Nat) :
    withRadial nc u j v a b = u a b := if_neg fun h' => absurd h'.1 (by omega)

/-! ## 1  A_sc + A_sc^ortho = A, row by row (pure algebra, any field, any sizes) -/

/-- interior circle: the operator row at `(i, j)` on the iterate carrying `v` on circle `i` is `temp` minus the row of the
    stored cyclic tridiagonal matrix -/
theorem circle_split (o : Op K) (nc : Nat) (f u : Stencil.Field K) (v : Nat → K) (i j : Nat)
    (hi0 : 0 < i) (hinc : i < nc) (hnc : nc < o.nr) :
    take o f (withCircle u i v) i j
      = orthoCircle o nc f u i j
        - (centerValue o i j (i - 1) j * v j + bottomValue o i j * v (jm o j) + topValue o i j * v (jp o j)) := by
  have hne1 : i - 1 ≠ i := by omega
  have hne2 : i + 1 ≠ i := by omega
  rw [take_interior o f _ j hi0 (by omega), takeInterior_eq o f _ j hi0, orthoCircle, if_pos ⟨hi0, hinc⟩]
  simp only [diagTerms, leftValue, rightValue, withCircle_self, withCircle_of_ne _ _ hne1, withCircle_of_ne _ _ hne2]
  ring

set_option linter.unusedVariables false in
/-- innermost circle, both boundary modes (`hnc`, `hnr` are kept for uniformity with the other rows, the proof does not
    need them) -/
theorem inner_split (o : Op K) (nc : Nat) (f u : Stencil.Field K) (v : Nat → K) (j : Nat)
    (hnc : 0 < nc) (hnr : 1 < o.nr) :
    take o f (withCircle u 0 v) 0 j = orthoCircle o nc f u 0 j - innerRowDot o v j := by
  rw [orthoCircle, if_neg (by omega), if_pos rfl, innerRowDot]
  cases hbc : o.bc
  · rw [take_origin o f _ hbc, takeOrigin_eq]
    simp only [Bool.false_eq_true, if_false, rightValue, withCircle_self, withCircle_of_ne _ _ Nat.one_ne_zero]
    ring
  · rw [take_zero_dirichlet o f _ hbc, if_pos rfl, if_pos rfl, withCircle_self]

/-- radial line; the coupling of row `nr - 2` to the Dirichlet node is taken from the boundary datum, which the identity
    row of the same line system reproduces (`hv`).
    Without `hnt : 2 ≤ o.nt` the statement is false (`nt ≤ 1` makes the angular neighbours `jm o j`, `jp o j` coincide with
    `j`, so the operator row reads the new line values where `orthoRadial` uses the old iterate): counterexample
    `radial_split_needs_nt` in section 6. -/
theorem radial_split (o : Op K) (nc : Nat) (f u : Stencil.Field K) (v : Nat → K) (i j : Nat)
    (hnc : 2 ≤ nc) (hnr : nc + 3 ≤ o.nr) (hnt : 2 ≤ o.nt) (hi : nc ≤ i) (hir : i < o.nr)
    (hv : v (o.nr - 1) = f (o.nr - 1) j) :
    take o f (withRadial nc u j v) i j = orthoRadial o nc f u i j - radialRow o nc j v i := by
  have hm := jm_ne_self o hnt j
  have hp := jp_ne_self o hnt j
  unfold radialRow orthoRadial
  by_cases hlast : i + 1 = o.nr
  · rw [take_outer o f _ j (by omega) (by omega), withRadial_self _ _ _ hi,
      if_neg (by omega), if_neg (by omega), if_neg (by omega), if_pos hlast]
  · rw [take_interior o f _ j (by omega) (by omega), takeInterior_eq o f _ j (by omega), if_neg hlast]
    simp only [diagTerms, leftValue, rightValue, bottomValue, topValue, withRadial_self _ _ _ hi,
      withRadial_self _ _ _ (by omega : nc ≤ i + 1), withRadial_of_ne _ _ _ _ hm, withRadial_of_ne _ _ _ _ hp]
    by_cases hnc' : i = nc
    · -- next to the circle section: "Left" is an old value
      rw [withRadial_of_lt _ _ _ (by omega : i - 1 < nc), if_neg (by omega), if_pos hnc', if_pos hnc', if_neg (by omega)]
      ring
    · simp only [withRadial_self _ _ _ (by omega : nc ≤ i - 1), if_neg hnc']
      by_cases h4 : i + 2 = o.nr
      · -- next to the outer boundary: "Right" carries the datum, stored as zero
        have hv' : v (i + 1) = f (i + 1) j := (by omega : o.nr - 1 = i + 1) ▸ hv
        rw [if_neg (by omega), if_pos h4, if_pos h4, hv']
        ring
      · rw [if_pos ⟨by omega, by omega⟩, if_neg h4]
        ring

/-! ## 2  the stored arrays represent exactly these rows (symmetric storage: only "Top"/"Right" and one corner are kept) -/

theorem circle_matrix_rows (o : Op K) (i : Nat) (v : Nat → K) (hnt : 3 ≤ o.nt) (j : Nat) (hj : j < o.nt) :
    (Tridiag.mulC (circleMain o i) (circleSub o i) (circleCorner o i) ((List.range o.nt).map v)).getD j 0
      = centerValue o i j (i - 1) j * v j + bottomValue o i j * v (jm o j) + topValue o i j * v (jp o j) := by
  have hb := topValue_jm o i hj
  have ht := bottomValue_jp o i hj
  rw [jm_eq o hj] at hb ⊢
  rw [jp_eq o hj] at ht ⊢
  rw [mulC_getD _ _ _ _ (by simp) (by simp; omega) (by simp; omega) j (by simpa using hj), length_circleMain]
  simp only [circleMain, circleSub, circleCorner, SparseLU.getD_map_range, if_pos hj]
  by_cases h0 : j = 0
  · subst h0
    simp (disch := omega) only [if_pos, if_neg, ↓reduceIte]
  · by_cases hl : j + 1 = o.nt
    · simp (disch := omega) only [if_pos, if_neg] at hb ht ⊢
      rw [hb, ht]
    · simp (disch := omega) only [if_pos, if_neg] at hb ⊢
      rw [hb]

set_option linter.unusedVariables false in
/-- `t` is the local index, node `i = nc + t` -/
theorem radial_matrix_rows (o : Op K) (nc j : Nat) (v : Nat → K) (hnr : nc + 3 ≤ o.nr) (hnc : 1 ≤ nc) (hj : j < o.nt)
    (t : Nat) (ht : t < o.nr - nc) :
    (Tridiag.mulT (radialMain o nc j) (radialSub o nc j) ((List.range (o.nr - nc)).map fun t => v (nc + t)) 0).getD t 0
      = radialRow o nc j v (nc + t) := by
  rw [mulT_getD _ _ _ (by simp) (by simp; omega) 0 t (by simpa using ht), length_radialMain]
  simp only [radialMain, radialSub, SparseLU.getD_map_range, if_pos ht, radialRow, Scalar.n_zero, Scalar.n_one]
  by_cases hlast : nc + t + 1 = o.nr
  · simp (disch := omega) only [if_pos, if_neg]
    ring
  · by_cases h0 : t = 0
    · subst h0
      simp (disch := omega) only [if_pos, if_neg, ↓reduceIte, Nat.add_zero]
      ring
    · have e : nc + (t - 1) = nc + t - 1 := by omega
      have hl := rightValue_pred o (by omega : 1 < nc + t) j
      by_cases h2 : nc + t + 2 = o.nr
      · simp (disch := omega) only [if_pos, if_neg, e, hl, ← Nat.add_assoc]
        ring
      · simp (disch := omega) only [if_pos, if_neg, e, hl, ← Nat.add_assoc]
        ring

/-- dense product of the CSR matrix of the innermost circle (four distinct columns per row need `nt ≥ 4`, even) -/
theorem inner_matrix_rows (o : Op K) (v : Nat → K) (hnt : 4 ≤ o.nt) (heven : o.nt % 2 = 0) (j : Nat) (hj : j < o.nt) :
    (SparseLU.mulDense (innerCSR o) ((List.range o.nt).map v)).getD j 0 = innerRowDot o v j := by
  have hv : ∀ k, k < o.nt → SparseLU.vget ((List.range o.nt).map v) k = v k := by
    intro k hk; unfold SparseLU.vget; rw [SparseLU.getD_map_range, if_pos hk]
  have h0 : 0 < o.nt := by omega
  unfold SparseLU.mulDense
  rw [SparseLU.getD_map_range, if_pos (by exact hj), loadRow_innerCSR o hnt heven j hj]
  unfold innerRow innerRowDot
  cases hbc : o.bc
  · simp only [Bool.false_eq_true, if_false, List.foldl_cons, List.foldl_nil, hv j hj, hv _ (ja_lt o h0 j),
      hv _ (jm_lt o h0 j), hv _ (jp_lt o h0 j), Scalar.n_zero]
    ring
  · simp only [if_true, List.foldl_cons, List.foldl_nil, hv j hj, Scalar.n_zero, Scalar.n_one]
    ring

/-! ## 3  the sweep of the code-level model satisfies every sweep equation of the spec -/

theorem take_fld_writeCircle (o : Op K) (f : Stencil.Field K) (a : Array K) (hs : a.size = o.nr * o.nt) (hnr : 2 ≤ o.nr)
    (i : Nat) (vs : List K) (p q : Nat) (hp : p < o.nr) (hq : q < o.nt) :
    take o f (fld o.nt (writeCircle o.nt a i vs)) p q
      = take o f (withCircle (fld o.nt a) i (fun q => vs.getD q 0)) p q :=
  take_congr_grid o f _ _ hnr (by omega) (fun c d hc hd => fld_writeCircle o.nr o.nt a hs i vs c d hc hd) p q hp hq

theorem take_fld_writeRadial (o : Op K) (nc : Nat) (f : Stencil.Field K) (a : Array K) (hs : a.size = o.nr * o.nt)
    (hnr : 2 ≤ o.nr) (j : Nat) (vs : List K) (p q : Nat) (hp : p < o.nr) (hq : q < o.nt) :
    take o f (fld o.nt (writeRadial o.nt nc a j vs)) p q
      = take o f (withRadial nc (fld o.nt a) j (fun i => vs.getD (i - nc) 0)) p q :=
  take_congr_grid o f _ _ hnr (by omega) (fun c d hc hd => fld_writeRadial o.nr o.nt nc a hs j vs c d hc hd) p q hp hq

/-- an interior circle: a vector that solves the stored cyclic system with right-hand side `temp` zeroes the residual -/
theorem circle_line_zero (o : Op K) (nc : Nat) (f u : Stencil.Field K) (i : Nat) (hi0 : 0 < i) (hi : i < nc)
    (hnc : nc < o.nr) (hnt : 3 ≤ o.nt) (vs : List K)
    (hmul : Tridiag.mulC (circleMain o i) (circleSub o i) (circleCorner o i) vs = circleTemp o nc f u i)
    (q : Nat) (hq : q < o.nt) : take o f (withCircle u i (fun q => vs.getD q 0)) i q = 0 := by
  have hlen : vs.length = o.nt := by
    simpa using length_of_mulC (circleMain o i) (circleSub o i) (circleCorner o i) vs (by simp; omega) (by simp [hmul])
  have := circle_matrix_rows o i (fun q => vs.getD q 0) hnt q hq
  rw [← list_eq_map_range vs o.nt hlen, hmul, getD_circleTemp o nc f u i hq] at this
  rw [circle_split o nc f _ _ i q hi0 hi hnc, ← this, sub_self]

/-- a radial line: a vector that solves the stored tridiagonal system with right-hand side `temp` zeroes the residual; its
    last entry is the boundary datum (identity row) -/
theorem radial_line_zero (o : Op K) (nc : Nat) (f u : Stencil.Field K) (j : Nat) (hj : j < o.nt) (hnc : 2 ≤ nc)
    (hnr : nc + 3 ≤ o.nr) (hnt : 2 ≤ o.nt) (vs : List K)
    (hmul : Tridiag.mulT (radialMain o nc j) (radialSub o nc j) vs 0 = radialTemp o nc f u j)
    (p : Nat) (hpc : nc ≤ p) (hp : p < o.nr) :
    take o f (withRadial nc u j (fun i => vs.getD (i - nc) 0)) p j = 0 := by
  have hlen : vs.length = o.nr - nc := by
    simpa using length_of_mulT_length (radialMain o nc j) (radialSub o nc j) vs 0 (by simp; omega) (by simp [hmul])
  have hrow : ∀ i, nc ≤ i → i < o.nr →
      radialRow o nc j (fun i => vs.getD (i - nc) 0) i = orthoRadial o nc f u i j := by
    intro i hic hi
    have := radial_matrix_rows o nc j (fun i => vs.getD (i - nc) 0) hnr (by omega) hj (i - nc) (by omega)
    rwa [← list_eq_map_range_shift vs (o.nr - nc) nc hlen, hmul, getD_radialTemp o nc f u j (by omega),
      Nat.add_sub_cancel' hic, eq_comm] at this
  have hv : (fun i => vs.getD (i - nc) 0) (o.nr - 1) = f (o.nr - 1) j := by
    have h1 := hrow (o.nr - 1) (by omega) (by omega)
    rwa [radialRow, if_pos (by omega), orthoRadial, if_neg (by omega), if_neg (by omega), if_neg (by omega)] at h1
  rw [radial_split o nc f _ _ p j hnc hnr hnt hpc hp hv, hrow p hpc hp, sub_self]

/-- every line system is solved exactly by the line solver model (discharged below from positive definiteness) -/
structure LinesOK (o : Op K) (nc : Nat) : Prop where
  circle : ∀ i, 0 < i → i < nc → ∀ y : List K, y.length = o.nt →
    Tridiag.mulC (circleMain o i) (circleSub o i) (circleCorner o i) (Tridiag.solve (circleSolver o i) y).2 = y
  radial : ∀ j, j < o.nt → ∀ y : List K, y.length = o.nr - nc →
    Tridiag.mulT (radialMain o nc j) (radialSub o nc j) (Tridiag.solve (radialSolver o nc j) y).2 0 = y
  inner : ∀ i, i < o.nt → SparseLU.den ((SparseLU.factorRows (innerCSR o)).2.getD i []) i ≠ 0

/-- one circle update of the sweep (interior circle: cyclic LDLᵀ, innermost circle: sparse LU): the size and the other
    circles are untouched and the residual of the new state vanishes on the circle -/
theorem circle_step_spec (o : Op K) (nc : Nat) (tiny : K → Bool) (f : Stencil.Field K)
    (hnt : 4 ≤ o.nt) (heven : o.nt % 2 = 0) (hnr : nc + 3 ≤ o.nr) (hl : LinesOK o nc)
    (i : Nat) (hi : i < nc) (a a' : Array K) (hs : a.size = o.nr * o.nt)
    (h : (solveCircle o tiny nc f (fld o.nt a) i).map (writeCircle o.nt a i) = some a') :
    a'.size = a.size ∧
    (∀ p q, p < o.nr → q < o.nt → ¬ p = i → fld o.nt a' p q = fld o.nt a p q) ∧
    (∀ p q, p < o.nr → q < o.nt → p = i → take o f (fld o.nt a') p q = 0) := by
  obtain ⟨vs, hvs, rfl⟩ := Option.map_eq_some_iff.mp h
  refine ⟨size_writeCircle _ _ _ _, fun p q hp hq hne => ?_, ?_⟩
  · rw [fld_writeCircle o.nr o.nt a hs i vs p q hp hq, if_neg hne]
  rintro p q hp hq rfl
  rw [take_fld_writeCircle o f a hs (by omega) p vs p q hp hq]
  unfold solveCircle at hvs
  by_cases h0 : p = 0
  · subst h0
    rw [if_pos rfl] at hvs
    have htl := length_circleTemp o nc f (fld o.nt a) 0
    have hmul := C16.lu_solve tiny (innerCSR o) hl.inner _ vs htl hvs
    have hlen : vs.length = o.nt := (SparseLU.solve_length tiny _ _ vs hvs).trans htl
    have := inner_matrix_rows o (fun q => vs.getD q 0) hnt heven q hq
    rw [← list_eq_map_range vs o.nt hlen, hmul, getD_circleTemp o nc f _ 0 hq] at this
    rw [inner_split o nc f _ _ q (by omega) (by omega), ← this, sub_self]
  · rw [if_neg h0, Option.some.injEq] at hvs
    exact circle_line_zero o nc f _ p (by omega) hi (by omega) (by omega) vs
      (hvs ▸ hl.circle p (by omega) hi _ (length_circleTemp o nc f _ p)) q hq

/-- one radial-line update of the sweep: the size and all nodes off the line are untouched and the residual of the new
    state vanishes on the line (nodes `nc ≤ p` of column `j`) -/
theorem radial_step_spec (o : Op K) (nc : Nat) (f : Stencil.Field K)
    (hnt : 2 ≤ o.nt) (hnc : 2 ≤ nc) (hnr : nc + 3 ≤ o.nr) (hl : LinesOK o nc)
    (j : Nat) (hj : j < o.nt) (a : Array K) (hs : a.size = o.nr * o.nt) :
    (radialStep o nc f a j).size = a.size ∧
    (∀ p q, p < o.nr → q < o.nt → ¬ (nc ≤ p ∧ q = j) → fld o.nt (radialStep o nc f a j) p q = fld o.nt a p q) ∧
    (∀ p q, p < o.nr → q < o.nt → (nc ≤ p ∧ q = j) → take o f (fld o.nt (radialStep o nc f a j)) p q = 0) := by
  unfold radialStep
  refine ⟨size_writeRadial _ _ _ _ _, fun p q hp hq hne => ?_, ?_⟩
  · rw [fld_writeRadial o.nr o.nt nc a hs j _ p q hp hq, if_neg hne]
  rintro p q hp hq ⟨hpc, rfl⟩
  rw [take_fld_writeRadial o nc f a hs (by omega) q _ p q hp hq]
  exact radial_line_zero o nc f _ q hq hnc hnr hnt _ (hl.radial q hq _ (length_radialTemp o nc f _ q)) p hpc hp

theorem sweep_size (o : Op K) (nc : Nat) (tiny : K → Bool) (f : Stencil.Field K) (x y : Array K)
    (hs : sweep o tiny nc f x = some y) : y.size = x.size :=
  sweepWith_size (fun _ _ _ => size_of_map_writeCircle) (fun _ _ => size_writeRadial _ _ _ _ _)
    ((sweep_eq_sweepWith o tiny nc f x).symm.trans hs)

/-- **refinement**: whatever `SmootherTake::smoothing` (as modelled: assembled matrices, `temp`, LDLᵀ / Sherman–Morrison /
    sparse LU solves, four colour phases in code order) returns satisfies the sweep equations of `GMGModel/Smoother.lean` -/
theorem code_sweep_isSweep (o : Op K) (nc : Nat) (tiny : K → Bool) (f : Stencil.Field K) (x y : Array K)
    (hnt : 4 ≤ o.nt) (heven : o.nt % 2 = 0) (hnc : 2 ≤ nc) (hnr : nc + 3 ≤ o.nr) (hx : x.size = o.nr * o.nt)
    (hl : LinesOK o nc) (hs : sweep o tiny nc f x = some y) :
    IsSweep o nc f (fld o.nt x) (fld o.nt y) := fun i j hi hj =>
  (sweepWith_spec o nc f (fun _ _ => false) (Or.inl (by omega)) (by omega) (by omega) heven _ _
    (fun i hi a a' hs h => .of_plain (circle_step_spec o nc tiny f hnt heven hnr hl i hi a a' hs h))
    (fun j hj a hs => .of_plain (radial_step_spec o nc f (by omega) hnc hnr hl j hj a hs))
    x y hx ((sweep_eq_sweepWith o tiny nc f x).symm.trans hs)).2 i j hi hj rfl

/-- the sweep returns (no `std::exit`) when the `tiny` test never fires on the pivots of the innermost circle -/
theorem code_sweep_total (o : Op K) (nc : Nat) (tiny : K → Bool) (f : Stencil.Field K) (x : Array K)
    (ht : ∀ i, i < o.nt → tiny (SparseLU.den ((SparseLU.factorRows (innerCSR o)).2.getD i []) i) = false) :
    ∃ y, sweep o tiny nc f x = some y := by
  refine sweepWith_total fun a i => ?_
  unfold solveCircle
  split
  · obtain ⟨vs, hvs, _⟩ := SparseLU.solve_total tiny (innerCSR o) ht (circleTemp o nc f (fld o.nt a) 0)
    exact ⟨_, congrArg (Option.map _) hvs⟩
  · exact ⟨_, rfl⟩

/-- after the code-level sweep the residual vanishes on the white radial lines -/
theorem code_sweep_last_colour (o : Op K) (nc : Nat) (tiny : K → Bool) (f : Stencil.Field K) (x y : Array K)
    (hnt : 4 ≤ o.nt) (heven : o.nt % 2 = 0) (hnc : 2 ≤ nc) (hnr : nc + 3 ≤ o.nr) (hx : x.size = o.nr * o.nt)
    (hl : LinesOK o nc) (hs : sweep o tiny nc f x = some y)
    (i j : Nat) (hi : i < o.nr) (hj : j < o.nt) (hrad : nc ≤ i) (hodd : j % 2 = 1) :
    take o f (fld o.nt y) i j = 0 :=
  C06.last_colour o nc f _ _ (code_sweep_isSweep o nc tiny f x y hnt heven hnc hnr hx hl hs) i j hi hj hrad hodd

/-- Dirichlet nodes carry the data after the code-level sweep -/
theorem code_sweep_dirichlet (o : Op K) (nc : Nat) (tiny : K → Bool) (f : Stencil.Field K) (x y : Array K)
    (hnt : 4 ≤ o.nt) (heven : o.nt % 2 = 0) (hnc : 2 ≤ nc) (hnr : nc + 3 ≤ o.nr) (hx : x.size = o.nr * o.nt)
    (hl : LinesOK o nc) (hs : sweep o tiny nc f x = some y) (j : Nat) (hj : j < o.nt) :
    fld o.nt y (o.nr - 1) j = f (o.nr - 1) j ∧ (o.bc = true → fld o.nt y 0 j = f 0 j) := by
  have h := code_sweep_isSweep o nc tiny f x y hnt heven hnc hnr hx hl hs
  exact ⟨dirichlet_set_outer o nc (by omega) f _ _ h j hj,
    fun hbc => dirichlet_set_inner o nc (by omega) hbc f _ _ h j hj⟩

end AnyField

/-! ## 4  the hypothesis `LinesOK` from positive definiteness of the line blocks -/
section Ordered
variable {K : Type} [_root_.Field K] [LinearOrder K] [IsStrictOrderedRing K]

/-- SPD line matrices (in the sense of C14) and non-vanishing pivots of the innermost circle's LU give `LinesOK` -/
theorem linesOK_of_spd (o : Op K) (nc : Nat) (hnt : 4 ≤ o.nt) (hnr : nc + 3 ≤ o.nr)
    (hc : ∀ i, 0 < i → i < nc → Tridiag.SPDc (circleMain o i) (circleSub o i) (circleCorner o i))
    (hr : ∀ j, j < o.nt → Tridiag.SPD (radialMain o nc j) (radialSub o nc j))
    (hi : ∀ i, i < o.nt → SparseLU.den ((SparseLU.factorRows (innerCSR o)).2.getD i []) i ≠ 0) :
    LinesOK o nc := by
  refine ⟨?_, ?_, hi⟩
  · intro i hi0 hinc y hy
    exact C14.cyclic_solve (circleMain o i) (circleSub o i) y (circleCorner o i) (by simp [hy]) (by simp; omega)
      (by simp; omega) (hc i hi0 hinc)
  · intro j hj y hy
    exact C14.tridiag_solve_spd (radialMain o nc j) (radialSub o nc j) y _ (by simp [hy]) (by simp; omega) (hr j hj)

end Ordered

/-! ## 5  non-vacuity: a concrete operator on which `LinesOK` holds and the sweep runs -/

/-- across the origin (`bc = false`), `nr = 5`, `nt = 4`, non-uniform spacings, non-zero mixed coefficient `art` -/
def exOp : Op ℚ :=
  { nr := 5, nt := 4, bc := false, r0 := 1 / 2, h := fun i => 1 + i, k := fun j => if j % 2 = 0 then 1 else 2,
    arr := fun i j => 1 + i + j, att := fun i j => 2 + i * j, art := fun i j => (i : ℚ) - j,
    det := fun i _ => 1 + i, beta := fun i => i }

/-- the code's test `std::abs(diag) < 1e-12` -/
def exTiny : ℚ → Bool := fun d => decide (|d| < 1 / 1000000000000)
def exF : Stencil.Field ℚ := fun i j => 1 + i * j
def exX : Array ℚ := ofField 5 4 (fun i j => (i : ℚ) - j)
/-- the result of the code-level sweep (20 rationals, computed by the kernel) -/
def exY : Array ℚ := (sweep exOp exTiny 2 exF exX).getD #[]

/-- the hypotheses of `linesOK_of_spd` hold for `exOp` (the line matrices are strictly diagonally dominant, the pivots
    of the innermost circle's LU do not vanish), hence `LinesOK` -/
theorem exOp_linesOK : LinesOK exOp 2 := by
  apply linesOK_of_spd exOp 2 (by decide) (by decide)
  · intro i h0 h1
    have : i = 1 := by omega
    subst this
    exact C14.sddc_is_spdc _ _ _ (by decide +kernel) (by decide +kernel)
  · intro j hj
    have hj' : j < 4 := hj
    exact C14.sdd_is_spd _ _
      ((by decide +kernel : ∀ j, j < 4 → (radialSub exOp 2 j).length + 1 = (radialMain exOp 2 j).length) j hj')
      ((by decide +kernel : ∀ j, j < 4 → Tridiag.SDD (radialMain exOp 2 j) (radialSub exOp 2 j)) j hj')
  · intro i hi
    have hi' : i < 4 := hi
    exact (by decide +kernel :
      ∀ i, i < 4 → SparseLU.den ((SparseLU.factorRows (innerCSR exOp)).2.getD i []) i ≠ 0) i hi'

/-- the sweep returns (no pivot is `tiny`) -/
theorem exY_spec : sweep exOp exTiny 2 exF exX = some exY := by
  obtain ⟨y, hy⟩ := code_sweep_total exOp 2 exTiny exF exX (by decide +kernel)
  rw [exY, hy]; rfl

/-- all hypotheses of `code_sweep_isSweep` hold on the instance, so its conclusion does -/
example : IsSweep exOp 2 exF (fld 4 exX) (fld 4 exY) :=
  code_sweep_isSweep exOp 2 exTiny exF exX exY (by decide) (by decide) (by decide) (by decide) (by decide +kernel)
    exOp_linesOK exY_spec

/-- independent check by evaluation: the 20 sweep equations hold for the computed `exY`, the sweep changed the iterate,
    and the outer Dirichlet values are the data -/
example : (∀ i, i < 5 → ∀ j, j < 4 → defect exOp 2 exF (fld 4 exX) (fld 4 exY) i j = 0) ∧
    fld 4 exY 1 1 ≠ fld 4 exX 1 1 ∧ fld 4 exY 3 2 ≠ fld 4 exX 3 2 ∧
    (∀ j, j < 4 → fld 4 exY 4 j = exF 4 j) := by decide +kernel

/-- `code_sweep_total` on the instance -/
example : ∃ y, sweep exOp exTiny 2 exF exX = some y :=
  code_sweep_total exOp 2 exTiny exF exX (by decide +kernel)

/-! ## 6  the hypothesis `2 ≤ nt` of `radial_split` is needed -/

/-- `radial_split` without a hypothesis on `nt` is false.  With `nt = 1` the angular
    neighbours of a node are the node itself, so the "Bottom"/"Top" couplings that `orthoRadial` takes from the old
    iterate `u` are read from the new line values `v` by the operator row (`nt ≥ 2` holds on every smoothing level). -/
theorem radial_split_needs_nt :
    ¬ ∀ (o : Op ℚ) (nc : Nat) (f u : Stencil.Field ℚ) (v : Nat → ℚ) (i j : Nat),
      2 ≤ nc → nc + 3 ≤ o.nr → nc ≤ i → i < o.nr → v (o.nr - 1) = f (o.nr - 1) j →
      take o f (withRadial nc u j v) i j = orthoRadial o nc f u i j - radialRow o nc j v i := by
  intro h
  have := h { exOp with nt := 1 } 2 (fun _ _ => 0) (fun _ _ => 1) (fun _ => 0) 3 0 (by decide) (by decide) (by decide)
    (by decide) rfl
  revert this
  decide +kernel

end C06c
