import GMGModel.Setup
import GMGProofs.Props.C01
import GMGProofs.Lemmas.Setup2
/-!
# C20 / C02 / C09 (orchestration) — `solve()` touches only what `setup()` provided

Model: `GMGModel/Setup.lean` (decision table of `setup()`: operator objects per level, built right-hand sides, initial
smoother switch) against the control-flow IR of `GMGModel/Cycle.lean` / `Solve.lean` (every program `solve()` can run).
For every level count ≥ 2, extrapolation mode, cycle type, FMG setting, FMG cycle type / iteration count and smoothing
counts: no instruction calls an operator object that was not initialised (`… not initialized` exceptions of
`src/Level/level.cpp`), indexes a level that does not exist, reads a level right-hand side that was not built, or writes a
right-hand side.  Helper lemmas in `GMGProofs/Lemmas/Setup1.lean`, `Setup2.lean`.
-/
namespace C20s
open MGCycle Setup

/-- the smoother switch `setup()` leaves is consistent with the mode -/
theorem fgs_after_setup (mode : Nat) : fgsConsistent mode (fgsAfterSetup mode) = true := by
  unfold fgsConsistent fgsAfterSetup
  match mode with
  | 0 | 1 | 2 | 3 | n + 4 => rfl

/-- … and `solve()` keeps it consistent: the top of `solve()` re-arms it only for COMBINED, the loop clears it only for COMBINED -/
theorem fgs_rearm (mode : Nat) (fgs : Bool) (h : fgsConsistent mode fgs = true) :
    fgsConsistent mode (if mode == 3 then true else fgs) = true := by
  match mode, h with
  | 0, h | 1, h | 2, h | n + 4, h => simpa using h
  | 3, _ => rfl

theorem fgs_switch (mode : Nat) (fgs sw : Bool) (h : fgsConsistent mode fgs = true) (hsw : sw = true → mode = 3) :
    fgsConsistent mode (if sw then false else fgs) = true := by
  cases sw with
  | false => simpa using h
  | true => cases hsw rfl; rfl

/-- **the stop test's residual evaluation** -/
theorem stop_ok (c : Setup.Cfg) (h2 : 2 ≤ c.levels) :
    progOK c (stopResidual (c.extrapMode != 0)) = true := by
  have h1 := rhsLevels_pos c h2
  have w0r : wref c (0, .res) := ⟨by omega, by simp⟩
  have w0s : wref c (0, .sol) := ⟨by omega, by simp⟩
  have r0 : rref c (0, .rhs) := ⟨by omega, fun _ => by show 0 < rhsLevels c; omega⟩
  have hA : instrOK c (.residual 0 (0, .res) (0, .rhs) (0, .sol)) = true := ok_residual w0r r0 w0s.rref
  by_cases hm : c.extrapMode = 0
  · have e : (c.extrapMode != 0) = false := by simp [hm]
    simp only [stopResidual, e, progOK_append, progOK_cons, progOK_nil, hA, Bool.false_eq_true, if_false, Bool.and_true]
  · have e : (c.extrapMode != 0) = true := by simp [hm]
    have hr2 := rhsLevels_two c h2 hm
    have w1s : wref c (1, .sol) := ⟨by omega, by simp⟩
    have w1r : wref c (1, .res) := ⟨by omega, by simp⟩
    have r1 : rref c (1, .rhs) := ⟨by omega, fun _ => by show 1 < rhsLevels c; omega⟩
    simp only [stopResidual, e, progOK_append, progOK_cons, progOK_nil, hA, if_true, ok_inject w1s w0s.rref,
      ok_residual w1r r1 w1s.rref, ok_exResidual w0r w1r.rref, Bool.and_true]

/-- **one top-level cycle** of any type on the finest level; holds for every mode value (no `extrapMode ≤ 3` needed:
    the `default:` branch of `setup()` creates both smoothers on level 0) -/
theorem cycle_ok (c : Setup.Cfg) (cy : MGCycle.Cfg) (hl : cy.levels = c.levels) (h2 : 2 ≤ c.levels)
    (k : Kind) (fgs : Bool) (hf : fgsConsistent c.extrapMode fgs = true) :
    progOK c (cycleAt cy k (c.extrapMode != 0) fgs 0) = true :=
  cycleAt0_ok c cy hl h2 k fgs hf

/-- **the start-up** (`initializeSolution`: zero start, or FMG from the coarsest level with cycles on every level) -/
theorem init_ok (c : Setup.Cfg) (cy : MGCycle.Cfg) (hl : cy.levels = c.levels) (h2 : 2 ≤ c.levels)
    (fmgKind : Kind) (fmgIters : Nat) (fgs : Bool) (hf : fgsConsistent c.extrapMode fgs = true) :
    progOK c (initSolution cy c.fmg fmgKind fmgIters (c.extrapMode != 0) fgs (c.levels - 1)) = true := by
  unfold initSolution
  cases hfmg : c.fmg with
  | false =>
    have w0 : wref c (0, .sol) := ⟨by omega, by simp⟩
    simp only [Bool.not_false, if_true, progOK_cons, progOK_nil, ok_zero w0, Bool.and_true]
  | true =>
    have hrl := rhsLevels_fmg c hfmg
    have wl : wref c (c.levels - 1, .sol) := ⟨by omega, by simp⟩
    have rl : rref c (c.levels - 1, .rhs) := ⟨by omega, fun _ => by show c.levels - 1 < rhsLevels c; omega⟩
    simp only [Bool.not_true, Bool.false_eq_true, if_false, hl, progOK_append, progOK_cons, progOK_nil, ok_copy wl rl,
      ok_directSolve (ops_direct_last c (c.levels - 1) (by omega) rfl) wl,
      fmgLoop_ok c cy hl h2 hfmg fmgKind fmgIters fgs hf (c.levels - 1) (by omega), Bool.and_true]

/-- no program of `solve()` writes a level right-hand side (so what is read is what `setup()` built), stated on the IR -/
theorem rhs_never_written (cy : MGCycle.Cfg) (k : Kind) (ex fgs : Bool) (d : Nat) :
    ∀ i ∈ cycleAt cy k ex fgs d, ∀ r ∈ Setup.writes i, r.2 ≠ Buf.rhs := by
  intro i hi r hr
  have e : Setup.writes i = MGCycle.writes i := by cases i <;> rfl
  exact (cycleAt_writes cy k ex fgs d i hi r (e ▸ hr)).ne_rhs (by decide) (by decide)

/-! ### the model sees the defect classes (negative theorems on concrete configurations) -/

/-- a one-level hierarchy (what `chooseNumberOfLevels` must never return) is NOT ok: the FMG start-up calls the
    direct solver of level 0, which `setup()` did not create ("Coarse Solver not initialized") -/
theorem one_level_not_ok :
    progOK ⟨1, 0, true, 1, fun _ => 1⟩ (initSolution ⟨1, 1, 1⟩ true .V 0 false true 0) = false := by
  decide

/-- COMBINED extrapolation reads the right-hand side of level 1: a setup that builds it on level 0 only is NOT ok -/
theorem combined_needs_level1_rhs :
    (stopResidual true).all (fun i => (refs i).all fun r => r.2 != Buf.rhs || decide (r.1 < 1)) = false := by
  decide

/-- IMPLICIT_EXTRAPOLATION has no plain smoother on level 0: a plain cycle there is NOT ok -/
theorem implicit_has_no_plain_smoother :
    progOK ⟨3, 1, false, 1, fun _ => 1⟩ (cycleAt ⟨3, 1, 1⟩ .V false false 0) = false := by
  decide

end C20s
