import GMGProofs.Lemmas.SchedOrder
import GMGProofs.Props.C11o
/-!
# C12 (second part) — the owner-computes parallel regions do not depend on the thread count or the schedule

Frame lemma and the general determinism theorem: `GMGProofs/Lemmas/SchedOrder.lean`.

`C12.generated_regions_deterministic` is the statement for the twelve kernel-dispatch regions; here is the same statement
for all the other `#pragma omp parallel …` regions (`Owner.Gen.all`, regenerated from the C++ on every check).  The loops
that may run concurrently are those not separated by a barrier (`Owner.pairs`); the work items are the pairs
`(loop position, iteration)`; the footprint of a work item is `OLoop.touches` (reads and writes alike).  C11
(`C11o.owner_regions_race_free`) makes the footprints pairwise non-interfering, so every order of the work items — whatever
the thread count, chunking and interleaving — gives the same memory, for every value type `V`, in particular IEEE doubles.

Execution model as in C12: a barrier interval is executed as its work items in *some* order (serialisation; that a
data-race-free OpenMP program has only such executions is the OpenMP memory model's guarantee, not proved here).
Reduction loops (`kind = .reduce`) touch no shared cell in this model; what the reduction clause computes is
`C12.reduce_chunks` / `C12.reduce_chunks_max`.
-/
namespace C12o
open Owner
open Sched.Order (Respects NonInterfering)

/-- a memory location of an owner-computes region: (array, row, column) -/
abbrev Cell := String × Int × Int

/-- footprint of iteration `t` of loop `l` as a set of cells -/
def foot (s : Sched.Shape) (l : Owner.OLoop) (t : Int) : Cell → Prop := fun x => l.touches s t x.1 x.2.1 x.2.2

/-- race freedom is exactly non-interference of the iteration footprints (reads = writes = `foot`): two distinct work
    items `(ia, t) ≠ (ib, t')` whose loop positions are equal, or not separated by a barrier, do not interfere -/
theorem nonInterfering_of_raceFree {s : Sched.Shape} {reg : Owner.ORegion} (hrf : Owner.RaceFree s reg)
    {ia ib : Nat} {t t' : Int} (hia : ia < reg.loops.length)
    (hpair : ia < ib → (ia, ib) ∈ Owner.pairs reg) (hpair' : ib < ia → (ib, ia) ∈ Owner.pairs reg)
    (ht : (reg.loops.getD ia default).iter s t) (ht' : (reg.loops.getD ib default).iter s t')
    (hne : (ia, t) ≠ (ib, t')) :
    NonInterfering (foot s (reg.loops.getD ia default) t) (foot s (reg.loops.getD ia default) t)
      (foot s (reg.loops.getD ib default) t') (foot s (reg.loops.getD ib default) t') := by
  -- reads = writes = `foot`: no common cell is non-interference
  have key {l l' : Owner.OLoop} {t t' : Int} (h : ∀ a r c, ¬ (l.touches s t a r c ∧ l'.touches s t' a r c)) :
      NonInterfering (foot s l t) (foot s l t) (foot s l' t') (foot s l' t') :=
    ⟨fun x hw hor => h _ _ _ ⟨hw, hor.elim id id⟩, fun x hw hor => h _ _ _ ⟨hor.elim id id, hw⟩⟩
  rcases Nat.lt_trichotomy ia ib with hlt | rfl | hgt
  · exact key (hrf.2 (ia, ib) (hpair hlt) t t' ht ht')
  · have hmem : reg.loops.getD ia default ∈ reg.loops := by
      rw [List.getD_eq_getElem?_getD, List.getElem?_eq_getElem hia]; exact List.getElem_mem hia
    exact key (hrf.1 _ hmem t t' ht ht' fun e => hne (by rw [e]))
  · exact (key (hrf.2 (ib, ia) (hpair' hgt) t' t ht' ht)).symm

/-- … and conversely: non-interfering footprints have no common cell -/
theorem disjoint_of_nonInterfering {s : Sched.Shape} {l l' : Owner.OLoop} {t t' : Int}
    (h : NonInterfering (foot s l t) (foot s l t) (foot s l' t') (foot s l' t')) (a : String) (r c : Int) :
    ¬ (l.touches s t a r c ∧ l'.touches s t' a r c) :=
  fun ⟨h1, h2⟩ => h.1 (a, r, c) h1 (Or.inr h2)

/-- determinism of ANY race-free owner-computes region (generated or not) -/
theorem owner_deterministic_of_raceFree {V : Type} (s : Sched.Shape) (reg : Owner.ORegion) (hrf : Owner.RaceFree s reg)
    (I : List Nat) (hI : ∀ ia ∈ I, ∀ ib ∈ I, ia < ib → (ia, ib) ∈ Owner.pairs reg)
    (run : Nat → Int → (Cell → V) → (Cell → V))
    (hrun : ∀ ia ∈ I, ∀ t, (reg.loops.getD ia default).iter s t →
      Respects (run ia t) (foot s (reg.loops.getD ia default) t) (foot s (reg.loops.getD ia default) t))
    (items items' : List (Nat × Int))
    (hmem : ∀ p ∈ items, p.1 ∈ I ∧ p.1 < reg.loops.length ∧ (reg.loops.getD p.1 default).iter s p.2)
    (hp : items.Perm items') (m : Cell → V) :
    items.foldl (fun acc p => run p.1 p.2 acc) m = items'.foldl (fun acc p => run p.1 p.2 acc) m :=
  Sched.Order.determinism (fun p => run p.1 p.2) (fun p => foot s (reg.loops.getD p.1 default) p.2)
    (fun p => foot s (reg.loops.getD p.1 default) p.2) hp (fun p hp => hrun p.1 (hmem p hp).1 p.2 (hmem p hp).2.2)
    (fun p hp q hq hpq => nonInterfering_of_raceFree hrf (hmem p hp).2.1 (hI _ (hmem p hp).1 _ (hmem q hq).1)
      (hI _ (hmem q hq).1 _ (hmem p hp).1) (hmem p hp).2.2 (hmem q hq).2.2 hpq) m

set_option linter.unusedVariables false in
/-- **determinism of the owner-computes regions**: for every generated region, every shape, every set `I` of loop positions
    that are pairwise not separated by a barrier (i.e. that may run concurrently), if the code of each iteration respects its
    footprint (`Respects (run ia t) (foot …) (foot …)`: it writes only its own cells, and what it writes depends only on
    them — every other array it reads is not written in the region), then any two orders of the work items
    `(loop position, iteration)` give the same memory, for every value type `V` (hence bit for bit in double).
    (`hnd` is not needed: a work item commutes with itself.) -/
theorem owner_regions_deterministic {V : Type} (s : Sched.Shape) (reg : Owner.ORegion) (hreg : reg ∈ Owner.Gen.all)
    (I : List Nat) (hI : ∀ ia ∈ I, ∀ ib ∈ I, ia < ib → (ia, ib) ∈ Owner.pairs reg)
    (run : Nat → Int → (Cell → V) → (Cell → V))
    (hrun : ∀ ia ∈ I, ∀ t, (reg.loops.getD ia default).iter s t →
      Respects (run ia t) (foot s (reg.loops.getD ia default) t) (foot s (reg.loops.getD ia default) t))
    (items items' : List (Nat × Int)) (hnd : items.Nodup)
    (hmem : ∀ p ∈ items, p.1 ∈ I ∧ p.1 < reg.loops.length ∧ (reg.loops.getD p.1 default).iter s p.2)
    (hp : items.Perm items') (m : Cell → V) :
    items.foldl (fun acc p => run p.1 p.2 acc) m = items'.foldl (fun acc p => run p.1 p.2 acc) m :=
  owner_deterministic_of_raceFree s reg (C11o.owner_regions_race_free reg hreg s) I hI run hrun items items' hmem hp m

/-! ## non-vacuity and sensitivity -/

open Classical in
/-- a concrete code for the work items of a region: iteration `t` of loop `ia` writes the constant `ia + 1` to its own cells -/
noncomputable def paint (s : Sched.Shape) (reg : Owner.ORegion) (ia : Nat) (t : Int) (m : Cell → Nat) : Cell → Nat :=
  fun x => if foot s (reg.loops.getD ia default) t x then ia + 1 else m x

theorem paint_respects (s : Sched.Shape) (reg : Owner.ORegion) (ia : Nat) (t : Int) :
    Respects (paint s reg ia t) (foot s (reg.loops.getD ia default) t) (foot s (reg.loops.getD ia default) t) := by
  classical
  exact ⟨fun _ _ hx => if_neg hx, fun _ _ _ _ hx => by simp only [paint, if_pos hx]⟩

/-- the hypotheses of `owner_regions_deterministic` are satisfiable with concurrent work: the optimised prolongation on the
    shape `⟨9, 8, 4⟩`, both `nowait` loops (`I = [0, 1]`), the code `paint`, one circle row (loop 0, `i_r = 3`) and two
    radial columns (loop 1, `i_θ = 5, 6`).  The final memory really is changed (cell `(3, 5)` is written by loop 0,
    `(6, 5)` by loop 1, `(3, 9)` by nobody), and the reversed order gives the same memory. -/
example :
    let s : Sched.Shape := ⟨9, 8, 4⟩
    let reg := Gen.rsrc_Interpolation_prolongation_cpp_1
    let I : List Nat := [0, 1]
    let items : List (Nat × Int) := [(0, 3), (1, 5), (1, 6)]
    reg ∈ Gen.all ∧
    (∀ ia ∈ I, ∀ ib ∈ I, ia < ib → (ia, ib) ∈ pairs reg) ∧
    (∀ ia ∈ I, ∀ t, (reg.loops.getD ia default).iter s t →
      Respects (paint s reg ia t) (foot s (reg.loops.getD ia default) t) (foot s (reg.loops.getD ia default) t)) ∧
    items.Nodup ∧
    (∀ p ∈ items, p.1 ∈ I ∧ p.1 < reg.loops.length ∧ (reg.loops.getD p.1 default).iter s p.2) ∧
    items.foldl (fun acc p => paint s reg p.1 p.2 acc) (fun _ => 0) ("result", 3, 5) = 1 ∧
    items.foldl (fun acc p => paint s reg p.1 p.2 acc) (fun _ => 0) ("result", 6, 5) = 2 ∧
    items.foldl (fun acc p => paint s reg p.1 p.2 acc) (fun _ => 0) ("result", 3, 9) = 0 ∧
    items.foldl (fun acc p => paint s reg p.1 p.2 acc) (fun _ => 0) =
      items.reverse.foldl (fun acc p => paint s reg p.1 p.2 acc) (fun _ => 0) := by
  intro s reg I items
  have hpairs : pairs reg = [(0, 1)] := by rfl
  have hI : ∀ ia ∈ I, ∀ ib ∈ I, ia < ib → (ia, ib) ∈ pairs reg := by
    intro ia hia ib hib hlt
    simp only [I, List.mem_cons, List.not_mem_nil, or_false] at hia hib
    rw [hpairs]
    rcases hia with rfl | rfl <;> rcases hib with rfl | rfl <;> simp at hlt ⊢
  have hnd : items.Nodup := by decide
  have hmem : ∀ p ∈ items, p.1 ∈ I ∧ p.1 < reg.loops.length ∧ (reg.loops.getD p.1 default).iter s p.2 := by
    intro p hp
    simp only [items, List.mem_cons, List.not_mem_nil, or_false] at hp
    rcases hp with rfl | rfl | rfl <;>
      simp [I, reg, s, Gen.rsrc_Interpolation_prolongation_cpp_1, OLoop.iter]
  refine ⟨by simp [reg, Gen.all], hI, fun ia _ t _ => paint_respects s reg ia t, hnd, hmem, ?_, ?_, ?_, ?_⟩
  · simp [items, paint, foot, reg, s, Gen.rsrc_Interpolation_prolongation_cpp_1, OLoop.touches]
  · simp [items, paint, foot, reg, s, Gen.rsrc_Interpolation_prolongation_cpp_1, OLoop.touches]
  · simp [items, paint, foot, reg, s, Gen.rsrc_Interpolation_prolongation_cpp_1, OLoop.touches]
  · exact owner_regions_deterministic s reg (by simp [reg, Gen.all]) I hI (paint s reg)
      (fun ia _ t _ => paint_respects s reg ia t) items items.reverse hnd hmem (List.reverse_perm items).symm _

/-- the race-freedom hypothesis is needed: in the region `C11o.badProlongation` (circle loop one row too far) the work items
    "row 4 of loop 0" and "column 0 of loop 1" both own cell `(4, 0)`; with the code `paint` the two orders differ -/
example :
    let s : Sched.Shape := ⟨9, 8, 4⟩
    let reg := C11o.badProlongation
    ([(0, 4), (1, 0)] : List (Nat × Int)).foldl (fun acc p => paint s reg p.1 p.2 acc) (fun _ => 0) ("result", 4, 0) = 2 ∧
    ([(1, 0), (0, 4)] : List (Nat × Int)).foldl (fun acc p => paint s reg p.1 p.2 acc) (fun _ => 0) ("result", 4, 0) = 1 := by
  intro s reg
  constructor <;> simp [paint, foot, reg, s, C11o.badProlongation, OLoop.touches]

end C12o
