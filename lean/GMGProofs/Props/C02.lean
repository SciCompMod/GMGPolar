import GMGProofs.Lemmas.RhsLemmas
import GMGProofs.Props.C03
import GMGProofs.Props.C05
import Mathlib.Algebra.Order.Field.Rat
import Mathlib.Tactic.NormNum
import Mathlib.Tactic.FieldSimp
/-!
# C02 — consistency ingredients of the right-hand side assembly

Property theorems only.  Model: `GMGModel/Rhs.lean` (`pdeRow`, `build`, `discretize`; transcribes
`build_rhs_f.cpp`) against the operator `Stencil.take`.  `Rhs.constData o c` / `Rhs.constLoad o c`
(data and discrete load of the constant solution `u ≡ c`, source `β c`, boundary value `c`) are defined in
`GMGProofs/Lemmas/RhsLemmas.lean`.  Any geometry, any grid, both boundary modes, any field `K`.
-/
namespace C02
open Stencil Rhs

variable {K : Type} [_root_.Field K]

/-! ## 1  load and mass term are compatible: constants are reproduced -/

/-- the residual of the constant `c` against the load of `β c`: in a 9-point row all difference terms vanish, the four mixed
    terms cancel and the mass term equals the load; an identity row reproduces the boundary value; only the two mixed terms
    of the 7-point closure across the origin are left -/
theorem take_constLoad (o : Op K) (c : K) (i j : Nat) :
    take o (constLoad o c) (fun _ _ => c) i j
      = if i = 0 ∧ o.bc = false then quarter * c * (o.art 0 (jp o j) - o.art 0 (jm o j)) else 0 := by
  cases hp : pdeRow o i
  · rw [take_of_not_pdeRow o _ _ i j hp, if_neg fun ⟨h0, hbc⟩ => by subst h0; rw [pdeRow_origin o hbc] at hp; cases hp]
    simp only [constLoad, constData, discretize, hp, Bool.false_eq_true, if_false, sub_self]
  · rcases Nat.eq_zero_or_pos i with rfl | h0
    · have hbc : o.bc = false := by
        cases h : o.bc
        · rfl
        · rw [pdeRow_inner_dirichlet o h] at hp; cases hp
      rw [take_origin o _ _ hbc, if_pos ⟨rfl, hbc⟩]
      simp only [takeOrigin, constLoad, constData, discretize, hp, if_true]
      ring
    · have h1 : i + 1 < o.nr := by
        by_contra h; rw [pdeRow_outer o h0 (by omega)] at hp; cases hp
      rw [take_interior o _ _ j h0 h1, if_neg fun h => h0.ne' h.1]
      simp only [takeInterior, constLoad, constData, discretize, hp, if_true, if_neg h0.ne']
      ring

/-- the across-the-origin row: the residual of a constant is `¼ c (art₀,ⱼ₊₁ − art₀,ⱼ₋₁)` — the two mixed
    terms of the 7-point closure do NOT cancel in general -/
theorem origin_row_constant_defect (o : Op K) (hbc : o.bc = false) (c : K) (j : Nat) :
    take o (constLoad o c) (fun _ _ => c) 0 j
      = quarter * c * (o.art 0 (jp o j) - o.art 0 (jm o j)) := by
  rw [take_constLoad, if_pos ⟨rfl, hbc⟩]

/-- Dirichlet rows (outer boundary, inner boundary when `DirBC_Interior`, and every row index beyond) -/
theorem load_mass_compat_dirichlet (o : Op K) (c : K) (i j : Nat) (h : pdeRow o i = false) :
    take o (constLoad o c) (fun _ _ => c) i j = 0 := by
  rw [take_constLoad, if_neg fun ⟨h0, hbc⟩ => by subst h0; rw [pdeRow_origin o hbc] at h; cases h]

/-- 9-point rows: with the load of `β c` the constant `c` has zero residual -/
theorem load_mass_compat_interior (o : Op K) (c : K) (i j : Nat) (h0 : 0 < i) (h1 : i + 1 < o.nr) :
    take o (constLoad o c) (fun _ _ => c) i j = 0 := by
  rw [take_constLoad, if_neg fun h => by omega]

/-- **load_mass_compat**: constants are reproduced at every row `0 < i`, at the Dirichlet row `0`, and at
    the across-the-origin row under `art 0 (j-1) = art 0 (j+1)` -/
theorem load_mass_compat (o : Op K) (c : K) (i j : Nat)
    (hrow : 0 < i ∨ o.bc = true ∨ o.art 0 (jm o j) = o.art 0 (jp o j)) :
    take o (constLoad o c) (fun _ _ => c) i j = 0 := by
  rw [take_constLoad]
  split_ifs with h
  · obtain ⟨rfl, hbc⟩ := h
    rcases hrow with h | h | h
    · omega
    · exact not_across h hbc
    · rw [h, sub_self, mul_zero]
  · rfl

/-- the same statement with the load written out -/
theorem load_mass_compat' (o : Op K) (c : K) (i j : Nat)
    (hrow : 0 < i ∨ o.bc = true ∨ o.art 0 (jm o j) = o.art 0 (jp o j)) :
    take o (discretize o (fun i _ => if pdeRow o i then o.beta i * c else c)) (fun _ _ => c) i j = 0 :=
  load_mass_compat o c i j hrow

/-- over a field of characteristic ≠ 2 the condition at the origin row is also necessary (for `c ≠ 0`) -/
theorem origin_row_constant_iff (o : Op K) (h2 : (2 : K) ≠ 0) (hbc : o.bc = false) (c : K) (hc : c ≠ 0)
    (j : Nat) :
    take o (constLoad o c) (fun _ _ => c) 0 j = 0 ↔ o.art 0 (jm o j) = o.art 0 (jp o j) := by
  rw [origin_row_constant_defect o hbc, mul_eq_zero, or_iff_right (mul_ne_zero (quarter_ne_zero h2) hc), sub_eq_zero,
    eq_comm]

/-- **negative result** (documents the "artificial 7-point stencil" of the across-the-origin closure; a
    limit of what can be claimed, not a property violation): for `C03.exOp` (`bc = false`, `art` varying
    along circle 0) the constant `1` is NOT reproduced at node (0, 0) — the residual is `1/2` -/
theorem origin_row_not_constant_exact :
    C03.exOp.bc = false ∧ take C03.exOp (constLoad C03.exOp 1) (fun _ _ => 1) 0 0 = 1 / 2 ∧
    take C03.exOp (constLoad C03.exOp 1) (fun _ _ => 1) 0 0 ≠ 0 := by
  have h : take C03.exOp (constLoad C03.exOp 1) (fun _ _ => 1) 0 0 = 1 / 2 := by decide +kernel
  exact ⟨rfl, h, by rw [h]; norm_num⟩

/-! ## 2  Dirichlet rows reproduce the data -/

/-- `discretize_rhs_f` leaves the Dirichlet rows untouched -/
theorem discretize_dirichlet (o : Op K) (f : Stencil.Field K) (i j : Nat) (h : pdeRow o i = false) :
    discretize o f i j = f i j := by
  simp [discretize, h]

/-- Dirichlet rows: the boundary data, unscaled -/
theorem rhs_program_dirichlet (o : Op K) (src bdIn bdOut : Stencil.Field K) (i j : Nat)
    (hp : pdeRow o i = false) :
    discretize o (build o src bdIn bdOut) i j = if i = 0 then bdIn i j else bdOut i j := by
  rw [discretize_dirichlet o _ _ j hp]
  simp only [build, hp]
  rfl

/-- an identity row has zero residual iff `x` equals the right-hand side there -/
theorem dirichlet_row_exact (o : Op K) (f x : Stencil.Field K) (i j : Nat) (hp : pdeRow o i = false) :
    take o f x i j = 0 ↔ x i j = f i j := by
  rw [take_of_not_pdeRow o f x i j hp, sub_eq_zero, eq_comm]

/-- outer boundary row: zero residual iff `x` equals the outer boundary data -/
theorem dirichlet_exact_outer (o : Op K) (hnr : 2 ≤ o.nr) (src bdIn bdOut x : Stencil.Field K) (j : Nat) :
    take o (discretize o (build o src bdIn bdOut)) x (o.nr - 1) j = 0 ↔ x (o.nr - 1) j = bdOut (o.nr - 1) j := by
  have hp : pdeRow o (o.nr - 1) = false := pdeRow_outer o (by omega) (by omega)
  rw [dirichlet_row_exact o _ x _ j hp, rhs_program_dirichlet o _ _ _ _ j hp, if_neg (by omega)]

/-- inner boundary row (`DirBC_Interior`): zero residual iff `x` equals the inner boundary data -/
theorem dirichlet_exact_inner (o : Op K) (hbc : o.bc = true) (src bdIn bdOut x : Stencil.Field K) (j : Nat) :
    take o (discretize o (build o src bdIn bdOut)) x 0 j = 0 ↔ x 0 j = bdIn 0 j := by
  have hp : pdeRow o 0 = false := pdeRow_inner_dirichlet o hbc
  rw [dirichlet_row_exact o _ x _ j hp, rhs_program_dirichlet o _ _ _ _ j hp, if_pos rfl]

/-- the same before the load scaling (`build_rhs_f` alone) -/
theorem dirichlet_exact_build (o : Op K) (src bdIn bdOut x : Stencil.Field K) (i j : Nat)
    (hp : pdeRow o i = false) :
    take o (build o src bdIn bdOut) x i j = 0 ↔ x i j = (if i = 0 then bdIn i j else bdOut i j) := by
  rw [dirichlet_row_exact o _ x i j hp, ← rhs_program_dirichlet o src bdIn bdOut i j hp, discretize_dirichlet o _ i j hp]

/-! ## 3  the right-hand side program -/

/-- `pdeRow` is exactly the row classification of the operator: non-PDE rows are identity rows -/
theorem non_pde_rows_identity (o : Op K) (f x : Stencil.Field K) (i j : Nat) (h : pdeRow o i = false) :
    take o f x i j = f i j - x i j := take_of_not_pdeRow o f x i j h

/-- 9-point rows: source × `¼(h₁+h₂)(k₁+k₂)·det` -/
theorem rhs_program_interior (o : Op K) (src bdIn bdOut : Stencil.Field K) (i j : Nat)
    (h0 : 0 < i) (h1 : i + 1 < o.nr) :
    discretize o (build o src bdIn bdOut) i j
      = src i j * (quarter * (o.h (i - 1) + o.h i) * (o.k (jm o j) + o.k j) * o.det i j) := by
  simp only [discretize, build, pdeRow_interior o h0 h1, if_true, if_neg (by omega : ¬ i = 0)]

/-- across-the-origin row: `h₁ = 2 r₀` -/
theorem rhs_program_origin (o : Op K) (hbc : o.bc = false) (src bdIn bdOut : Stencil.Field K) (j : Nat) :
    discretize o (build o src bdIn bdOut) 0 j
      = src 0 j * (quarter * (2 * o.r0 + o.h 0) * (o.k (jm o j) + o.k j) * o.det 0 j) := by
  simp only [discretize, build, pdeRow_origin o hbc, if_true, Scalar.n_eq, Nat.cast_ofNat]

/-- source and mass term carry the SAME weight `¼(h₁+h₂)(k₁+k₂)·det`: the residual of a 9-point row is
    weight × `(src − β x)` plus the diffusion part (`take o 0 x` with its mass term removed) -/
theorem load_is_mass_weight (o : Op K) (src bdIn bdOut x : Stencil.Field K) (i j : Nat)
    (h0 : 0 < i) (h1 : i + 1 < o.nr) :
    take o (discretize o (build o src bdIn bdOut)) x i j
      = quarter * (o.h (i - 1) + o.h i) * (o.k (jm o j) + o.k j) * o.det i j * (src i j - o.beta i * x i j)
        + take o (fun _ _ => 0) x i j
        + quarter * (o.h (i - 1) + o.h i) * (o.k (jm o j) + o.k j) * o.beta i * o.det i j * x i j := by
  rw [take_interior o _ _ j h0 h1, take_interior o _ _ j h0 h1]
  simp only [takeInterior, rhs_program_interior o _ _ _ i j h0 h1]
  ring

/-! ## 4  radial fluxes -/

/-- for `art = 0`, `β_i = 0` and `x` depending on `i` only, the 9-point row reduces to the difference of
    the two radial fluxes (the angular terms vanish) -/
theorem radial_flux_telescopes (o : Op K) (f : Stencil.Field K) (g : Nat → K) (i j : Nat)
    (hart : ∀ a b, o.art a b = 0) (hbeta : o.beta i = 0) :
    takeInterior o f (fun a _ => g a) i j
      = f i j - (-(half * (o.k (jm o j) + o.k j) / o.h (i - 1) * (o.arr i j + o.arr (i - 1) j) * (g (i - 1) - g i))
          - half * (o.k (jm o j) + o.k j) / o.h i * (o.arr i j + o.arr (i + 1) j) * (g (i + 1) - g i)) := by
  simp only [takeInterior, hart, hbeta]
  ring

/-- flux form: with `F i := ½(k₁+k₂)/h_i · (arr_{i,j} + arr_{i+1,j}) · (g_{i+1} − g_i)` the row reads
    `f − (F_{i-1} − F_i)`; summing over `i` telescopes -/
theorem radial_flux_form (o : Op K) (f : Stencil.Field K) (g : Nat → K) (i j : Nat) (h0 : 0 < i)
    (hart : ∀ a b, o.art a b = 0) (hbeta : o.beta i = 0) :
    let F : Nat → K := fun m => half * (o.k (jm o j) + o.k j) / o.h m * (o.arr m j + o.arr (m + 1) j) * (g (m + 1) - g m)
    takeInterior o f (fun a _ => g a) i j = f i j - (F (i - 1) - F i) := by
  intro F
  rw [radial_flux_telescopes o f g i j hart hbeta]
  simp only [F]
  have : i - 1 + 1 = i := by omega
  rw [this]
  ring

/-- **circ_linear_exact**: circular geometry (`arr = ½ r`, `art = 0`, `det = r`; `att` arbitrary), no
    reaction term, any non-uniform grid `r_{i+1} = r_i + h_i`: the discrete 9-point row is EXACT for
    `u(r, θ) = r`, whose source is `-Δ r = -1/r` -/
theorem circ_linear_exact (o : Op K) (h2 : (2 : K) ≠ 0) (r : Nat → K) (i j : Nat)
    (h0 : 0 < i) (h1 : i + 1 < o.nr)
    (hr : ∀ a, r (a + 1) = r a + o.h a)
    (harr : ∀ a b, o.arr a b = half * r a) (hart : ∀ a b, o.art a b = 0)
    (hdet : o.det i j = r i) (hbeta : o.beta i = 0)
    (hri : r i ≠ 0) (hh1 : o.h (i - 1) ≠ 0) (hh2 : o.h i ≠ 0) :
    take o (discretize o (fun a _ => -(1 / r a))) (fun a _ => r a) i j = 0 := by
  have h4 := four_ne_zero_of_two h2
  have e1 : r (i - 1) = r i - o.h (i - 1) := by
    have := hr (i - 1)
    rw [(by omega : i - 1 + 1 = i)] at this
    exact eq_sub_of_add_eq this.symm
  have e2 := hr i
  rw [take_interior o _ _ j h0 h1]
  simp only [takeInterior, discretize, pdeRow_interior o h0 h1, if_true, if_neg (by omega : ¬ i = 0),
    harr, hart, hdet, hbeta, e1, e2, half_eq, quarter_eq, sub_self, mul_zero, zero_mul, add_zero, sub_zero]
  field_simp
  ring

/-! ## non-vacuity -/

/-- the origin-row hypothesis of `load_mass_compat` is satisfiable across the origin (`C03.exOp` with an
    `art` independent of `j`), and the theorem then applies at all nodes -/
example : ∀ i j, take ({ C03.exOp with art := fun i _ => i } : Op ℚ)
    (constLoad { C03.exOp with art := fun i _ => i } 5) (fun _ _ => 5) i j = 0 :=
  fun i j => load_mass_compat _ 5 i j (Or.inr (Or.inr rfl))

example : pdeRow C03.exOp 0 = true ∧ pdeRow C03.exOp 1 = true ∧ pdeRow C03.exOp 3 = false ∧
    pdeRow C05.exOpD 0 = false := by decide

example : (∀ a b, ({ C03.exOp with art := fun _ _ => 0, beta := fun _ => 0 } : Op ℚ).art a b = 0) :=
  fun _ _ => rfl

/-- `circ_linear_exact` on a genuinely non-uniform radial grid: `h_a = a + 1`, `r_a = 1 + a(a+1)/2` -/
example : let o : Op ℚ :=
      { nr := 5, nt := 4, bc := true, r0 := 1, h := fun a => a + 1, k := fun b => 1 + b,
        arr := fun a _ => half * (1 + a * (a + 1) / 2), att := fun a b => 1 + a + b, art := fun _ _ => 0,
        det := fun a _ => 1 + a * (a + 1) / 2, beta := fun _ => 0 }
    take o (discretize o (fun a _ => -(1 / (1 + (a : ℚ) * (a + 1) / 2)))) (fun a _ => 1 + (a : ℚ) * (a + 1) / 2) 2 1
      = 0 := by
  intro o
  exact circ_linear_exact o (by norm_num) (fun a => 1 + (a : ℚ) * (a + 1) / 2) 2 1 (by decide) (by decide)
    (fun a => by simp only [o]; push_cast; ring) (fun _ _ => rfl) (fun _ _ => rfl) rfl rfl
    (by norm_num) (by simp only [o]; norm_num) (by simp only [o]; norm_num)

end C02
