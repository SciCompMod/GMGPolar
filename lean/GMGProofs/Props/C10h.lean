import GMGProofs.Props.C10g
import GMGProofs.Props.C17
import GMGProofs.Lemmas.CoarsenChain
/-!
# The size hypotheses of C10c–C10g hold for every hierarchy `setup()` builds

The whole-cycle theorems (C10c … C10g) assume per-level size conditions (`4 ≤ nt`, `nt` even, `2 ≤ nc`, `nc + 3 ≤ nr`, odd `nr` for the
extrapolated smoother, `nc ≥ 3` for the extrapolated give smoother, `4 ≤ nr, nt` on the coarsest level).  Here they are DERIVED from the
theorems about the code that produces the hierarchy: `GridGen.chooseLevels` and the coarsening chain (`GridGenL.chain_sizes`), the
automatic circle / radial split `Grid.Split.autoNc` (C17: `splitAuto_bounds`), for every finest shape `nr × nt`, every level cap and
every (floating-point) split criterion.  What remains a hypothesis of the whole-cycle theorems is then only about the DATA: the
boundary mode, ellipticity of the transformed coefficients (C03 `ellipticity`) and, across the origin, the antipodal symmetry of the
angular spacing.
-/
namespace C10h
open MGCycle Concrete Stencil GridGen GridGenL Grid

section
variable {K : Type} [Scalar K]

/-- the hierarchy has the shapes the coarsening chain gives to a finest `nr × nt` grid, and on every level the automatic split
    (with that level's own floating-point criterion `crit l`) -/
structure BuiltBy (H : Hier K) (nr nt : Nat) (crit : Nat → Nat → Bool) (L : Nat) : Prop where
  shapeR : ∀ l, l < L → (lvl H l).op.nr = coarsenR l nr
  shapeT : ∀ l, l < L → (lvl H l).op.nt = coarsenT l nt
  split : ∀ l, l < L → (lvl H l).nc = Split.autoNc (crit l) (coarsenR l nr)

/-- **every size hypothesis of the whole-cycle theorems**, for every hierarchy built from an accepted level count -/
theorem built_sizes (H : Hier K) (nr nt : Nat) (maxLevels : Int) (L : Nat) (crit : Nat → Nat → Bool)
    (h : chooseLevels nr nt maxLevels = .ok L) (hb : BuiltBy H nr nt crit L) :
    2 ≤ L ∧
    (∀ l, l + 1 < L →
      4 ≤ (lvl H l).op.nt ∧ (lvl H l).op.nt % 4 = 0 ∧ (lvl H l).op.nr % 2 = 1 ∧
      3 ≤ (lvl H l).nc ∧ (lvl H l).nc + 3 ≤ (lvl H l).op.nr) ∧
    5 ≤ (lvl H (L - 1)).op.nr ∧ 4 ≤ (lvl H (L - 1)).op.nt ∧ (lvl H (L - 1)).op.nt % 2 = 0 ∧
    (∀ l, l + 1 < L → (lvl H (l + 1)).op.nr = ((lvl H l).op.nr + 1) / 2 ∧ (lvl H (l + 1)).op.nt = (lvl H l).op.nt / 2) := by
  obtain ⟨h2, hc⟩ := chain_sizes h
  -- the coarsest level is the successor of the last smoothing level `L - 2`
  obtain ⟨-, -, -, -, -, -, r5, t4, te⟩ := hc (L - 2) (by omega)
  rw [show L - 2 + 1 = L - 1 by omega] at r5 t4 te
  rw [← hb.shapeR (L - 1) (by omega)] at r5
  rw [← hb.shapeT (L - 1) (by omega)] at t4 te
  refine ⟨h2, fun l hl => ?_, r5, t4, te, fun l hl => ?_⟩
  · obtain ⟨o, n9, m4, n8, -⟩ := hc l hl
    have sb := C17.splitAuto_bounds (crit l) (coarsenR l nr) (by omega)
    rw [hb.shapeR l (by omega), hb.shapeT l (by omega), hb.split l (by omega)]
    exact ⟨by omega, m4, o, sb.2.2 (by omega), sb.2.1⟩
  · obtain ⟨-, -, -, -, eR, eT, -⟩ := hc l hl
    rw [hb.shapeR (l + 1) hl, hb.shapeT (l + 1) hl, hb.shapeR l (by omega), hb.shapeT l (by omega)]
    exact ⟨eR, eT⟩

/-- more than the whole-cycle theorems use: a smoothing level of a built hierarchy has at least 9 × 8 nodes -/
theorem built_sizes_smoothing (H : Hier K) (nr nt : Nat) (maxLevels : Int) (L : Nat) (crit : Nat → Nat → Bool)
    (h : chooseLevels nr nt maxLevels = .ok L) (hb : BuiltBy H nr nt crit L) :
    ∀ l, l + 1 < L → 9 ≤ (lvl H l).op.nr ∧ 8 ≤ (lvl H l).op.nt := by
  intro l hl
  obtain ⟨-, n9, -, n8, -⟩ := (chain_sizes h).2 l hl
  rw [hb.shapeR l (by omega), hb.shapeT l (by omega)]
  exact ⟨n9, n8⟩

/-- level 1 of a built hierarchy, smoothing level or coarsest, has at least two circles: the side condition the implicitly
    extrapolated cycle puts on level 1 -/
theorem built_nr1 {H : Hier K} {nr nt : Nat} {maxLevels : Int} {L : Nat} {crit : Nat → Nat → Bool}
    (h : chooseLevels nr nt maxLevels = .ok L) (hb : BuiltBy H nr nt crit L) : 2 ≤ (lvl H 1).op.nr := by
  obtain ⟨h2, hs, r5, -⟩ := built_sizes H nr nt maxLevels L crit h hb
  by_cases hL : L = 2
  · subst hL
    exact le_trans (by decide) r5
  · have := (hs 1 (by omega)).2.2.2.2
    omega

end

section AnyField
variable {K : Type} [_root_.Field K]

/-- the three size hypotheses of the give = take theorems (smoothing levels, coarsest level, the extrapolated give smoother on
    level 0); only the antipodal symmetry of the angular spacing across the origin is left -/
theorem giveOK_of_built {H : Hier K} {nr nt : Nat} {maxLevels : Int} {L : Nat} {crit : Nat → Nat → Bool}
    (h : chooseLevels nr nt maxLevels = .ok L) (hb : BuiltBy H nr nt crit L)
    (hk : ∀ l, l < L → (lvl H l).op.bc = false → ∀ j, j < (lvl H l).op.nt → (lvl H l).op.k (ja (lvl H l).op j) = (lvl H l).op.k j) :
    (∀ l, l + 1 < L → C10g.GiveLevelOK (lvl H l)) ∧ C10g.GiveCoarseOK (lvl H (L - 1)) ∧
      ExSmootherGiveCode.Admissible C07g.genTables (lvl H 0).op (lvl H 0).nc := by
  obtain ⟨h2, hs, r5, t4, te, -⟩ := built_sizes H nr nt maxLevels L crit h hb
  refine ⟨fun l hl => ?_, ⟨by omega, t4, te, hk (L - 1) (by omega)⟩, ?_⟩
  · obtain ⟨t4, m4, -, c3, c⟩ := hs l hl
    exact ⟨t4, by omega, by omega, c, hk l (by omega)⟩
  · obtain ⟨t4, m4, o, c3, c⟩ := hs 0 (by omega)
    exact ⟨C07g.genTables_good, c3, c, o, t4, by omega, fun _ => m4, hk 0 (by omega)⟩

end AnyField

section Ordered
variable {K : Type} [_root_.Field K] [LinearOrder K] [IsStrictOrderedRing K]

omit [IsStrictOrderedRing K] in
/-- what a built level lacks to be `C10d.LevelOK` is about the data: Dirichlet inner boundary and elliptic coefficients -/
theorem levelOK_of_built {H : Hier K} {nr nt : Nat} {maxLevels : Int} {L : Nat} {crit : Nat → Nat → Bool}
    (h : chooseLevels nr nt maxLevels = .ok L) (hb : BuiltBy H nr nt crit L) {l : Nat} (hl : l + 1 < L)
    (hbc : (lvl H l).op.bc = true) (hell : Elliptic (lvl H l).op) : C10d.LevelOK (lvl H l) := by
  obtain ⟨t4, m4, -, c3, c⟩ := (built_sizes H nr nt maxLevels L crit h hb).2.1 l hl
  exact ⟨t4, by omega, by omega, c, hbc, hell⟩

/-- C10d for built hierarchies: the concrete V-, W-, F-cycle leaves the exact discrete solution alone — no size is assumed -/
theorem concrete_exact_fixed_built (H : Hier K) (nr nt : Nat) (maxLevels : Int) (L : Nat) (crit : Nat → Nat → Bool)
    (h : chooseLevels nr nt maxLevels = .ok L) (hb : BuiltBy H nr nt crit L)
    (hdata : ∀ l, l + 1 < L → (lvl H l).op.bc = true ∧ Elliptic (lvl H l).op)
    (k : Kind) (nu1 nu2 : Nat) (fgs : Bool) (u f : Array K) (ht1 : H.tiny 1 = false)
    (M : SparseLU.CSR K) (hM : DirectCode.assemble H.tables (lvl H (L - 1)).op = some M)
    (ht : ∀ r, r < M.rows → H.tiny (SparseLU.den ((SparseLU.factorRows M).2.getD r []) r) = false)
    (hu : u.size = (lvl H 0).op.nr * (lvl H 0).op.nt)
    (hsol : ∀ i j, i < (lvl H 0).op.nr → j < (lvl H 0).op.nt →
      take (lvl H 0).op (SmootherCode.fld (lvl H 0).op.nt f) (SmootherCode.fld (lvl H 0).op.nt u) i j = 0)
    (m : Mem (Option (Array K))) (hm : m (0, Buf.sol) = some u) (hr : m (0, Buf.rhs) = some f) :
    cycle H ⟨L, nu1, nu2⟩ k false fgs m (0, Buf.sol) = some u :=
  C10d.concrete_exact_fixed_depth H L (built_sizes H nr nt maxLevels L crit h hb).1 k nu1 nu2 fgs u f
    (fun l hl => levelOK_of_built h hb hl (hdata l hl).1 (hdata l hl).2) ht1 M hM ht hu hsol m hm hr

/-- C10d for built hierarchies, implicitly extrapolated cycle with either level-0 smoother: the odd `nr` the extrapolated smoother
    needs and the side condition on level 1 of a two-level hierarchy are derived, not assumed -/
theorem concrete_exact_fixed_extrap_built (H : Hier K) (nr nt : Nat) (maxLevels : Int) (L : Nat) (crit : Nat → Nat → Bool)
    (h : chooseLevels nr nt maxLevels = .ok L) (hb : BuiltBy H nr nt crit L)
    (hdata : ∀ l, l + 1 < L → (lvl H l).op.bc = true ∧ Elliptic (lvl H l).op)
    (k : Kind) (nu1 nu2 : Nat) (fgs : Bool) (u f f1 : Array K) (ht1 : H.tiny 1 = false)
    (M : SparseLU.CSR K) (hM : DirectCode.assemble H.tables (lvl H (L - 1)).op = some M)
    (ht : ∀ r, r < M.rows → H.tiny (SparseLU.den ((SparseLU.factorRows M).2.getD r []) r) = false)
    (hu : u.size = (lvl H 0).op.nr * (lvl H 0).op.nt)
    (hsol : ∀ i j, i < (lvl H 0).op.nr → j < (lvl H 0).op.nt →
      take (lvl H 0).op (SmootherCode.fld (lvl H 0).op.nt f) (SmootherCode.fld (lvl H 0).op.nt u) i j = 0)
    (hsol1 : ∀ i j, i < (lvl H 1).op.nr → j < (lvl H 1).op.nt →
      take (lvl H 1).op (SmootherCode.fld (lvl H 1).op.nt f1)
        (Interp.inject (SmootherCode.fld (lvl H 0).op.nt u)) i j = 0)
    (m : Mem (Option (Array K))) (hm : m (0, Buf.sol) = some u) (hr : m (0, Buf.rhs) = some f)
    (hr1 : m (1, Buf.rhs) = some f1) :
    cycle H ⟨L, nu1, nu2⟩ k true fgs m (0, Buf.sol) = some u := by
  obtain ⟨h2, hs, -⟩ := built_sizes H nr nt maxLevels L crit h hb
  have hlev : ∀ l, l + 1 < L → C10d.LevelOK (lvl H l) :=
    fun l hl => levelOK_of_built h hb hl (hdata l hl).1 (hdata l hl).2
  have hnr1 : L = 2 → (lvl H 1).op.bc = true ∨ 2 ≤ (lvl H 1).op.nr := fun _ => Or.inr (built_nr1 h hb)
  cases fgs
  · exact C10d.concrete_exact_fixed_extrap H L h2 k nu1 nu2 u f f1 hlev (hs 0 (by omega)).2.2.1 ht1 M hM ht hu hsol hnr1 hsol1
      m hm hr hr1
  · exact C10d.concrete_exact_fixed_extrap_fgs H L h2 k nu1 nu2 u f f1 hlev ht1 M hM ht hu hsol hnr1 hsol1 m hm hr hr1

end Ordered

section AnyField
variable {K : Type} [_root_.Field K]

/-- C10g for built hierarchies: give = take for whole cycles — only the antipodal symmetry of the angular spacing (across the origin)
    remains a hypothesis -/
theorem give_cycle_eq_take_cycle_built (H : Hier K) (G : GiveTables) (hG : G.direct = C04g.genTablesGive)
    (htab : H.tables = C04c.genTables) (nr nt : Nat) (maxLevels : Int) (L : Nat) (crit : Nat → Nat → Bool)
    (h : chooseLevels nr nt maxLevels = .ok L) (hb : BuiltBy H nr nt crit L)
    (hk : ∀ l, l < L → (lvl H l).op.bc = false → ∀ j, j < (lvl H l).op.nt → (lvl H l).op.k (ja (lvl H l).op j) = (lvl H l).op.k j)
    (k : Kind) (nu1 nu2 : Nat) (fgs : Bool) (u f : Array K)
    (hu : u.size = (lvl H 0).op.nr * (lvl H 0).op.nt)
    (m : Mem (Option (Array K))) (hm : m (0, Buf.sol) = some u) (hr : m (0, Buf.rhs) = some f) :
    cycleGive H G ⟨L, nu1, nu2⟩ k false fgs m (0, Buf.sol) = cycle H ⟨L, nu1, nu2⟩ k false fgs m (0, Buf.sol) := by
  obtain ⟨hlev, hcoarse, -⟩ := giveOK_of_built h hb hk
  exact C10g.give_cycle_eq_take_cycle H G hG htab L (chain_sizes h).1 k nu1 nu2 fgs u f hlev hcoarse hu m hm hr

/-- C10g for built hierarchies, implicitly extrapolated cycles (both level-0 smoothers): everything `ExSmootherGiveCode.Admissible` lists about
    sizes (odd `nr`, `nc ≥ 3`, `nt % 4 = 0`) is derived -/
theorem give_excycle_eq_take_excycle_built (H : Hier K) (G : GiveTables) (hG : G.direct = C04g.genTablesGive)
    (hGe : G.exSmoother = C07g.genTables)
    (htab : H.tables = C04c.genTables) (nr nt : Nat) (maxLevels : Int) (L : Nat) (crit : Nat → Nat → Bool)
    (h : chooseLevels nr nt maxLevels = .ok L) (hb : BuiltBy H nr nt crit L)
    (hk : ∀ l, l < L → (lvl H l).op.bc = false → ∀ j, j < (lvl H l).op.nt → (lvl H l).op.k (ja (lvl H l).op j) = (lvl H l).op.k j)
    (k : Kind) (nu1 nu2 : Nat) (fgs : Bool) (u f f1 : Array K)
    (hu : u.size = (lvl H 0).op.nr * (lvl H 0).op.nt)
    (m : Mem (Option (Array K))) (hm : m (0, Buf.sol) = some u) (hr : m (0, Buf.rhs) = some f)
    (hr1 : m (1, Buf.rhs) = some f1) :
    cycleGive H G ⟨L, nu1, nu2⟩ k true fgs m (0, Buf.sol) = cycle H ⟨L, nu1, nu2⟩ k true fgs m (0, Buf.sol) := by
  obtain ⟨hlev, hcoarse, hex⟩ := giveOK_of_built h hb hk
  exact C10g.give_excycle_eq_take_excycle H G hG htab L (chain_sizes h).1 k nu1 nu2 fgs u f f1 hlev hcoarse (fun _ => hGe ▸ hex)
    hu m hm hr hr1

end AnyField

/-! ## non-vacuity: a four-level hierarchy over ℚ with the shapes and splits `setup()` gives to a 33 × 64 grid -/

/-- `33 → 17 → 9 → 5`, `64 → 32 → 16 → 8` -/
example : chooseLevels 33 64 (-1) = .ok 4 := rfl
example : chooseLevels 33 64 3 = .ok 3 := rfl
example : chooseLevels 17 32 0 = .ok 3 := rfl
example : chooseLevels 9 16 (-1) = .ok 2 := rfl
example : chooseLevels 129 128 (-1) = .ok 6 := rfl

/-- a level of any shape: non-uniform spacings, a genuinely mixed coefficient, Dirichlet inner boundary -/
def exOp (nr nt : Nat) : Op ℚ :=
  { nr := nr, nt := nt, bc := true, r0 := 1 / 10, h := fun i => 1 + i, k := fun j => 1 + j,
    arr := fun i j => 1 + i + j, att := fun i j => 2 + i * j, art := fun _ _ => 1,
    det := fun i _ => 1 + i, beta := fun i => i }

theorem exOp_elliptic (nr nt : Nat) : Elliptic (exOp nr nt) :=
  C10c.exCoeff_elliptic nr nt true (1 / 10) _ _ (fun i => by show (0 : ℚ) < 1 + i; positivity)
    (fun j => by show (0 : ℚ) < 1 + j; positivity)

/-- a split criterion that depends on the level and on the circle (level 0 and 1: first true at circle 4; level 2: never true,
    so the `nc < 3 ∧ nr > 5` correction gives 3; level 3, `nr = 5`: the loop ends at once, `nc = 2`) -/
def exCrit : Nat → Nat → Bool := fun l i => decide (l < 2 ∧ 4 ≤ i)

/-- the level `l` of the chain from `33 × 64` -/
def exLevel (l : Nat) : LevelData ℚ := ⟨exOp (coarsenR l 33) (coarsenT l 64), Split.autoNc (exCrit l) (coarsenR l 33)⟩

def exH : Hier ℚ := ⟨[exLevel 0, exLevel 1, exLevel 2, exLevel 3], [], C06c.exTiny, C04c.genTables⟩

/-- the four levels: 33 × 64 with `nc = 4`, 17 × 32 with `nc = 4`, 9 × 16 with `nc = 3`, 5 × 8 with `nc = 2` -/
example : (List.range 4).map (fun l => ((lvl exH l).op.nr, (lvl exH l).op.nt, (lvl exH l).nc))
    = [(33, 64, 4), (17, 32, 4), (9, 16, 3), (5, 8, 2)] := by decide

theorem exH_lvl (l : Nat) (hl : l < 4) : lvl exH l = exLevel l := by
  rcases (by omega : l = 0 ∨ l = 1 ∨ l = 2 ∨ l = 3) with rfl | rfl | rfl | rfl <;> rfl

/-- **`BuiltBy` is satisfiable** -/
theorem exH_built : BuiltBy exH 33 64 exCrit 4 :=
  ⟨fun l h => congrArg (·.op.nr) (exH_lvl l h), fun l h => congrArg (·.op.nt) (exH_lvl l h),
    fun l h => congrArg (·.nc) (exH_lvl l h)⟩

theorem exH_data : ∀ l, l + 1 < 4 → (lvl exH l).op.bc = true ∧ Elliptic (lvl exH l).op := by
  intro l hl
  rw [exH_lvl l (by omega)]
  exact ⟨rfl, exOp_elliptic _ _⟩

/-- Dirichlet inner boundary on every level: the symmetry hypothesis of the give = take theorems is void -/
theorem exH_hk (l : Nat) (hl : l < 4) (h : (lvl exH l).op.bc = false) :
    ∀ j, j < (lvl exH l).op.nt → (lvl exH l).op.k (ja (lvl exH l).op j) = (lvl exH l).op.k j := by
  rw [exH_lvl l hl] at h
  exact absurd (show true = false from h) (by decide)

/-- every size clause, instantiated -/
example : ∀ l, l + 1 < 4 → C10d.LevelOK (lvl exH l) :=
  fun l hl => levelOK_of_built (maxLevels := -1) rfl exH_built hl (exH_data l hl).1 (exH_data l hl).2

/-- the 40 pivots of the coarsest (5 × 8) matrix, evaluated exactly: none is tiny -/
theorem exH_pivots :
    (DirectCode.assemble C04c.genTables (exOp 5 8)).all (fun M => (List.range M.rows).all fun r =>
      !C06c.exTiny (SparseLU.den ((SparseLU.factorRows M).2.getD r []) r)) = true := by
  decide +kernel

/-- a field that is not zero and its right-hand side `f := A u` on the 33 × 64 level -/
def exU : Array ℚ := SmootherCode.ofField 33 64 fun i j => 1 + (i : ℚ) * i - 3 * j
def exF : Array ℚ := SmootherCode.ofField 33 64 (A (exOp 33 64) (SmootherCode.fld 64 exU))

/-- `concrete_exact_fixed_built` applies: all hypotheses hold jointly, for a solution that is not zero -/
example (k : Kind) (nu1 nu2 : Nat) (fgs : Bool) (m : Mem (Option (Array ℚ)))
    (hm : m (0, Buf.sol) = some exU) (hr : m (0, Buf.rhs) = some exF) :
    cycle exH ⟨4, nu1, nu2⟩ k false fgs m (0, Buf.sol) = some exU ∧ SmootherCode.fld 64 exU 0 10 = -29 := by
  obtain ⟨M, hM⟩ := C04c.assemble_in_bounds (exOp 5 8) (by decide)
  refine ⟨concrete_exact_fixed_built exH 33 64 (-1) 4 exCrit rfl exH_built exH_data k nu1 nu2 fgs exU exF C10c.exTiny_one M hM
    (pivots_not_tiny _ _ _ exH_pivots M hM) Array.size_ofFn (take_ofField_A (exOp 33 64) 33 64 _) m hm hr, ?_⟩
  rw [exU, SmootherCode.fld_ofField 33 64 _ 0 10 (by decide) (by decide)]
  norm_num

/-- `give_cycle_eq_take_cycle_built` applies (Dirichlet inner boundary: the symmetry hypothesis is void), for every iterate of
    the right size and every right-hand side -/
example (k : Kind) (nu1 nu2 : Nat) (fgs : Bool) (u f : Array ℚ) (hu : u.size = 33 * 64) (m : Mem (Option (Array ℚ)))
    (hm : m (0, Buf.sol) = some u) (hr : m (0, Buf.rhs) = some f) :
    cycleGive exH C10g.genG ⟨4, nu1, nu2⟩ k false fgs m (0, Buf.sol) = cycle exH ⟨4, nu1, nu2⟩ k false fgs m (0, Buf.sol) :=
  give_cycle_eq_take_cycle_built exH C10g.genG rfl rfl 33 64 (-1) 4 exCrit rfl exH_built exH_hk k nu1 nu2 fgs u f hu m hm hr

end C10h
