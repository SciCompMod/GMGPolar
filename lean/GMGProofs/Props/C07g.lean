import GMGModel.ExSmootherGiveCode
import Generated.Stencils
import GMGProofs.Props.C07c
import GMGProofs.Lemmas.ExSmootherGiveArrays
import GMGProofs.Lemmas.ExSmootherGiveSweep
/-!
# C07 (code level, give) — `ExtrapolatedSmootherGive` assembles the same line systems, builds the same `temp` and performs the
same sweep as `ExtrapolatedSmootherTake`

Model: `GMGModel/ExSmootherGiveCode.lean` (every node ACCUMULATES its contributions into the solver object of its own line and
into those of its neighbours, in the sequential node order, into zero-initialised storage; the scatter kernels `temp[…] -= …` of
`smootherSolver.cpp` colour phase by colour phase; the sequential sweep), instantiated with the offset tables
`tools/stencil_extract.py` regenerates from `extrapolatedSmootherGive.h` (`Generated/Stencils.lean`, `ExSmootherGive_*`).

The hypotheses (`Admissible`): the header's tables; `3 ≤ nc` and `nc + 3 ≤ nr` (both asserted by the C++; with two circles the
node `(1, j)` stores into the never-constructed `circle_diagonal_solver_[0]`: `nc_two_out_of_bounds`); `nr` odd (with `nr` even
the row `nr - 2` of an even radial line is a coarse node the give assembly treats as fine while its neighbour does not give to
it: `nr_odd_needed`); `nt` even and `≥ 4`; across the origin `nt` divisible by 4 (asserted by the C++: otherwise the `Left`
store of an odd node goes beyond the one-slot row of its even antipode: `nt_six_out_of_bounds`) and antipodally symmetric
angular spacing (`hk_needed`).  Every smoothed level of a solver that was set up successfully has `nr` odd and `nt` divisible
by 4 (`C18.levels_admissible`), uniform refinement keeps the angular spacing antipodally symmetric.

Holds the regenerated tables `genTables`, the property theorems and instances; helper lemmas in
`GMGProofs/Lemmas/ExSmootherGive{Stores,Diag,Off,Arrays}.lean`
(the assembly), `ExSmootherGive{Circle,Radial}.lean` (`temp`), `ExSmootherGiveSweep.lean`; what both give smoothers share is in
`GiveCommon.lean`.
-/
namespace C07g
open Stencil Smoother ExSmootherGiveCode
open SmootherCode (fld ofField blackCircles whiteCircles blackRadials whiteRadials)

/-- the offset tables of the give header, as regenerated on every check -/
def genTables : Tables := ⟨Stencils.Gen.ExSmootherGive_stencil_center, Stencils.Gen.ExSmootherGive_stencil_center_left⟩

/-- the regenerated tables have the values the lemmas are stated for (a change of the header breaks this `rfl`) -/
theorem genTables_good : GoodTables genTables := ⟨rfl, rfl⟩

section AnyField
variable {K : Type} [_root_.Field K]

/-! ## 1  the assembly -/

/-- no store of the scatter assembly leaves its array -/
theorem exgive_assemble_in_bounds (T : Tables) (o : Op K) (nc : Nat) (A : Admissible T o nc) :
    ∃ m, assemble T o nc = some m := by
  obtain ⟨mf, h, _⟩ := assemble_values T o nc A
  exact ⟨mf, h⟩

/-- the shape of the solver vectors: `circle_diagonal_solver_[0]` keeps dimension 0, every other element has the dimension
    of its line (lengths only) -/
theorem exgive_shape (T : Tables) (o : Op K) (nc : Nat) (A : Admissible T o nc) (m : Mem K)
    (hm : assemble T o nc = some m) :
    (m (.cd 0)).length = 0 ∧
    (∀ k, k < nc / 2 → (m (.ctMain k)).length = o.nt ∧ (m (.ctSub k)).length = o.nt - 1) ∧
    (∀ k, 0 < k → k < nc - nc / 2 → (m (.cd k)).length = o.nt) ∧
    (∀ k, k < o.nt / 2 → (m (.rtMain k)).length = o.nr - nc ∧ (m (.rtSub k)).length = o.nr - nc - 1 ∧
      (m (.rd k)).length = o.nr - nc) := by
  obtain ⟨mf, h, hl, _⟩ := assemble_values T o nc A
  rw [h] at hm
  obtain rfl := Option.some.inj hm
  refine ⟨by rw [hl]; simp [alloc], fun k hk => ?_, fun k h0 hk => ?_, fun k hk => ?_⟩
  · constructor <;> rw [hl] <;> simp [alloc, hk]
  · rw [hl]; simp [alloc, h0, hk]
  · refine ⟨?_, ?_, ?_⟩ <;> rw [hl] <;> simp [alloc, hk]

/-- **every stored array of the scatter assembly equals the corresponding array of the gather assembly**
    (`GMGModel/ExSmootherCode.lean`): the cyclic tridiagonal solvers of the odd circles (main diagonal, sub-diagonal, corner
    element), the diagonal solvers of the even circles, the tridiagonal solvers of the odd radial lines (incl. the `0.0` next to
    the outer boundary), the diagonal solvers of the even radial lines, and the CSR matrix of the innermost circle slot by slot
    (column indices and values, storage order) -/
theorem exgive_matrices_eq_take (T : Tables) (o : Op K) (nc : Nat) (A : Admissible T o nc) (m : Mem K)
    (hm : assemble T o nc = some m) :
    (∀ i, 0 < i → i < nc → i % 2 = 1 → circleTriSolver m i = ExSmootherCode.circleTriSolver o i) ∧
    (∀ i, 0 < i → i < nc → ¬ i % 2 = 1 → circleDiag m i = ExSmootherCode.circleDiag o i) ∧
    (∀ j, j < o.nt → j % 2 = 1 → radialTriSolver m j = ExSmootherCode.radialTriSolver o nc j) ∧
    (∀ j, j < o.nt → ¬ j % 2 = 1 → radialDiag m j = ExSmootherCode.radialDiag o nc j) ∧
    innerCSR o m = ExSmootherCode.innerCSR o := by
  obtain ⟨mf, h, hl, hv, hf⟩ := assemble_values T o nc A
  rw [h] at hm
  obtain rfl := Option.some.inj hm
  exact ⟨circleTriSolver_eq T o nc mf A hl hv, vals_cd T o nc mf A hl hv, radialTriSolver_eq T o nc mf A hl hv,
    vals_rd T o nc mf A hl hv, innerCSR_eq T o nc mf A hl hv hf⟩

/-! ## 2  `temp` -/

set_option linter.unusedVariables false in
/-- **`temp` of the circle section**: after Asc-ortho(`colour`) has been scattered over the circle section (Black:
    `i_r = 0 … nc`, White: `i_r = 0 … nc - 1`), `temp` holds on every circle of that colour the value the gather kernel
    computes, `rhs - A_sc^ortho x` (`ExSmootherCode.orthoCircle`), provided it held the initial value
    (`rhs` at the fine nodes, `x` at the coarse nodes) before; all other entries of `temp` are untouched -/
theorem exgive_temp_eq_take_circle (o : Op K) (nc : Nat) (hnc : 3 ≤ nc) (hnt : 2 ≤ o.nt) (heven : o.nt % 2 = 0)
    (black : Bool) (f x t : Stencil.Field K) (a b : Nat) (hb : b < o.nt) :
    (a < nc → circleNodeBlack nc a = black → t a b = initTemp f x a b →
      ((circlePhase o nc black (lastOf nc black) x).foldl Stencil.applyUpd t) a b
        = ExSmootherCode.orthoCircle o nc f x a b) ∧
    ((nc ≤ a ∨ ¬ circleNodeBlack nc a = black) →
      ((circlePhase o nc black (lastOf nc black) x).foldl Stencil.applyUpd t) a b = t a b) :=
  ⟨fun ha hcol ht => circle_temp_own o nc black f x hnc heven t a b ha hb hcol ht,
   fun h => circle_temp_other o nc black x hnc heven t a b hb h⟩

set_option linter.unusedVariables false in
/-- **`temp` of the radial section**, likewise (`ExSmootherCode.orthoRadial`; a radial line is Black iff `i_theta` is
    even) -/
theorem exgive_temp_eq_take_radial (o : Op K) (nc : Nat) (hnc : 3 ≤ nc) (hnr : nc + 3 ≤ o.nr) (hodd : o.nr % 2 = 1)
    (hnt : 2 ≤ o.nt) (heven : o.nt % 2 = 0) (black : Bool) (f x t : Stencil.Field K) (a b : Nat) (ha : a < o.nr)
    (hb : b < o.nt) :
    (nc ≤ a → (!decide (b % 2 = 1)) = black → t a b = initTemp f x a b →
      ((radialPhase o nc black f x).foldl Stencil.applyUpd t) a b = ExSmootherCode.orthoRadial o nc f x a b) ∧
    ((a < nc ∨ ¬ (!decide (b % 2 = 1)) = black) →
      ((radialPhase o nc black f x).foldl Stencil.applyUpd t) a b = t a b) :=
  ⟨fun ha0 hcol ht => radial_temp_own o nc black f x hnc hnr hodd heven t a b ha0 ha hb hcol ht,
   fun h => radial_temp_other o nc black f x hnc hnr hodd heven t a b ha hb h⟩

set_option linter.unusedVariables false in
/-- all four scatter phases on one iterate (what the correspondence harness dumps): at EVERY node the gather kernel's value -/
theorem exgive_scatterAll_eq_take (o : Op K) (nc : Nat) (hnc : 3 ≤ nc) (hnr : nc + 3 ≤ o.nr) (hodd : o.nr % 2 = 1)
    (hnt : 2 ≤ o.nt) (heven : o.nt % 2 = 0) (f x : Stencil.Field K) (a b : Nat) (ha : a < o.nr) (hb : b < o.nt) :
    scatterAll o nc f x a b
      = if a < nc then ExSmootherCode.orthoCircle o nc f x a b else ExSmootherCode.orthoRadial o nc f x a b := by
  show (List.foldl Stencil.applyUpd (List.foldl Stencil.applyUpd (List.foldl Stencil.applyUpd
    (List.foldl Stencil.applyUpd (initTemp f x) (circlePhase o nc true (lastOf nc true) x))
    (circlePhase o nc false (lastOf nc false) x)) (radialPhase o nc true f x)) (radialPhase o nc false f x)) a b = _
  by_cases hac : a < nc
  · rw [if_pos hac,
      radial_temp_other o nc false f x hnc hnr hodd heven _ a b ha hb (Or.inl hac),
      radial_temp_other o nc true f x hnc hnr hodd heven _ a b ha hb (Or.inl hac)]
    by_cases hcol : circleNodeBlack nc a = true
    · rw [circle_temp_other o nc false x hnc heven _ a b hb (Or.inr (by rw [hcol]; simp))]
      exact circle_temp_own o nc true f x hnc heven _ a b hac hb hcol rfl
    · have hcol' : circleNodeBlack nc a = false := by simpa using hcol
      apply circle_temp_own o nc false f x hnc heven _ a b hac hb hcol'
      exact circle_temp_other o nc true x hnc heven _ a b hb (Or.inr (by rw [hcol']; simp))
  · rw [if_neg hac]
    have hge : nc ≤ a := by omega
    have hc0 : ∀ t : Stencil.Field K, ∀ bl : Bool,
        ((circlePhase o nc bl (lastOf nc bl) x).foldl Stencil.applyUpd t) a b = t a b :=
      fun t bl => circle_temp_other o nc bl x hnc heven t a b hb (Or.inl hge)
    by_cases hbo : b % 2 = 1
    · apply radial_temp_own o nc false f x hnc hnr hodd heven _ a b hge ha hb (by simp [hbo])
      rw [radial_temp_other o nc true f x hnc hnr hodd heven _ a b ha hb (Or.inr (by simp [hbo])), hc0, hc0]
    · rw [radial_temp_other o nc false f x hnc hnr hodd heven _ a b ha hb (Or.inr (by simp [hbo]))]
      apply radial_temp_own o nc true f x hnc hnr hodd heven _ a b hge ha hb (by simp [hbo])
      rw [hc0, hc0]

/-! ## 3  the sweep -/

/-- **the sequential sweep of the scatter strategy returns exactly what the sweep of the gather strategy returns**
    (the same array, or both take the sparse LU's exit branch): same stored matrices, same `temp` at the moment each line is
    solved, same line solves, same write-back -/
theorem exgive_sweep_eq_take_sweep (T : Tables) (o : Op K) (nc : Nat) (A : Admissible T o nc) (m : Mem K)
    (hm : assemble T o nc = some m) (tiny : K → Bool) (f : Stencil.Field K) (x : Array K)
    (hx : x.size = o.nr * o.nt) :
    sweep o m tiny nc f x = ExSmootherCode.sweep o tiny nc f x := by
  obtain ⟨M1, M2, M3, M4, M5⟩ := exgive_matrices_eq_take T o nc A m hm
  exact sweep_eq_take o nc f m tiny ⟨M5, M1, M2⟩ ⟨M3, M4⟩ A.hnc A.hnr A.hodd A.heven x hx

/-- the modelled class: constructor followed by one `extrapolatedSmoothing` -/
theorem exgive_run_eq_take (T : Tables) (o : Op K) (nc : Nat) (A : Admissible T o nc) (tiny : K → Bool)
    (f : Stencil.Field K) (x : Array K) (hx : x.size = o.nr * o.nt) :
    run T o tiny nc f x = some (ExSmootherCode.sweep o tiny nc f x) := by
  obtain ⟨m, hm⟩ := exgive_assemble_in_bounds T o nc A
  unfold run
  rw [hm, Option.map_some, exgive_sweep_eq_take_sweep T o nc A m hm tiny f x hx]

/-- **refinement** (property clause "is identical for both strategies"): whatever the modelled
    `ExtrapolatedSmootherGive::extrapolatedSmoothing` returns satisfies the equations of the extrapolated sweep of
    `GMGModel/Smoother.lean` — the theorem `C07c.code_exsweep_isExSweep` transfers -/
theorem exgive_code_sweep_isExSweep (T : Tables) (o : Op K) (nc : Nat) (A : Admissible T o nc) (m : Mem K)
    (hm : assemble T o nc = some m) (tiny : K → Bool) (f : Stencil.Field K) (x y : Array K)
    (hx : x.size = o.nr * o.nt) (hl : C07c.ExLinesOK o nc) (hs : sweep o m tiny nc f x = some y) :
    IsExSweep o nc f (fld o.nt x) (fld o.nt y) := by
  have hnc := A.hnc
  rw [exgive_sweep_eq_take_sweep T o nc A m hm tiny f x hx] at hs
  exact C07c.code_exsweep_isExSweep o nc tiny f x y A.hnt A.heven (by omega) A.hnr A.hodd hx hl hs

/-- corollary: the scatter sweep returns the coarse nodes unchanged — exact equality -/
theorem exgive_code_sweep_coarse_fixed (T : Tables) (o : Op K) (nc : Nat) (A : Admissible T o nc) (m : Mem K)
    (hm : assemble T o nc = some m) (tiny : K → Bool) (f : Stencil.Field K) (x y : Array K)
    (hx : x.size = o.nr * o.nt) (hl : C07c.ExLinesOK o nc) (hs : sweep o m tiny nc f x = some y)
    (i j : Nat) (hi : i < o.nr) (hj : j < o.nt) (hc : coarseNode i j = true) :
    fld o.nt y i j = fld o.nt x i j :=
  C07.coarse_fixed o nc f _ _ (exgive_code_sweep_isExSweep T o nc A m hm tiny f x y hx hl hs) i j hi hj hc

/-- corollary: every fine-only node satisfies its row equation for the iterate after its own colour phase -/
theorem exgive_code_sweep_phase_colour (T : Tables) (o : Op K) (nc : Nat) (A : Admissible T o nc) (m : Mem K)
    (hm : assemble T o nc = some m) (tiny : K → Bool) (f : Stencil.Field K) (x y : Array K)
    (hx : x.size = o.nr * o.nt) (hl : C07c.ExLinesOK o nc) (hs : sweep o m tiny nc f x = some y)
    (i j : Nat) (hi : i < o.nr) (hj : j < o.nt) (hc : coarseNode i j = false) :
    take o f (mix nc (phase nc i j) (fld o.nt x) (fld o.nt y)) i j = 0 :=
  C07.ex_phase_colour o nc f _ _ (exgive_code_sweep_isExSweep T o nc A m hm tiny f x y hx hl hs) _ i j hi hj rfl hc

/-- the scatter sweep returns (no `std::exit`) when the `tiny` test never fires on the pivots of the innermost circle -/
theorem exgive_code_sweep_total (T : Tables) (o : Op K) (nc : Nat) (A : Admissible T o nc) (m : Mem K)
    (hm : assemble T o nc = some m) (tiny : K → Bool) (f : Stencil.Field K) (x : Array K) (hx : x.size = o.nr * o.nt)
    (ht : ∀ i, i < o.nt →
      tiny (SparseLU.den ((SparseLU.factorRows (ExSmootherCode.innerCSR o)).2.getD i []) i) = false) :
    ∃ y, sweep o m tiny nc f x = some y := by
  rw [exgive_sweep_eq_take_sweep T o nc A m hm tiny f x hx]
  exact C07c.code_exsweep_total o nc tiny f x ht

end AnyField

/-! ## 4  non-vacuity and sharpness -/

/-- the operator of `C07c` (across the origin, `nr = 7`, `nt = 4`, three circles, non-uniform antipodally symmetric angular
    spacing) is admissible -/
theorem exOp_admissible : Admissible genTables C07c.exOp 3 := by
  refine ⟨genTables_good, by decide, by decide, by decide, by decide, by decide, fun _ => by decide, ?_⟩
  intro _ j hj
  have : j < 4 := hj
  rcases (by omega : j = 0 ∨ j = 1 ∨ j = 2 ∨ j = 3) with rfl | rfl | rfl | rfl <;> simp [C07c.exOp, ja]

/-- … and the modelled give class returns on it the 28 rationals `C07c.exY` the take class returns -/
theorem exOp_run : run genTables C07c.exOp C07c.exTiny 3 C07c.exF C07c.exX = some (some C07c.exY) := by
  rw [exgive_run_eq_take genTables C07c.exOp 3 exOp_admissible C07c.exTiny C07c.exF C07c.exX (by decide),
    C07c.exY_spec]

/-- `3 ≤ nc` is sharp: with two circles the odd node `(1, 1)` gives to the row of `(0, 1)` through
    `circle_diagonal_solver_[0]`, which was never constructed (`assert(i_r > 1)` of the class "next to radial section") -/
theorem nc_two_out_of_bounds : (assemble genTables { C07c.exOp with bc := true } 2).isNone = true := by
  decide +kernel

/-- across the origin `nt` must be divisible by 4: with `nt = 6` the antipode of the odd node `(0, 1)` is the even node
    `(0, 4)`, whose row has a single slot — the store through `LeftStencil[Left]` (offset 1) leaves the row
    (`assert((ntheta / 2) % 2 == 0)`) -/
theorem nt_six_out_of_bounds : (assemble genTables { C07c.exOp with nt := 6 } 3).isNone = true := by
  decide +kernel

/-- the antipodal symmetry of the angular spacing is needed across the origin: with `k = (1, 1, 1, 2)` the assembly
    does not return the inner matrix of the gather assembly -/
theorem hk_needed :
    (assemble genTables { C07c.exOp with k := fun j => if j = 3 then 2 else 1 } 3).map
        (fun m => (innerCSR { C07c.exOp with k := fun j => if j = 3 then 2 else 1 } m).values)
      ≠ some (ExSmootherCode.innerCSR { C07c.exOp with k := fun j => if j = 3 then 2 else 1 }).values := by
  decide +kernel

/-- `nr` odd is needed: with `nr = 8` the row `i = 6 = nr - 2` of the even radial line `j = 0` is a coarse node that both
    assemblies treat as fine, but its left neighbour (odd `i`, even `j`) gives nothing to it in the scatter assembly, which
    does not return the gather assembly's diagonal of that line -/
theorem nr_odd_needed :
    (assemble genTables { C07c.exOp with nr := 8 } 3).map (fun m => radialDiag m 0)
      ≠ some (ExSmootherCode.radialDiag { C07c.exOp with nr := 8 } 3 0) := by
  decide +kernel

end C07g
