import GMGProofs.Props.C10g
import GMGProofs.Props.C09s
import GMGProofs.Lemmas.ConcreteShift
/-!
# C09 at the level of the code-level models: the nested-iteration start-up executed over `Concrete.ops`

`C09s` is about the instruction program of `initializeSolution()` over abstract operators.  Here the operators are the code-level
models (`Concrete.ops`, `Concrete.opsGive`):
* `concrete_fmg_two_level`: two levels, no FMG cycles: the start vector is the FMG interpolation of a SOLUTION of the coarse system the
  code-level direct solver assembles, with the level-1 right-hand side — `A_c⁻¹` is the modelled direct solver, not an abstract operator;
* `concrete_start_total`: on admissible hierarchies (Dirichlet inner boundary on the smoothing levels, coarse `tiny` test silent) the
  start-up never ends in `none`, for any depth, FMG cycle type and iteration count, plain or implicitly extrapolated (either
  level-0 smoother), and returns an array of the level-0 size; of the initial memory only the PRESENCE of the level right-hand
  sides is needed (coarsest level always, the others if FMG cycles are run), not their sizes;
  `start_none_of_coarse_rhs_none`: an absent coarsest right-hand side does end in `none`;
* `give_start_eq_take_start`: the start-up over the give operators returns what the start-up over the take operators returns, with
  or without FMG, plain or implicitly extrapolated, for ANY initial memory (no hypothesis on the level right-hand sides) and any
  number of levels.
Property theorems and instances; helper lemmas in `GMGProofs/Lemmas/ConcreteCyc.lean` (abstract operators), `ConcreteOps.lean`, `ConcreteShift.lean`,
`ConcreteGive.lean`.
-/
namespace C09c
open MGCycle Concrete Stencil

section Ordered
variable {K : Type} [_root_.Field K] [LinearOrder K] [IsStrictOrderedRing K]

/-- **two levels, no FMG cycles**: if the start-up returns `some y`, then `y` is the FMG interpolation of a vector `e` of the size of
    level 1 that solves the coarse system with the level-1 right-hand side (any FMG cycle type, smoothing counts, plain or
    extrapolated: without FMG cycles none of them is used) -/
theorem concrete_fmg_two_level (H : Hier K) (fk : Kind) (nu1 nu2 : Nat) (ex fgs : Bool) (f1 y : Array K)
    (htab : H.tables = C04c.genTables)
    (hnr1 : 4 ≤ (lvl H 1).op.nr) (hnt1 : 4 ≤ (lvl H 1).op.nt) (heven1 : (lvl H 1).op.nt % 2 = 0)
    (hbc1 : (lvl H 1).op.bc = true) (he1 : Elliptic (lvl H 1).op)
    (hf1 : f1.size = (lvl H 1).op.nr * (lvl H 1).op.nt)
    (m : Mem (Option (Array K))) (hr1 : m (1, Buf.rhs) = some f1)
    (hy : start H ⟨2, nu1, nu2⟩ true fk 0 ex fgs m (0, Buf.sol) = some y) :
    ∃ e : Array K, e.size = (lvl H 1).op.nr * (lvl H 1).op.nt ∧
      (∀ I J, I < (lvl H 1).op.nr → J < (lvl H 1).op.nt →
        take (lvl H 1).op (SmootherCode.fld (lvl H 1).op.nt f1) (SmootherCode.fld (lvl H 1).op.nt e) I J = 0) ∧
      y = SmootherCode.ofField (lvl H 0).op.nr (lvl H 0).op.nt
            (Interp.fmgInterp (pair H 0) (SmootherCode.fld (lvl H 1).op.nt e)) := by
  unfold start at hy
  rw [C09s.fmg_two_level (ops H) ⟨2, nu1, nu2⟩ fk ex fgs m rfl, hr1] at hy
  exact ops_fmg_correction H f1 y htab hnr1 hnt1 heven1 hbc1 he1 hf1 hy

end Ordered

section AnyField
variable {K : Type} [_root_.Field K]

/-- **the start-up is total** (FMG on), plain (`ex = false`) and implicitly extrapolated (`ex = true`, either level-0 smoother): the
    hypotheses of `C10e.concrete_cycle_total_bc` on the hierarchy; of the initial memory: the right-hand side of the coarsest level
    is present, those of the other levels are present if FMG cycles are run (`0 < fi`).  No hypothesis on the SIZES of the level
    right-hand sides, no order on the field. -/
theorem concrete_start_total (H : Hier K) (L : Nat) (hL : 2 ≤ L) (fk : Kind) (fi nu1 nu2 : Nat) (ex fgs : Bool)
    (hbc : ∀ l, l + 1 < L → (lvl H l).op.bc = true) (ht1 : H.tiny 1 = false)
    (M : SparseLU.CSR K) (hM : DirectCode.assemble H.tables (lvl H (L - 1)).op = some M)
    (ht : ∀ r, r < M.rows → H.tiny (SparseLU.den ((SparseLU.factorRows M).2.getD r []) r) = false)
    (m : Mem (Option (Array K)))
    (hrhs : ∀ l, l < L → (l + 1 < L → 0 < fi) → ∃ f, m (l, Buf.rhs) = some f) :
    ∃ y, start H ⟨L, nu1, nu2⟩ true fk fi ex fgs m (0, Buf.sol) = some y ∧ y.size = (lvl H 0).op.nr * (lvl H 0).op.nt := by
  unfold start
  rw [C09s.fmg_refines]
  exact ops_start_total H L hL fk fi nu1 nu2 ex fgs hbc ht1 ⟨M, hM, ht⟩ (fun l => m (l, Buf.rhs)) hrhs

/-- the hypothesis on the coarsest right-hand side is needed: absent, the start-up ends in `none` (any hierarchy, any depth) -/
theorem start_none_of_coarse_rhs_none (H : Hier K) (L : Nat) (fk : Kind) (fi nu1 nu2 : Nat) (ex fgs : Bool)
    (m : Mem (Option (Array K))) (hnone : m (L - 1, Buf.rhs) = none) :
    start H ⟨L, nu1, nu2⟩ true fk fi ex fgs m (0, Buf.sol) = none := by
  unfold start
  rw [C09s.fmg_refines]
  show fmgSpec (ops H) ⟨L, nu1, nu2⟩ fk fi ex fgs (fun l => m (l, Buf.rhs)) (L - 1)
    ((ops H).solve (L - 1) (m (L - 1, Buf.rhs))) = none
  rw [hnone]
  exact ops_fmgSpec_none H _ fk fi ex fgs _ _

/-- **give = take for the start-up**: with or without FMG, plain or implicitly extrapolated, ANY initial memory, any number of levels;
    hypotheses on the hierarchy as in `C10g.give_cycle_eq_take_cycle` / `C10g.give_excycle_eq_take_excycle` (`hex` is only asked
    for when the extrapolated give smoother is run at all) -/
theorem give_start_eq_take_start (H : Hier K) (G : GiveTables) (hG : G.direct = C04g.genTablesGive)
    (htab : H.tables = C04c.genTables) (L : Nat) (fmg : Bool) (fk : Kind) (fi nu1 nu2 : Nat) (ex fgs : Bool)
    (hlev : ∀ l, l + 1 < L → C10g.GiveLevelOK (lvl H l)) (hcoarse : C10g.GiveCoarseOK (lvl H (L - 1)))
    (hex : fmg = true → ex = true → fgs = false → ExSmootherGiveCode.Admissible G.exSmoother (lvl H 0).op (lvl H 0).nc)
    (m : Mem (Option (Array K))) :
    exec (opsGive H G) (initSolution ⟨L, nu1, nu2⟩ fmg fk fi ex fgs (L - 1)) m (0, Buf.sol) =
      start H ⟨L, nu1, nu2⟩ fmg fk fi ex fgs m (0, Buf.sol) := by
  unfold start
  cases fmg
  · rw [C09s.nofmg_start, C09s.nofmg_start]
    rfl
  · show exec (opsGive H G) (initSolution ⟨L, nu1, nu2⟩ true fk fi ex fgs ((⟨L, nu1, nu2⟩ : Cfg).levels - 1)) m (0, Buf.sol) =
      exec (ops H) (initSolution ⟨L, nu1, nu2⟩ true fk fi ex fgs ((⟨L, nu1, nu2⟩ : Cfg).levels - 1)) m (0, Buf.sol)
    rw [C09s.fmg_refines, C09s.fmg_refines]
    by_cases hL : 2 ≤ L
    · exact ops_start_agree H G L hL (C10g.giveOK H G hG htab L hlev hcoarse) fk fi nu1 nu2 ex fgs (hex rfl)
        (fun l => m (l, Buf.rhs))
    · -- fewer than two levels: the start-up is the coarse solve
      have h0 : L - 1 = 0 := by omega
      rw [h0] at hcoarse
      obtain rfl | rfl : L = 0 ∨ L = 1 := by omega
      · exact opsGive_solve_eq H G hG htab 0 hcoarse.res _
      · exact opsGive_solve_eq H G hG htab 0 hcoarse.res _

end AnyField

/-! ## instances -/

/-- `concrete_start_total` and `concrete_fmg_two_level` on `C10c.exH` (7 × 8 → 4 × 4; level 1 is 4 × 4, Dirichlet, elliptic:
    `C10c.exL1_elliptic`): for EVERY level-1 right-hand side of the right size (nothing about the other cells of the memory) the
    start-up returns some `y` — so the hypothesis `hy` of `concrete_fmg_two_level` is met — and `y` is the FMG interpolation of a
    solution of the coarse system -/
example (fk : Kind) (nu1 nu2 : Nat) (ex fgs : Bool) (f1 : Array ℚ) (hf1 : f1.size = 4 * 4) (m : Mem (Option (Array ℚ)))
    (hr1 : m (1, Buf.rhs) = some f1) :
    ∃ y e : Array ℚ, start C10c.exH ⟨2, nu1, nu2⟩ true fk 0 ex fgs m (0, Buf.sol) = some y ∧ y.size = 7 * 8 ∧ e.size = 4 * 4 ∧
      (∀ I J, I < 4 → J < 4 → take C10c.exL1.op (SmootherCode.fld 4 f1) (SmootherCode.fld 4 e) I J = 0) ∧
      y = SmootherCode.ofField 7 8 (Interp.fmgInterp C10c.exP (SmootherCode.fld 4 e)) := by
  obtain ⟨M, hM, ht⟩ := C10c.exL1_coarse
  obtain ⟨y, hy, hys⟩ := concrete_start_total C10c.exH 2 (by decide) fk 0 nu1 nu2 ex fgs
    (fun l hl => (C10d.exH_levels l hl).bc) C10c.exTiny_one M hM ht m
    (fun l hl h => by
      obtain rfl : l = 1 := by omega
      exact ⟨f1, hr1⟩)
  obtain ⟨e, h1, h2, h3⟩ := concrete_fmg_two_level C10c.exH fk nu1 nu2 ex fgs f1 y rfl (by decide) (by decide) (by decide) rfl
    C10c.exL1_elliptic hf1 m hr1 hy
  exact ⟨y, e, hy, hys, h1, h2, h3⟩

/-- `concrete_start_total` on the three-level hierarchy `C10d.exH3` (13 × 16 → 7 × 8 → 4 × 4): every FMG cycle type and count, every
    smoothing counts, plain and extrapolated with either level-0 smoother, EVERY memory whose three level right-hand sides are
    present (any sizes) -/
theorem exH3_start_total (fk : Kind) (fi nu1 nu2 : Nat) (ex fgs : Bool) (m : Mem (Option (Array ℚ)))
    (hrhs : ∀ l, l < 3 → ∃ f, m (l, Buf.rhs) = some f) :
    ∃ y, start C10d.exH3 ⟨3, nu1, nu2⟩ true fk fi ex fgs m (0, Buf.sol) = some y ∧ y.size = 13 * 16 := by
  obtain ⟨M, hM, ht⟩ := C10c.exL1_coarse
  exact concrete_start_total C10d.exH3 3 (by decide) fk fi nu1 nu2 ex fgs (fun l hl => (C10d.exH3_levels l hl).bc)
    C10c.exTiny_one M hM ht m (fun l hl _ => hrhs l hl)

/-- … and `start_none_of_coarse_rhs_none` there: without the coarsest right-hand side it returns `none` -/
example (fk : Kind) (fi nu1 nu2 : Nat) (ex fgs : Bool) (m : Mem (Option (Array ℚ))) (h : m (2, Buf.rhs) = none) :
    start C10d.exH3 ⟨3, nu1, nu2⟩ true fk fi ex fgs m (0, Buf.sol) = none :=
  start_none_of_coarse_rhs_none C10d.exH3 3 fk fi nu1 nu2 ex fgs m h

/-- `give_start_eq_take_start` on `C10d.exH3` with the generated give tables: all hypotheses hold jointly (with and without FMG, plain
    and extrapolated, both level-0 smoothers, every memory) -/
example (fmg : Bool) (fk : Kind) (fi nu1 nu2 : Nat) (ex fgs : Bool) (m : Mem (Option (Array ℚ))) :
    exec (opsGive C10d.exH3 C10g.genG) (initSolution ⟨3, nu1, nu2⟩ fmg fk fi ex fgs (3 - 1)) m (0, Buf.sol) =
      start C10d.exH3 ⟨3, nu1, nu2⟩ fmg fk fi ex fgs m (0, Buf.sol) :=
  give_start_eq_take_start C10d.exH3 C10g.genG rfl rfl 3 fmg fk fi nu1 nu2 ex fgs C10g.exH3_levels C10g.exH3_coarse
    (fun _ _ _ => C10g.exH3_admissible) m

/-- … and the common value is an array, not `none = none`: the start-up over the GIVE operators is total there -/
example (fk : Kind) (fi nu1 nu2 : Nat) (ex fgs : Bool) (m : Mem (Option (Array ℚ)))
    (hrhs : ∀ l, l < 3 → ∃ f, m (l, Buf.rhs) = some f) :
    ∃ y, exec (opsGive C10d.exH3 C10g.genG) (initSolution ⟨3, nu1, nu2⟩ true fk fi ex fgs (3 - 1)) m (0, Buf.sol) = some y ∧
      y.size = 13 * 16 := by
  rw [give_start_eq_take_start C10d.exH3 C10g.genG rfl rfl 3 true fk fi nu1 nu2 ex fgs C10g.exH3_levels C10g.exH3_coarse
    (fun _ _ _ => C10g.exH3_admissible) m]
  exact exH3_start_total fk fi nu1 nu2 ex fgs m hrhs

/-- `give_start_eq_take_start` across the origin (`DirBC_Interior = false`, where the antipodal symmetry of the angular spacings is
    a genuine condition): the two-level hierarchy `C10g.exHo` (7 × 8 → 4 × 4, non-constant antipodally symmetric spacings) -/
example (fmg : Bool) (fk : Kind) (fi nu1 nu2 : Nat) (ex fgs : Bool) (m : Mem (Option (Array ℚ))) :
    (lvl C10g.exHo 0).op.bc = false ∧
    exec (opsGive C10g.exHo C10g.genG) (initSolution ⟨2, nu1, nu2⟩ fmg fk fi ex fgs (2 - 1)) m (0, Buf.sol) =
      start C10g.exHo ⟨2, nu1, nu2⟩ fmg fk fi ex fgs m (0, Buf.sol) :=
  ⟨rfl, give_start_eq_take_start C10g.exHo C10g.genG rfl rfl 2 fmg fk fi nu1 nu2 ex fgs C10g.exHo_levels C10g.exHo_coarse
    (fun _ _ _ => C10g.exHo_admissible) m⟩

end C09c
