import GMGModel.SmootherGiveCode
import Generated.Stencils
import GMGProofs.Lemmas.SmootherGiveSweep
import GMGProofs.Props.C06c
import GMGProofs.Props.C06d
import GMGProofs.Props.C03
/-!
# C06 (code level, give) — `SmootherGive` assembles the matrices of `SmootherTake` and performs its sweep

Model: `GMGModel/SmootherGiveCode.lean` (every node's accumulating stores `+=` into its own line matrix and the line matrices
of its neighbours through `UPDATE_MATRIX_ELEMENT` / `COO_CSR_UPDATE`, in the sequential node order, on zero-initialised
storage; `smoothingSequential`: `temp = rhs`, four scatter passes `temp -= A_sc^ortho x` each followed by the in-place line
solves of its colour).  Over a field the order of the `+=` / `-=` is immaterial, so the statements also cover the
3-coloured parallel orders of `buildAscMatrices` / `smoothingForLoop`.

(a) `give_matrices_eq_take`, `give_inner_eq_take`: every stored array is the array `SmootherCode` (take) stores;
(b) `give_temp_eq_take`: after each scatter pass the slices of `temp` the following line solves are given hold
    `SmootherCode.orthoCircle` / `orthoRadial` of the iterate at that moment (and the solves of a colour do not invalidate
    each other's slices: `SmootherGiveCode.circle_fold`, `radial_fold`);
(c) `give_sweep_eq_take_sweep`: the give sweep returns the same array as `SmootherCode.sweep`, hence every C06c / C06d
    theorem transfers (`give_code_sweep_isSweep`, `…_dirichlet`, `…_total_dirichlet`, `…_energy_dirichlet`): "the smoother
    gives the same result with either strategy".
Property theorems and the example operator `badOp`; helper lemmas in
`GMGProofs/Lemmas/SmootherGive{Stores,Arrays,Kernels,Sweep}.lean`.
-/
namespace C06g
open Stencil Smoother SmootherCode

/-- the CSR offsets the model writes through (Center 0, Left 1, Bottom 2, Top 3; Center 0 in a Dirichlet row) are those of
    `circle_stencil_across_origin_` / `stencil_DB_` of `smootherGive.h`, as regenerated on every check -/
theorem inner_offsets_generated :
    Stencils.Gen.SmootherGive_circle_stencil_across_origin.getD DirectCode.Pos.Center.idx (-1) = 0 ∧
    Stencils.Gen.SmootherGive_circle_stencil_across_origin.getD DirectCode.Pos.Left.idx (-1) = 1 ∧
    Stencils.Gen.SmootherGive_circle_stencil_across_origin.getD DirectCode.Pos.Bottom.idx (-1) = 2 ∧
    Stencils.Gen.SmootherGive_circle_stencil_across_origin.getD DirectCode.Pos.Top.idx (-1) = 3 ∧
    Stencils.Gen.SmootherGive_stencil_DB.getD DirectCode.Pos.Center.idx (-1) = 0 := by decide

section AnyField
variable {K : Type} [_root_.Field K]

/-! ## (a) the stored arrays -/

/-- **the tridiagonal solver objects of both strategies hold the same arrays**: `main_diagonal`, `sub_diagonal`,
    `cyclic_corner_element` of every interior circle, `main_diagonal`, `sub_diagonal` of every radial line
    (no condition on the spacings, any inner boundary condition) -/
theorem give_matrices_eq_take (o : Op K) (nc : Nat) (hnc : 2 ≤ nc) (hnr : nc + 3 ≤ o.nr) (hnt : 3 ≤ o.nt) :
    (∀ i, 0 < i → i < nc →
      SmootherGiveCode.circleMain o nc i = circleMain o i ∧ SmootherGiveCode.circleSub o nc i = circleSub o i ∧
      SmootherGiveCode.circleCorner o nc i = circleCorner o i) ∧
    (∀ j, j < o.nt →
      SmootherGiveCode.radialMain o nc j = radialMain o nc j ∧ SmootherGiveCode.radialSub o nc j = radialSub o nc j) :=
  ⟨fun i hi0 hi => ⟨SmootherGiveCode.circleMain_eq o nc hnc hnr hnt i hi0 hi,
      SmootherGiveCode.circleSub_eq o nc hnc hnr hnt i hi0 hi, SmootherGiveCode.circleCorner_eq o nc hnc hnr hnt i hi0 hi⟩,
    fun j hj => ⟨SmootherGiveCode.radialMain_eq o nc hnc hnr j hj, SmootherGiveCode.radialSub_eq o nc hnc hnr j hj⟩⟩

/-- **the CSR matrix of the innermost circle**: row by row the same column indices and values in the same storage order,
    hence the same container.  Across the origin the angular spacing must be antipodally symmetric (`hk_needed`) -/
theorem give_inner_eq_take (o : Op K) (nc : Nat) (hnc : 2 ≤ nc) (hnr : nc + 3 ≤ o.nr) (hnt : 3 ≤ o.nt)
    (heven : o.nt % 2 = 0) (hk : o.bc = false → ∀ j, j < o.nt → o.k (ja o j) = o.k j) :
    (∀ j, j < o.nt → SmootherGiveCode.innerRow o nc j = innerRow o j) ∧ SmootherGiveCode.innerCSR o nc = innerCSR o :=
  ⟨fun j hj => SmootherGiveCode.innerRow_eq o nc hnc hnr hnt heven hk j hj,
    SmootherGiveCode.innerCSR_eq o nc hnc hnr hnt heven hk⟩

/-- Dirichlet inner boundary: no condition on the angular spacing -/
theorem give_inner_eq_take_dirichlet (o : Op K) (nc : Nat) (hnc : 2 ≤ nc) (hnr : nc + 3 ≤ o.nr) (hnt : 3 ≤ o.nt)
    (heven : o.nt % 2 = 0) (hbc : o.bc = true) : SmootherGiveCode.innerCSR o nc = innerCSR o :=
  (give_inner_eq_take o nc hnc hnr hnt heven (fun h => by rw [hbc] at h; cases h)).2

/-- the solver objects the sweep uses -/
theorem give_solvers_eq_take (o : Op K) (nc : Nat) (hnc : 2 ≤ nc) (hnr : nc + 3 ≤ o.nr) (hnt : 3 ≤ o.nt) :
    (∀ i, 0 < i → i < nc → SmootherGiveCode.circleSolverOf (SmootherGiveCode.allUpdates o nc) o.nt i = circleSolver o i) ∧
    (∀ j, j < o.nt → SmootherGiveCode.radialSolverOf (SmootherGiveCode.allUpdates o nc) (o.nr - nc) j = radialSolver o nc j) :=
  ⟨fun i hi0 hi => SmootherGiveCode.circleSolver_eq o nc hnc hnr hnt i hi0 hi,
    fun j hj => SmootherGiveCode.radialSolver_eq o nc hnc hnr j hj⟩

/-- **no store of the scatter assembly leaves the allocated storage**: every `UPDATE_MATRIX_ELEMENT` / `COO_CSR_UPDATE` of every
    node addresses a cell of an existing solver object (circle solvers `1 … nc-1` of dimension `nt`, radial solvers of
    dimension `nr - nc` — never their unused corner cell —, CSR rows of 1 resp. 4 cells) -/
theorem give_stores_in_bounds (o : Op K) (nc : Nat) (hnc : 2 ≤ nc) (hnr : nc + 3 ≤ o.nr) :
    ∀ u ∈ SmootherGiveCode.allUpdates o nc, SmootherGiveCode.SlotInB o nc u.1 :=
  SmootherGiveCode.allUpdates_inB o nc hnc hnr

/-- every `COO_CSR_UPDATE` stores the column index its offset stands for in ITS ROW (Center: the row's node, Left: its
    antipode, Bottom / Top: its angular neighbours), whichever node performs it (`nt` even) -/
theorem give_csr_columns_consistent (o : Op K) (nc : Nat) (heven : o.nt % 2 = 0) :
    ∀ u ∈ SmootherGiveCode.allUpdates o nc, SmootherGiveCode.ColOK o u :=
  SmootherGiveCode.allUpdates_colOK o nc heven

/-! ## (b) the right-hand sides of the line solves -/

/-- **after each scatter pass the lines of its colour find `rhs - A_sc^ortho x` in `temp`**, provided their entries held `rhs`
    before (they do: `temp = rhs` at the start and no earlier pass or solve touches them, `SmootherGiveCode.sweepState_spec`);
    `x` is the iterate at the moment of the pass -/
theorem give_temp_eq_take (o : Op K) (nc : Nat) (hnc : 2 ≤ nc) (hnr : nc + 3 ≤ o.nr) (hnt : 0 < o.nt) (heven : o.nt % 2 = 0)
    (f : Stencil.Field K) (x t : Array K) (ht : t.size = o.nr * o.nt) :
    (∀ i ∈ blackCircles nc, ∀ q, q < o.nt → fld o.nt t i q = f i q →
      fld o.nt (SmootherGiveCode.orthoBlackCircles o nc x t) i q = orthoCircle o nc f (fld o.nt x) i q) ∧
    (∀ i ∈ whiteCircles nc, ∀ q, q < o.nt → fld o.nt t i q = f i q →
      fld o.nt (SmootherGiveCode.orthoWhiteCircles o nc x t) i q = orthoCircle o nc f (fld o.nt x) i q) ∧
    (∀ j ∈ blackRadials o.nt, ∀ p, nc ≤ p → p < o.nr → fld o.nt t p j = f p j →
      fld o.nt (SmootherGiveCode.orthoBlackRadials o nc f x t) p j = orthoRadial o nc f (fld o.nt x) p j) ∧
    (∀ j ∈ whiteRadials o.nt, ∀ p, nc ≤ p → p < o.nr → fld o.nt t p j = f p j →
      fld o.nt (SmootherGiveCode.orthoWhiteRadials o nc f x t) p j = orthoRadial o nc f (fld o.nt x) p j) :=
  ⟨fun i hi q hq hf => SmootherGiveCode.orthoBlackCircles_on o nc hnc hnr hnt f x t ht i q hi hq hf,
    fun i hi q hq hf => SmootherGiveCode.orthoWhiteCircles_on o nc hnc hnr hnt f x t ht i q hi hq hf,
    fun j hj p hp hp' hf => SmootherGiveCode.orthoBlackRadials_on o nc hnc hnr heven f x t ht p j hp hp' hj hf,
    fun j hj p hp hp' hf => SmootherGiveCode.orthoWhiteRadials_on o nc hnc hnr heven f x t ht p j hp hp' hj hf⟩

/-- … and a pass touches no entry of `temp` outside the lines of its colour (the other colour and the other section keep
    `rhs`, resp. the solution the previous solve left there) -/
theorem give_temp_untouched (o : Op K) (nc : Nat) (hnc : 2 ≤ nc) (hnr : nc + 3 ≤ o.nr) (hnt : 0 < o.nt)
    (heven : o.nt % 2 = 0) (f : Stencil.Field K) (x t : Array K) (ht : t.size = o.nr * o.nt) (p q : Nat) (hp : p < o.nr)
    (hq : q < o.nt) :
    (p ∉ blackCircles nc → fld o.nt (SmootherGiveCode.orthoBlackCircles o nc x t) p q = fld o.nt t p q) ∧
    (p ∉ whiteCircles nc → fld o.nt (SmootherGiveCode.orthoWhiteCircles o nc x t) p q = fld o.nt t p q) ∧
    (¬ (nc ≤ p ∧ q ∈ blackRadials o.nt) → fld o.nt (SmootherGiveCode.orthoBlackRadials o nc f x t) p q = fld o.nt t p q) :=
  ⟨SmootherGiveCode.orthoBlackCircles_off o nc hnc hnt x t ht p q hp hq,
    SmootherGiveCode.orthoWhiteCircles_off o nc hnc hnt x t ht p q hp hq,
    SmootherGiveCode.orthoBlackRadials_off o nc hnc hnr heven f x t ht p q hp hq⟩

/-! ## (c) the sweep -/

/-- **`SmootherGive::smoothingSequential` returns the array `SmootherTake::smoothing` returns** (both as modelled; `none` =
    the sparse LU's `std::exit` branch, taken by both or by neither) -/
theorem give_sweep_eq_take_sweep (o : Op K) (nc : Nat) (hnc : 2 ≤ nc) (hnr : nc + 3 ≤ o.nr) (hnt : 4 ≤ o.nt)
    (heven : o.nt % 2 = 0) (hk : o.bc = false → ∀ j, j < o.nt → o.k (ja o j) = o.k j) (tiny : K → Bool)
    (f : Stencil.Field K) (x : Array K) (hx : x.size = o.nr * o.nt) :
    SmootherGiveCode.sweep o nc tiny f x = sweep o tiny nc f x :=
  SmootherGiveCode.sweepState_spec o nc hnc hnr (by omega) heven hk tiny f x hx

/-- Dirichlet inner boundary: no condition on the angular spacing -/
theorem give_sweep_eq_take_sweep_dirichlet (o : Op K) (nc : Nat) (hnc : 2 ≤ nc) (hnr : nc + 3 ≤ o.nr) (hnt : 4 ≤ o.nt)
    (heven : o.nt % 2 = 0) (hbc : o.bc = true) (tiny : K → Bool) (f : Stencil.Field K) (x : Array K)
    (hx : x.size = o.nr * o.nt) :
    SmootherGiveCode.sweep o nc tiny f x = sweep o tiny nc f x :=
  give_sweep_eq_take_sweep o nc hnc hnr hnt heven (fun h => by rw [hbc] at h; cases h) tiny f x hx

/-- **refinement** (transfer of `C06c.code_sweep_isSweep`): whatever the give sweep returns satisfies the sweep equations of
    `GMGModel/Smoother.lean` -/
theorem give_code_sweep_isSweep (o : Op K) (nc : Nat) (tiny : K → Bool) (f : Stencil.Field K) (x y : Array K)
    (hnt : 4 ≤ o.nt) (heven : o.nt % 2 = 0) (hnc : 2 ≤ nc) (hnr : nc + 3 ≤ o.nr)
    (hk : o.bc = false → ∀ j, j < o.nt → o.k (ja o j) = o.k j) (hx : x.size = o.nr * o.nt)
    (hl : C06c.LinesOK o nc) (hs : SmootherGiveCode.sweep o nc tiny f x = some y) :
    IsSweep o nc f (fld o.nt x) (fld o.nt y) := by
  rw [give_sweep_eq_take_sweep o nc hnc hnr hnt heven hk tiny f x hx] at hs
  exact C06c.code_sweep_isSweep o nc tiny f x y hnt heven hnc hnr hx hl hs

/-- transfer of `C06c.code_sweep_total` -/
theorem give_code_sweep_total (o : Op K) (nc : Nat) (tiny : K → Bool) (f : Stencil.Field K) (x : Array K)
    (hnt : 4 ≤ o.nt) (heven : o.nt % 2 = 0) (hnc : 2 ≤ nc) (hnr : nc + 3 ≤ o.nr)
    (hk : o.bc = false → ∀ j, j < o.nt → o.k (ja o j) = o.k j) (hx : x.size = o.nr * o.nt)
    (ht : ∀ i, i < o.nt → tiny (SparseLU.den ((SparseLU.factorRows (innerCSR o)).2.getD i []) i) = false) :
    ∃ y, SmootherGiveCode.sweep o nc tiny f x = some y := by
  rw [give_sweep_eq_take_sweep o nc hnc hnr hnt heven hk tiny f x hx]
  exact C06c.code_sweep_total o nc tiny f x ht

/-- the scatter passes and solves keep the size of the arrays -/
theorem give_sweep_size (o : Op K) (nc : Nat) (tiny : K → Bool) (f : Stencil.Field K) (x y : Array K)
    (hnt : 4 ≤ o.nt) (heven : o.nt % 2 = 0) (hnc : 2 ≤ nc) (hnr : nc + 3 ≤ o.nr)
    (hk : o.bc = false → ∀ j, j < o.nt → o.k (ja o j) = o.k j) (hx : x.size = o.nr * o.nt)
    (hs : SmootherGiveCode.sweep o nc tiny f x = some y) : y.size = x.size := by
  rw [give_sweep_eq_take_sweep o nc hnc hnr hnt heven hk tiny f x hx] at hs
  exact C06c.sweep_size o nc tiny f x y hs

end AnyField

section Ordered
variable {K : Type} [_root_.Field K] [LinearOrder K] [IsStrictOrderedRing K]

/-- Dirichlet inner boundary, elliptic data: the give sweep is an exact zebra relaxation, no hypothesis about the line
    solves left (transfer of `C06d.code_sweep_isSweep_dirichlet`) -/
theorem give_code_sweep_isSweep_dirichlet (o : Op K) (nc : Nat) (tiny : K → Bool) (f : Stencil.Field K) (x y : Array K)
    (hnr : nc + 3 ≤ o.nr) (hnc : 2 ≤ nc) (hnt : 4 ≤ o.nt) (heven : o.nt % 2 = 0) (hbc : o.bc = true) (he : Elliptic o)
    (hx : x.size = o.nr * o.nt) (hs : SmootherGiveCode.sweep o nc tiny f x = some y) :
    IsSweep o nc f (fld o.nt x) (fld o.nt y) := by
  rw [give_sweep_eq_take_sweep_dirichlet o nc hnc hnr hnt heven hbc tiny f x hx] at hs
  exact C06d.code_sweep_isSweep_dirichlet o nc tiny f x y hnr hnc hnt heven hbc he hx hs

omit [LinearOrder K] [IsStrictOrderedRing K] in
/-- … and it returns (transfer of `C06d.code_sweep_total_dirichlet`) -/
theorem give_code_sweep_total_dirichlet (o : Op K) (nc : Nat) (tiny : K → Bool) (ht : tiny 1 = false)
    (f : Stencil.Field K) (x : Array K) (hnr : nc + 3 ≤ o.nr) (hnc : 2 ≤ nc) (hnt : 4 ≤ o.nt) (heven : o.nt % 2 = 0)
    (hbc : o.bc = true) (hx : x.size = o.nr * o.nt) : ∃ y, SmootherGiveCode.sweep o nc tiny f x = some y := by
  rw [give_sweep_eq_take_sweep_dirichlet o nc hnc hnr hnt heven hbc tiny f x hx]
  exact C06d.code_sweep_total_dirichlet o nc tiny ht f x hbc

/-- … and never increases the energy norm of the error (transfer of `C06d.code_sweep_energy_dirichlet`) -/
theorem give_code_sweep_energy_dirichlet (o : Op K) (nc : Nat) (tiny : K → Bool) (f u : Stencil.Field K) (x y : Array K)
    (hnr : nc + 3 ≤ o.nr) (hnc : 2 ≤ nc) (hnt : 4 ≤ o.nt) (heven : o.nt % 2 = 0) (hbc : o.bc = true) (he : Elliptic o)
    (hx : x.size = o.nr * o.nt) (hs : SmootherGiveCode.sweep o nc tiny f x = some y)
    (hu : ∀ i j, i < o.nr → j < o.nt → take o f u i j = 0)
    (hxD : ∀ j, j < o.nt → fld o.nt x (o.nr - 1) j = f (o.nr - 1) j ∧ fld o.nt x 0 j = f 0 j) :
    inner o (A o (gridErr o (fld o.nt y) u)) (gridErr o (fld o.nt y) u)
      ≤ inner o (A o (gridErr o (fld o.nt x) u)) (gridErr o (fld o.nt x) u) := by
  rw [give_sweep_eq_take_sweep_dirichlet o nc hnc hnr hnt heven hbc tiny f x hx] at hs
  exact C06d.code_sweep_energy_dirichlet o nc tiny f u x y hnr hnc hnt heven hbc he hx hs hu hxD

end Ordered

/-! ## sharpness and non-vacuity -/

/-- `C03.badOp` (angular spacing NOT antipodally symmetric, all other hypotheses of `give_inner_eq_take` hold) with five
    radial nodes -/
def badOp : Op ℚ := { C03.badOp with nr := 5 }

/-- the antipodal symmetry of the angular spacing is needed across the origin: on `badOp` the scatter assembly stores another
    "Center" and another "Left" value in row 0 of the innermost circle's matrix than the gather assembly -/
theorem hk_needed :
    2 ≤ 2 ∧ 2 + 3 ≤ badOp.nr ∧ 3 ≤ badOp.nt ∧ badOp.nt % 2 = 0 ∧ badOp.bc = false ∧
    SmootherGiveCode.innerRow badOp 2 0 ≠ innerRow badOp 0 := by
  decide +kernel

/-- `nc + 3 ≤ nr` (`lengthSmootherRadial() >= 3`, asserted by the C++) is needed: with two radial nodes per line the node next
    to the circles is ALSO the node next to the outer boundary; the macro treats it as the former and stores its coupling to
    the Dirichlet node in `sub_diagonal(0)`, where the gather assembly stores `0.0` -/
theorem hnr_needed :
    SmootherGiveCode.radialSub { C06c.exOp with nr := 4 } 2 0 ≠ radialSub { C06c.exOp with nr := 4 } 2 0 := by
  decide +kernel

/-- the hypotheses of `give_sweep_eq_take_sweep` are satisfiable across the origin with a non-constant angular spacing
    (`C06c.exOp`, `nc = 2`); the give sweep then returns the 20 rationals of `C06c.exY` … -/
theorem exY_give : SmootherGiveCode.sweep C06c.exOp 2 C06c.exTiny C06c.exF C06c.exX = some C06c.exY := by
  rw [give_sweep_eq_take_sweep C06c.exOp 2 (by decide) (by decide) (by decide) (by decide) ?_ C06c.exTiny C06c.exF C06c.exX
    (by decide +kernel)]
  · exact C06c.exY_spec
  · intro _ j hj
    have : j < 4 := hj
    rcases (by omega : j = 0 ∨ j = 1 ∨ j = 2 ∨ j = 3) with rfl | rfl | rfl | rfl <;> simp [C06c.exOp, ja]

/-- … independently confirmed by evaluating the scatter model in the kernel -/
example : SmootherGiveCode.sweep C06c.exOp 2 C06c.exTiny C06c.exF C06c.exX = sweep C06c.exOp C06c.exTiny 2 C06c.exF C06c.exX := by
  decide +kernel

/-- … and by the transferred refinement theorem they satisfy the sweep equations -/
example : IsSweep C06c.exOp 2 C06c.exF (fld 4 C06c.exX) (fld 4 C06c.exY) :=
  give_code_sweep_isSweep C06c.exOp 2 C06c.exTiny C06c.exF C06c.exX C06c.exY (by decide) (by decide) (by decide) (by decide)
    (by
      intro _ j hj
      have : j < 4 := hj
      rcases (by omega : j = 0 ∨ j = 1 ∨ j = 2 ∨ j = 3) with rfl | rfl | rfl | rfl <;> simp [C06c.exOp, ja])
    (by decide +kernel) C06c.exOp_linesOK exY_give

end C06g
