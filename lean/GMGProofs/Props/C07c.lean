import GMGProofs.Lemmas.ExSmootherCodeLemmas
import GMGProofs.Props.C06c
import GMGProofs.Props.C07
/-!
# C07 (code level) — the assembled line systems of `ExtrapolatedSmootherTake` ARE the extrapolated zebra relaxation

Model: `GMGModel/ExSmootherCode.lean` (what `buildAscMatrices` stores in the tridiagonal / diagonal solvers and in the CSR
matrix of the innermost circle, `temp = rhs - A_sc^ortho x` for every node class, the line solves through the models of
`Tridiag.lean` / `SparseLU.lean` and the diagonal solver, the four-phase sweep on a row-major array).  Holds `innerRowDot`, the
non-singularity bundle `ExLinesOK`, the row-by-row splitting at the relaxed nodes, the property theorems and instances; helper
lemmas live in `GMGProofs/Lemmas/ExSmootherCodeLemmas.lean` and, for what both smoothers share, `SmootherCode*.lean`.

Hypotheses of the main theorem `code_exsweep_isExSweep`: `nt` even and `≥ 4` (divisibility by 4, which the C++ asserts, is
NOT needed: for `nt ≡ 2 mod 4` the antipode of an odd node of the innermost circle is a coarse node whose identity row keeps
its value, and the row equation still holds; instance in section 7), `2 ≤ nc` (inherited from `C06c.radial_split`; the C++
asserts `≥ 3`, the proof does not use it), `nc + 3 ≤ nr` (three radial smoother nodes, asserted by the C++), `nr` odd.  `nr` odd is necessary
(`nr_odd_needed`): with `nr` even the row `i = nr - 2` of an even radial line is a coarse node that the code relaxes, and
the row `i = nr - 1` is a fine Dirichlet node whose value the code keeps.  Every smoothed level of a solver that was set up
successfully has `nr` odd and `nt` divisible by 4 (`C18.levels_admissible`), so no admissible finest-level grid violates it.
-/
namespace C07c
open Stencil Smoother ExSmootherCode
open SmootherCode (fld ofField centerValue leftValue rightValue bottomValue topValue diagTerms writeCircle writeRadial)
open C06c (withCircle withRadial withCircle_self withCircle_of_ne)

section AnyField
variable {K : Type} [_root_.Field K]

/-- row `j` of the stored innermost-circle matrix applied to `v` -/
def innerRowDot (o : Op K) (v : Nat → K) (j : Nat) : K :=
  if o.bc then v j
  else if j % 2 = 1 then centerValue o 0 j 0 (ja o j) * v j + leftValue o 0 j 0 (ja o j) * v (ja o j)
  else v j

/-! ## 1  A_sc + A_sc^ortho = A at the relaxed nodes, row by row (pure algebra, any field) -/

/-- a fine node all of whose neighbours are moved to the right-hand side: the operator row on an iterate `w` that agrees
    with `u` at the eight neighbours is `temp` minus the stored diagonal entry times the node value -/
theorem fine_split (o : Op K) (f u w : Stencil.Field K) (i j : Nat) (h0 : 0 < i) (h1 : i + 1 < o.nr)
    (e1 : w (i - 1) j = u (i - 1) j) (e2 : w (i + 1) j = u (i + 1) j)
    (e3 : w i (jm o j) = u i (jm o j)) (e4 : w i (jp o j) = u i (jp o j))
    (e5 : w (i - 1) (jm o j) = u (i - 1) (jm o j)) (e6 : w (i + 1) (jm o j) = u (i + 1) (jm o j))
    (e7 : w (i - 1) (jp o j) = u (i - 1) (jp o j)) (e8 : w (i + 1) (jp o j) = u (i + 1) (jp o j)) :
    take o f w i j = (f i j - diagTerms o u i j (crossTerms o u i j)) - centerValue o i j (i - 1) j * w i j := by
  rw [take_interior o f w j h0 h1, SmootherCode.takeInterior_eq o f w j h0]
  simp only [diagTerms, crossTerms, leftValue, rightValue, bottomValue, topValue, e1, e2, e3, e4, e5, e6, e7, e8]
  ring

/-- odd circle: the cyclic tridiagonal row, as for `SmootherTake` (`C06c.circle_split`) -/
theorem circle_odd_split (o : Op K) (nc : Nat) (f u : Stencil.Field K) (v : Nat → K) (i j : Nat)
    (hi0 : 0 < i) (hinc : i < nc) (hodd : i % 2 = 1) (hnc : nc < o.nr) :
    take o f (withCircle u i v) i j
      = orthoCircle o nc f u i j
        - (centerValue o i j (i - 1) j * v j + bottomValue o i j * v (jm o j) + topValue o i j * v (jp o j)) := by
  rw [orthoCircle_odd o nc f u i j hi0 hinc hodd]
  exact C06c.circle_split o nc f u v i j hi0 hinc hnc

/-- even circle, odd angular index: diagonal row; the angular neighbours are coarse nodes of the same circle, they carry
    their old values (`hv`) -/
theorem circle_even_split (o : Op K) (nc : Nat) (f u : Stencil.Field K) (v : Nat → K) (i j : Nat)
    (hi0 : 0 < i) (hinc : i < nc) (heveni : i % 2 = 0) (hnc : nc < o.nr)
    (heven : o.nt % 2 = 0) (hj : j < o.nt) (hodd : j % 2 = 1)
    (hv : ∀ b, b < o.nt → b % 2 = 0 → v b = u i b) :
    take o f (withCircle u i v) i j = orthoCircle o nc f u i j - centerValue o i j (i - 1) j * v j := by
  have hnt : 0 < o.nt := by omega
  have hm := jm_parity o heven hj
  have hp := jp_parity o heven hj
  have hne1 : i - 1 ≠ i := by omega
  have hne2 : i + 1 ≠ i := by omega
  have hjm : withCircle u i v i (jm o j) = u i (jm o j) := (withCircle_self ..).trans (hv _ (jm_lt o hnt j) (by omega))
  have hjp : withCircle u i v i (jp o j) = u i (jp o j) := (withCircle_self ..).trans (hv _ (jp_lt o hnt j) (by omega))
  rw [fine_split o f u (withCircle u i v) i j hi0 (by omega) (withCircle_of_ne _ _ hne1 _) (withCircle_of_ne _ _ hne2 _)
    hjm hjp (withCircle_of_ne _ _ hne1 _) (withCircle_of_ne _ _ hne2 _) (withCircle_of_ne _ _ hne1 _)
    (withCircle_of_ne _ _ hne2 _), withCircle_self, orthoCircle, if_pos ⟨hi0, hinc⟩, if_neg (by omega), if_pos hodd]

/-- innermost circle, odd angular index, both boundary modes: the row keeps Center and the antipode; the angular neighbours
    are coarse nodes of the circle and carry their old values -/
theorem inner_split (o : Op K) (nc : Nat) (f u : Stencil.Field K) (v : Nat → K) (j : Nat)
    (hodd : j % 2 = 1) (hm : v (jm o j) = u 0 (jm o j)) (hp : v (jp o j) = u 0 (jp o j)) :
    take o f (withCircle u 0 v) 0 j = orthoCircle o nc f u 0 j - innerRowDot o v j := by
  rw [orthoCircle, if_neg (by omega), if_pos rfl, innerRowDot, if_pos hodd, if_pos hodd, if_pos hodd]
  cases hbc : o.bc
  · rw [take_origin o f _ hbc, SmootherCode.takeOrigin_eq]
    simp only [Bool.false_eq_true, if_false, rightValue, bottomValue, topValue, withCircle_self, hm, hp,
      withCircle_of_ne _ _ Nat.one_ne_zero]
    ring
  · rw [take_zero_dirichlet o f _ hbc, if_pos rfl, if_pos rfl, withCircle_self]

theorem radial_even_entries (o : Op K) (nc : Nat) (f u : Stencil.Field K) (i j : Nat)
    (hnrodd : o.nr % 2 = 1) (hi : nc ≤ i) (hir : i < o.nr) (hevenj : j % 2 = 0) :
    (i % 2 = 0 → (radialDiag o nc j).getD (i - nc) 0 = 1 ∧ orthoRadial o nc f u i j = u i j) ∧
    (i % 2 = 1 → i + 1 < o.nr ∧ (radialDiag o nc j).getD (i - nc) 0 = centerValue o i j (i - 1) j ∧
      orthoRadial o nc f u i j = f i j - diagTerms o u i j (crossTerms o u i j)) := by
  have ht : i - nc < o.nr - nc := by omega
  have e : nc + (i - nc) = i := by omega
  have hj1 : ¬ j % 2 = 1 := by omega
  unfold radialDiag orthoRadial
  rw [SparseLU.getD_map_range, if_pos ht]
  simp only [e, if_neg hj1]
  constructor
  · intro hi0
    have hi1 : ¬ i % 2 = 1 := by omega
    simp only [if_neg hi1, Scalar.n_one, Scalar.n_zero]
    split_ifs <;> first | exact ⟨rfl, rfl⟩ | (exfalso; omega)
  · intro hi1
    refine ⟨by omega, ?_⟩
    simp only [if_pos hi1]
    split_ifs <;> first | exact ⟨rfl, rfl⟩ | (exfalso; omega)

/-- odd radial line: the tridiagonal row, as for `SmootherTake` (`C06c.radial_split`, `C06c.radialRow`) -/
theorem radial_odd_split (o : Op K) (nc : Nat) (f u : Stencil.Field K) (v : Nat → K) (i j : Nat)
    (hnc : 2 ≤ nc) (hnr : nc + 3 ≤ o.nr) (hnt : 2 ≤ o.nt) (hi : nc ≤ i) (hir : i < o.nr) (hodd : j % 2 = 1)
    (hv : v (o.nr - 1) = f (o.nr - 1) j) :
    take o f (withRadial nc u j v) i j = orthoRadial o nc f u i j - C06c.radialRow o nc j v i := by
  rw [orthoRadial_odd o nc f u i j hodd]
  exact C06c.radial_split o nc f u v i j hnc hnr hnt hi hir hv

/-- even radial line, odd radial index: diagonal row; the radial neighbours are coarse nodes of the same line (or belong to
    the circle section) and carry their old values -/
theorem radial_even_split (o : Op K) (nc : Nat) (f u : Stencil.Field K) (v : Nat → K) (i j : Nat)
    (hnrodd : o.nr % 2 = 1) (hnt : 2 ≤ o.nt) (hi : nc ≤ i) (hir : i < o.nr) (hoddi : i % 2 = 1) (hevenj : j % 2 = 0)
    (hv : ∀ a, nc ≤ a → a < o.nr → a % 2 = 0 → v a = u a j) :
    take o f (withRadial nc u j v) i j = orthoRadial o nc f u i j - centerValue o i j (i - 1) j * v i := by
  obtain ⟨hi1, _, hortho⟩ := (radial_even_entries o nc f u i j hnrodd hi hir hevenj).2 hoddi
  have hm := jm_ne_self o hnt j
  have hp := jp_ne_self o hnt j
  have hcol : ∀ a b, b ≠ j → withRadial nc u j v a b = u a b := fun a b hb => C06c.withRadial_of_ne nc u v a hb
  have hl : withRadial nc u j v (i - 1) j = u (i - 1) j := by
    by_cases h : nc ≤ i - 1
    · rw [C06c.withRadial_self _ _ _ h]; exact hv (i - 1) h (by omega) (by omega)
    · exact C06c.withRadial_of_lt _ _ _ (by omega) _
  have hr : withRadial nc u j v (i + 1) j = u (i + 1) j := by
    rw [C06c.withRadial_self _ _ _ (by omega)]; exact hv (i + 1) (by omega) hi1 (by omega)
  rw [hortho, fine_split o f u (withRadial nc u j v) i j (by omega) hi1 hl hr
    (hcol _ _ hm) (hcol _ _ hp) (hcol _ _ hm) (hcol _ _ hm) (hcol _ _ hp) (hcol _ _ hp), C06c.withRadial_self _ _ _ hi]

/-! ## 2  the stored arrays represent exactly these rows -/

theorem circle_tri_matrix_rows (o : Op K) (i : Nat) (v : Nat → K) (hnt : 3 ≤ o.nt) (j : Nat) (hj : j < o.nt) :
    (Tridiag.mulC (circleTriMain o i) (circleTriSub o i) (circleTriCorner o i) ((List.range o.nt).map v)).getD j 0
      = centerValue o i j (i - 1) j * v j + bottomValue o i j * v (jm o j) + topValue o i j * v (jp o j) :=
  C06c.circle_matrix_rows o i v hnt j hj

theorem radial_tri_matrix_rows (o : Op K) (nc j : Nat) (v : Nat → K) (hnr : nc + 3 ≤ o.nr) (hnc : 1 ≤ nc) (hj : j < o.nt)
    (t : Nat) (ht : t < o.nr - nc) :
    (Tridiag.mulT (radialTriMain o nc j) (radialTriSub o nc j) ((List.range (o.nr - nc)).map fun t => v (nc + t)) 0).getD t 0
      = C06c.radialRow o nc j v (nc + t) := by
  rw [radialTriMain_eq o nc j hnr, radialTriSub_eq o nc j hnr]
  exact C06c.radial_matrix_rows o nc j v hnr hnc hj t ht

theorem diag_matrix_rows (d y : List K) (h : d.length = y.length) (t : Nat) (ht : t < y.length) (hd : d.getD t 0 ≠ 0) :
    d.getD t 0 * (diagSolve d y).getD t 0 = y.getD t 0 := by
  rw [getD_diagSolve d y h t ht, mul_div_cancel₀ _ hd]

theorem circle_diag_entries (o : Op K) (i j : Nat) (hj : j < o.nt) :
    (circleDiag o i).getD j 0 = if j % 2 = 1 then centerValue o i j (i - 1) j else 1 := by
  unfold circleDiag
  rw [SparseLU.getD_map_range, if_pos hj, Scalar.n_one]

/-- dense product of the CSR matrix of the innermost circle (two distinct columns in the odd rows need `nt ≥ 2`, even) -/
theorem inner_matrix_rows (o : Op K) (v : Nat → K) (hnt : 2 ≤ o.nt) (heven : o.nt % 2 = 0) (j : Nat) (hj : j < o.nt) :
    (SparseLU.mulDense (innerCSR o) ((List.range o.nt).map v)).getD j 0 = innerRowDot o v j := by
  have hv : ∀ k, k < o.nt → SparseLU.vget ((List.range o.nt).map v) k = v k := by
    intro k hk; unfold SparseLU.vget; rw [SparseLU.getD_map_range, if_pos hk]
  have h0 : 0 < o.nt := by omega
  unfold SparseLU.mulDense
  rw [SparseLU.getD_map_range, if_pos (by exact hj), loadRow_innerCSR o hnt heven j hj]
  unfold innerRow innerRowDot
  cases hbc : o.bc
  · by_cases hodd : j % 2 = 1
    · simp only [Bool.false_eq_true, if_false, if_pos hodd, List.foldl_cons, List.foldl_nil, hv j hj,
        hv _ (ja_lt o h0 j), Scalar.n_zero]
      ring
    · simp only [Bool.false_eq_true, if_false, if_neg hodd, List.foldl_cons, List.foldl_nil, hv j hj, Scalar.n_zero,
        Scalar.n_one]
      ring
  · simp only [if_true, List.foldl_cons, List.foldl_nil, hv j hj, Scalar.n_zero, Scalar.n_one]
    ring

/-! ## 3  the sweep of the code-level model satisfies every equation of the extrapolated sweep of the spec -/

/-- every line system is solved exactly by the line solver model (discharged below from positive definiteness): the cyclic
    tridiagonal systems of the odd circles, the tridiagonal systems of the odd radial lines, non-zero stored diagonal entries
    at the fine nodes of the even circles / even radial lines, non-vanishing pivots of the innermost circle's LU -/
structure ExLinesOK (o : Op K) (nc : Nat) : Prop where
  circle : ∀ i, 0 < i → i < nc → i % 2 = 1 → ∀ y : List K, y.length = o.nt →
    Tridiag.mulC (circleTriMain o i) (circleTriSub o i) (circleTriCorner o i) (Tridiag.solve (circleTriSolver o i) y).2 = y
  radial : ∀ j, j < o.nt → j % 2 = 1 → ∀ y : List K, y.length = o.nr - nc →
    Tridiag.mulT (radialTriMain o nc j) (radialTriSub o nc j) (Tridiag.solve (radialTriSolver o nc j) y).2 0 = y
  diag : ∀ i j, 0 < i → i + 1 < o.nr → j < o.nt →
    (if i < nc then i % 2 = 0 ∧ j % 2 = 1 else i % 2 = 1 ∧ j % 2 = 0) → centerValue o i j (i - 1) j ≠ 0
  inner : ∀ i, i < o.nt → SparseLU.den ((SparseLU.factorRows (innerCSR o)).2.getD i []) i ≠ 0

theorem stepOK_writeCircle (o : Op K) (f : Stencil.Field K) (fr : Nat → Nat → Bool) (a : Array K)
    (hs : a.size = o.nr * o.nt) (hnr : 2 ≤ o.nr) (i : Nat) (vs : List K)
    (hkeep : ∀ q, q < o.nt → fr i q = true → vs.getD q 0 = fld o.nt a i q)
    (hzero : ∀ q, q < o.nt → fr i q = false → take o f (withCircle (fld o.nt a) i (fun q => vs.getD q 0)) i q = 0) :
    SmootherCode.StepOK o f fr (fun p _ => p = i) a (writeCircle o.nt a i vs) := by
  refine ⟨SmootherCode.size_writeCircle _ _ _ _, fun p q hp hq hne => ?_, ?_⟩
  · rw [SmootherCode.fld_writeCircle o.nr o.nt a hs i vs p q hp hq]
    split
    · subst p; exact hkeep q hq (hne.resolve_left fun h => h rfl)
    · rfl
  · rintro p q hp hq rfl hc
    rw [C06c.take_fld_writeCircle o f a hs hnr p vs p q hp hq]
    exact hzero q hq hc

theorem stepOK_writeRadial (o : Op K) (nc : Nat) (f : Stencil.Field K) (fr : Nat → Nat → Bool) (a : Array K)
    (hs : a.size = o.nr * o.nt) (hnr : 2 ≤ o.nr) (j : Nat) (hj : j < o.nt) (vs : List K)
    (hkeep : ∀ p, nc ≤ p → p < o.nr → fr p j = true → vs.getD (p - nc) 0 = fld o.nt a p j)
    (hzero : ∀ p, nc ≤ p → p < o.nr → fr p j = false →
      take o f (withRadial nc (fld o.nt a) j (fun i => vs.getD (i - nc) 0)) p j = 0) :
    SmootherCode.StepOK o f fr (fun p q => nc ≤ p ∧ q = j) a (writeRadial o.nt nc a j vs) := by
  refine ⟨SmootherCode.size_writeRadial _ _ _ _ _, fun p q hp hq hne => ?_, ?_⟩
  · rw [SmootherCode.fld_writeRadial o.nr o.nt nc a hs j vs p q hp hq]
    split
    · rename_i h
      obtain ⟨hpc, rfl⟩ := h
      exact hkeep p hpc hp (hne.resolve_left fun h => h ⟨hpc, rfl⟩)
    · rfl
  · rintro p q hp hq ⟨hpc, rfl⟩ hc
    rw [C06c.take_fld_writeRadial o nc f a hs hnr q vs p q hp hq]
    exact hzero p hpc hp hc

/-- one circle update of the sweep (odd circle: cyclic LDLᵀ, even circle: diagonal solver, innermost circle: sparse LU):
    the size, the other circles and the coarse nodes of the circle are untouched (exact equality) and the residual of the
    new state vanishes at the other nodes of the circle -/
theorem circle_step_spec (o : Op K) (nc : Nat) (tiny : K → Bool) (f : Stencil.Field K)
    (hnt : 4 ≤ o.nt) (heven : o.nt % 2 = 0) (hnr : nc + 3 ≤ o.nr) (hl : ExLinesOK o nc)
    (i : Nat) (hi : i < nc) (a a' : Array K) (hs : a.size = o.nr * o.nt)
    (h : (solveCircle o tiny nc f (fld o.nt a) i).map (writeCircle o.nt a i) = some a') :
    a'.size = a.size ∧
    (∀ p q, p < o.nr → q < o.nt → (¬ p = i ∨ coarseNode p q = true) → fld o.nt a' p q = fld o.nt a p q) ∧
    (∀ p q, p < o.nr → q < o.nt → p = i → coarseNode p q = false → take o f (fld o.nt a') p q = 0) := by
  obtain ⟨vs, hvs, rfl⟩ := Option.map_eq_some_iff.mp h
  have htl := length_circleTemp o nc f (fld o.nt a) i
  unfold solveCircle at hvs
  by_cases h0 : i = 0
  · -- innermost circle: sparse LU; the even rows are identity rows
    subst h0
    rw [if_pos rfl] at hvs
    have hmul := C16.lu_solve tiny (innerCSR o) hl.inner _ vs htl hvs
    have hlen : vs.length = o.nt := (SparseLU.solve_length tiny _ _ vs hvs).trans htl
    have hrow : ∀ q, q < o.nt → innerRowDot o (fun q => vs.getD q 0) q = orthoCircle o nc f (fld o.nt a) 0 q := by
      intro q hq
      have := inner_matrix_rows o (fun q => vs.getD q 0) (by omega) heven q hq
      rwa [← SmootherCode.list_eq_map_range vs o.nt hlen, hmul, getD_circleTemp o nc f _ 0 hq, eq_comm] at this
    have hA : ∀ q, q < o.nt → q % 2 = 0 → vs.getD q 0 = fld o.nt a 0 q := by
      intro q hq hq0
      have := hrow q hq
      rw [innerRowDot, orthoCircle, if_neg (by omega : ¬ (0 < 0 ∧ 0 < nc)), if_pos rfl] at this
      have hq1 : ¬ q % 2 = 1 := by omega
      cases hbc : o.bc <;> simpa [hbc, hq1] using this
    refine stepOK_writeCircle o f coarseNode a hs (by omega) 0 vs
      (fun q hq hc => hA q hq ((coarseNode_eq_true_iff 0 q).mp hc).2) fun q hq hc => ?_
    have hq1 : q % 2 = 1 := ((coarseNode_eq_false_iff 0 q).mp hc).resolve_left (by omega)
    have hm := jm_parity o heven hq
    have hp := jp_parity o heven hq
    rw [inner_split o nc f _ _ q hq1 (hA _ (jm_lt o (by omega) q) (by omega)) (hA _ (jp_lt o (by omega) q) (by omega)),
      hrow q hq, sub_self]
  · rw [if_neg h0] at hvs
    by_cases hodd : i % 2 = 1
    · -- odd circle: the cyclic tridiagonal system of `SmootherTake`; no coarse node
      rw [if_pos hodd, Option.some.injEq] at hvs
      refine stepOK_writeCircle o f coarseNode a hs (by omega) i vs
        (fun q _ hc => absurd ((coarseNode_eq_true_iff i q).mp hc).1 (by omega)) fun q hq _ => ?_
      refine C06c.circle_line_zero o nc f _ i (by omega) hi (by omega) (by omega) vs ?_ q hq
      rw [← circleTemp_odd o nc f _ i (by omega) hi hodd, ← hvs]
      exact hl.circle i (by omega) hi hodd _ htl
    · -- even circle: diagonal solver, `1` at the coarse nodes
      rw [if_neg hodd, Option.some.injEq] at hvs
      have hval : ∀ q, q < o.nt → vs.getD q 0
          = orthoCircle o nc f (fld o.nt a) i q / (if q % 2 = 1 then centerValue o i q (i - 1) q else 1) := by
        intro q hq
        rw [← hvs, getD_diagSolve _ _ (by simp) q (by rw [htl]; exact hq), getD_circleTemp o nc f _ i hq, circleDiag,
          SparseLU.getD_map_range, if_pos hq, Scalar.n_one]
      have hA : ∀ q, q < o.nt → q % 2 = 0 → vs.getD q 0 = fld o.nt a i q := by
        intro q hq hq0
        rw [hval q hq, if_neg (by omega), div_one, orthoCircle, if_pos ⟨by omega, hi⟩, if_neg hodd, if_neg (by omega)]
      refine stepOK_writeCircle o f coarseNode a hs (by omega) i vs
        (fun q hq hc => hA q hq ((coarseNode_eq_true_iff i q).mp hc).2) fun q hq hc => ?_
      have hq1 : q % 2 = 1 := ((coarseNode_eq_false_iff i q).mp hc).resolve_left hodd
      have hd := hl.diag i q (by omega) (by omega) hq (by rw [if_pos hi]; exact ⟨by omega, hq1⟩)
      rw [circle_even_split o nc f _ _ i q (by omega) hi (by omega) (by omega) heven hq hq1 (fun b hb hb0 => hA b hb hb0)]
      show _ - _ * vs.getD q 0 = 0
      rw [hval q hq, if_pos hq1, mul_div_cancel₀ _ hd, sub_self]

/-- one radial-line update of the sweep (odd line: LDLᵀ, even line: diagonal solver): the size, all nodes off the line and
    the coarse nodes of the line are untouched and the residual of the new state vanishes at the other nodes of the line -/
theorem radial_step_spec (o : Op K) (nc : Nat) (f : Stencil.Field K)
    (hnt : 2 ≤ o.nt) (hnc : 2 ≤ nc) (hnr : nc + 3 ≤ o.nr) (hnrodd : o.nr % 2 = 1) (hl : ExLinesOK o nc)
    (j : Nat) (hj : j < o.nt) (a : Array K) (hs : a.size = o.nr * o.nt) :
    (radialStep o nc f a j).size = a.size ∧
    (∀ p q, p < o.nr → q < o.nt → (¬ (nc ≤ p ∧ q = j) ∨ coarseNode p q = true) →
      fld o.nt (radialStep o nc f a j) p q = fld o.nt a p q) ∧
    (∀ p q, p < o.nr → q < o.nt → (nc ≤ p ∧ q = j) → coarseNode p q = false →
      take o f (fld o.nt (radialStep o nc f a j)) p q = 0) := by
  unfold radialStep solveRadial
  have htl := length_radialTemp o nc f (fld o.nt a) j
  by_cases hodd : j % 2 = 1
  · -- odd line: the tridiagonal system of `SmootherTake`; no coarse node
    rw [if_pos hodd]
    refine stepOK_writeRadial o nc f coarseNode a hs (by omega) j hj _
      (fun p _ _ hc => absurd ((coarseNode_eq_true_iff p j).mp hc).2 (by omega)) fun p hpc hp _ => ?_
    refine C06c.radial_line_zero o nc f _ j hj hnc hnr hnt _ ?_ p hpc hp
    rw [← radialTriMain_eq o nc j hnr, ← radialTriSub_eq o nc j hnr, ← radialTemp_odd o nc f _ j hodd]
    exact hl.radial j hj hodd _ htl
  · -- even line: diagonal solver
    rw [if_neg hodd]
    have hevenj : j % 2 = 0 := by omega
    generalize hvs : diagSolve (radialDiag o nc j) (radialTemp o nc f (fld o.nt a) j) = vs
    have hval : ∀ p, nc ≤ p → p < o.nr → vs.getD (p - nc) 0
        = orthoRadial o nc f (fld o.nt a) p j / (radialDiag o nc j).getD (p - nc) 0 := by
      intro p hpc hp
      rw [← hvs, getD_diagSolve _ _ (by simp) (p - nc) (by rw [htl]; omega),
        getD_radialTemp o nc f _ j (by omega), Nat.add_sub_cancel' hpc]
    have hA : ∀ p, nc ≤ p → p < o.nr → p % 2 = 0 → vs.getD (p - nc) 0 = fld o.nt a p j := by
      intro p hpc hp hp0
      obtain ⟨h1, h2⟩ := (radial_even_entries o nc f (fld o.nt a) p j hnrodd hpc hp hevenj).1 hp0
      rw [hval p hpc hp, h1, h2, div_one]
    refine stepOK_writeRadial o nc f coarseNode a hs (by omega) j hj vs
      (fun p hpc hp hc => hA p hpc hp ((coarseNode_eq_true_iff p j).mp hc).1) fun p hpc hp hc => ?_
    have hp1 : p % 2 = 1 := ((coarseNode_eq_false_iff p j).mp hc).resolve_right hodd
    obtain ⟨h1, h2, _⟩ := (radial_even_entries o nc f (fld o.nt a) p j hnrodd hpc hp hevenj).2 hp1
    have hd := hl.diag p j (by omega) h1 hj (by rw [if_neg (by omega)]; exact ⟨hp1, hevenj⟩)
    rw [radial_even_split o nc f _ _ p j hnrodd hnt hpc hp hp1 hevenj hA]
    show _ - _ * vs.getD (p - nc) 0 = 0
    rw [hval p hpc hp, h2, mul_div_cancel₀ _ hd, sub_self]

theorem sweep_size (o : Op K) (nc : Nat) (tiny : K → Bool) (f : Stencil.Field K) (x y : Array K)
    (hs : sweep o tiny nc f x = some y) : y.size = x.size :=
  SmootherCode.sweepWith_size (fun _ _ _ => SmootherCode.size_of_map_writeCircle)
    (fun _ _ => SmootherCode.size_writeRadial _ _ _ _ _) ((sweep_eq_sweepWith o tiny nc f x).symm.trans hs)

/-- **refinement**: whatever `ExtrapolatedSmootherTake::extrapolatedSmoothing` (as modelled: assembled tridiagonal / diagonal /
    CSR matrices, `temp`, LDLᵀ / Sherman–Morrison / diagonal / sparse LU solves, four colour phases in code order) returns
    satisfies the equations of the extrapolated sweep of `GMGModel/Smoother.lean`: coarse nodes keep their value, every other
    node satisfies its sweep equation -/
theorem code_exsweep_isExSweep (o : Op K) (nc : Nat) (tiny : K → Bool) (f : Stencil.Field K) (x y : Array K)
    (hnt : 4 ≤ o.nt) (heven : o.nt % 2 = 0) (hnc : 2 ≤ nc) (hnr : nc + 3 ≤ o.nr) (hnrodd : o.nr % 2 = 1)
    (hx : x.size = o.nr * o.nt) (hl : ExLinesOK o nc) (hs : sweep o tiny nc f x = some y) :
    IsExSweep o nc f (fld o.nt x) (fld o.nt y) := by
  obtain ⟨hfix, hrel⟩ := SmootherCode.sweepWith_spec o nc f coarseNode (Or.inl (by omega)) (by omega) (by omega) heven _ _
    (circle_step_spec o nc tiny f hnt heven hnr hl) (radial_step_spec o nc f (by omega) hnc hnr hnrodd hl)
    x y hx ((sweep_eq_sweepWith o tiny nc f x).symm.trans hs)
  intro i j hi hj
  cases hc : coarseNode i j
  · rw [exDefect_of_fine o nc f _ _ hc]; exact hrel i j hi hj hc
  · rw [exDefect_of_coarse o nc f _ _ hc]; exact sub_eq_zero.mpr (hfix i j hi hj hc)

/-- the sweep returns (no `std::exit`) when the `tiny` test never fires on the pivots of the innermost circle -/
theorem code_exsweep_total (o : Op K) (nc : Nat) (tiny : K → Bool) (f : Stencil.Field K) (x : Array K)
    (ht : ∀ i, i < o.nt → tiny (SparseLU.den ((SparseLU.factorRows (innerCSR o)).2.getD i []) i) = false) :
    ∃ y, sweep o tiny nc f x = some y := by
  refine SmootherCode.sweepWith_total fun a i => ?_
  unfold solveCircle
  split
  · obtain ⟨vs, hvs, _⟩ := SparseLU.solve_total tiny (innerCSR o) ht (circleTemp o nc f (fld o.nt a) 0)
    exact ⟨_, congrArg (Option.map _) hvs⟩
  · split <;> exact ⟨_, rfl⟩

/-- corollary: the code-level sweep returns the coarse nodes unchanged — exact equality -/
theorem code_exsweep_coarse_fixed (o : Op K) (nc : Nat) (tiny : K → Bool) (f : Stencil.Field K) (x y : Array K)
    (hnt : 4 ≤ o.nt) (heven : o.nt % 2 = 0) (hnc : 2 ≤ nc) (hnr : nc + 3 ≤ o.nr) (hnrodd : o.nr % 2 = 1)
    (hx : x.size = o.nr * o.nt) (hl : ExLinesOK o nc) (hs : sweep o tiny nc f x = some y)
    (i j : Nat) (hi : i < o.nr) (hj : j < o.nt) (hc : coarseNode i j = true) :
    fld o.nt y i j = fld o.nt x i j :=
  C07.coarse_fixed o nc f _ _ (code_exsweep_isExSweep o nc tiny f x y hnt heven hnc hnr hnrodd hx hl hs) i j hi hj hc

/-- corollary: after the code-level sweep the residual vanishes on the white radial lines (the last
    colour; all of their nodes are fine-only) -/
theorem code_exsweep_last_colour (o : Op K) (nc : Nat) (tiny : K → Bool) (f : Stencil.Field K) (x y : Array K)
    (hnt : 4 ≤ o.nt) (heven : o.nt % 2 = 0) (hnc : 2 ≤ nc) (hnr : nc + 3 ≤ o.nr) (hnrodd : o.nr % 2 = 1)
    (hx : x.size = o.nr * o.nt) (hl : ExLinesOK o nc) (hs : sweep o tiny nc f x = some y)
    (i j : Nat) (hi : i < o.nr) (hj : j < o.nt) (hrad : nc ≤ i) (hodd : j % 2 = 1) :
    take o f (fld o.nt y) i j = 0 :=
  C07.ex_last_colour o nc f _ _ (code_exsweep_isExSweep o nc tiny f x y hnt heven hnc hnr hnrodd hx hl hs)
    i j hi hj hrad hodd

/-- corollary: every fine-only node satisfies its row equation for the iterate after its own colour phase -/
theorem code_exsweep_phase_colour (o : Op K) (nc : Nat) (tiny : K → Bool) (f : Stencil.Field K) (x y : Array K)
    (hnt : 4 ≤ o.nt) (heven : o.nt % 2 = 0) (hnc : 2 ≤ nc) (hnr : nc + 3 ≤ o.nr) (hnrodd : o.nr % 2 = 1)
    (hx : x.size = o.nr * o.nt) (hl : ExLinesOK o nc) (hs : sweep o tiny nc f x = some y)
    (i j : Nat) (hi : i < o.nr) (hj : j < o.nt) (hc : coarseNode i j = false) :
    take o f (mix nc (phase nc i j) (fld o.nt x) (fld o.nt y)) i j = 0 :=
  C07.ex_phase_colour o nc f _ _ (code_exsweep_isExSweep o nc tiny f x y hnt heven hnc hnr hnrodd hx hl hs)
    _ i j hi hj rfl hc

/-- corollary: the outer Dirichlet nodes of the odd radial lines carry the data, those of the even radial lines (coarse
    nodes, `nr` odd) keep the incoming value -/
theorem code_exsweep_dirichlet_outer (o : Op K) (nc : Nat) (tiny : K → Bool) (f : Stencil.Field K) (x y : Array K)
    (hnt : 4 ≤ o.nt) (heven : o.nt % 2 = 0) (hnc : 2 ≤ nc) (hnr : nc + 3 ≤ o.nr) (hnrodd : o.nr % 2 = 1)
    (hx : x.size = o.nr * o.nt) (hl : ExLinesOK o nc) (hs : sweep o tiny nc f x = some y) (j : Nat) (hj : j < o.nt) :
    fld o.nt y (o.nr - 1) j = if j % 2 = 0 then fld o.nt x (o.nr - 1) j else f (o.nr - 1) j := by
  have h := C07.ex_dirichlet_set_outer o nc (by omega) f _ _
    (code_exsweep_isExSweep o nc tiny f x y hnt heven hnc hnr hnrodd hx hl hs) j hj
  rw [h]
  have he : (o.nr - 1) % 2 = 0 := by omega
  by_cases hj0 : j % 2 = 0
  · rw [if_pos hj0, if_pos (by simp [coarseNode, he, hj0])]
  · rw [if_neg hj0, if_neg (by simp [coarseNode, hj0])]

end AnyField

/-! ## 4  the hypothesis `ExLinesOK` from positive definiteness of the line blocks -/
section Ordered
variable {K : Type} [_root_.Field K] [LinearOrder K] [IsStrictOrderedRing K]

/-- SPD tridiagonal line matrices (in the sense of C14), non-zero stored diagonal entries at the fine nodes of the diagonal
    lines and non-vanishing pivots of the innermost circle's LU give `ExLinesOK` -/
theorem exLinesOK_of_spd (o : Op K) (nc : Nat) (hnt : 4 ≤ o.nt) (hnr : nc + 3 ≤ o.nr)
    (hc : ∀ i, 0 < i → i < nc → i % 2 = 1 → Tridiag.SPDc (circleTriMain o i) (circleTriSub o i) (circleTriCorner o i))
    (hr : ∀ j, j < o.nt → j % 2 = 1 → Tridiag.SPD (radialTriMain o nc j) (radialTriSub o nc j))
    (hd : ∀ i j, 0 < i → i + 1 < o.nr → j < o.nt →
      (if i < nc then i % 2 = 0 ∧ j % 2 = 1 else i % 2 = 1 ∧ j % 2 = 0) → centerValue o i j (i - 1) j ≠ 0)
    (hi : ∀ i, i < o.nt → SparseLU.den ((SparseLU.factorRows (innerCSR o)).2.getD i []) i ≠ 0) :
    ExLinesOK o nc := by
  refine ⟨?_, ?_, hd, hi⟩
  · intro i hi0 hinc hodd y hy
    exact C14.cyclic_solve (circleTriMain o i) (circleTriSub o i) y (circleTriCorner o i) (by simp [circleTriMain, hy])
      (by simp [circleTriMain, circleTriSub]; omega) (by simp [circleTriMain]; omega) (hc i hi0 hinc hodd)
  · intro j hj hodd y hy
    exact C14.tridiag_solve_spd (radialTriMain o nc j) (radialTriSub o nc j) y _ (by simp [radialTriMain, hy])
      (by simp [radialTriMain, radialTriSub]; omega) (hr j hj hodd)

/-- positive diagonal entries are in particular non-zero (the diagonal entry of an M-matrix row) -/
theorem exLinesOK_of_spd_pos (o : Op K) (nc : Nat) (hnt : 4 ≤ o.nt) (hnr : nc + 3 ≤ o.nr)
    (hc : ∀ i, 0 < i → i < nc → i % 2 = 1 → Tridiag.SPDc (circleTriMain o i) (circleTriSub o i) (circleTriCorner o i))
    (hr : ∀ j, j < o.nt → j % 2 = 1 → Tridiag.SPD (radialTriMain o nc j) (radialTriSub o nc j))
    (hd : ∀ i j, 0 < i → i + 1 < o.nr → j < o.nt → 0 < centerValue o i j (i - 1) j)
    (hi : ∀ i, i < o.nt → SparseLU.den ((SparseLU.factorRows (innerCSR o)).2.getD i []) i ≠ 0) :
    ExLinesOK o nc :=
  exLinesOK_of_spd o nc hnt hnr hc hr (fun i j h0 h1 hj _ => ne_of_gt (hd i j h0 h1 hj)) hi

/-- the form for concrete operators, every hypothesis a bounded check: strictly diagonally dominant tridiagonal lines
    (C14: these are SPD), non-zero stored diagonal entries, non-vanishing LU pivots -/
theorem exLinesOK_of_sdd (o : Op K) (nc : Nat) (hnt : 4 ≤ o.nt) (hnr : nc + 3 ≤ o.nr)
    (hc : ∀ i, i < nc → 0 < i → i % 2 = 1 → Tridiag.SDDc (circleTriMain o i) (circleTriSub o i) (circleTriCorner o i))
    (hr : ∀ j, j < o.nt → Tridiag.SDD (radialTriMain o nc j) (radialTriSub o nc j))
    (hd : ∀ i, i < o.nr → ∀ j, j < o.nt → centerValue o i j (i - 1) j ≠ 0)
    (hi : ∀ i, i < o.nt → SparseLU.den ((SparseLU.factorRows (innerCSR o)).2.getD i []) i ≠ 0) :
    ExLinesOK o nc :=
  exLinesOK_of_spd o nc hnt hnr
    (fun i h0 h1 hodd => C14.sddc_is_spdc _ _ _ (by simp [circleTriMain, circleTriSub]; omega) (hc i h1 h0 hodd))
    (fun j hj _ => C14.sdd_is_spd _ _ (by simp [radialTriMain, radialTriSub]; omega) (hr j hj))
    (fun i j _ hi hj _ => hd i (by omega) j hj) hi

end Ordered

/-! ## 5  non-vacuity: a concrete operator on which `ExLinesOK` holds and the sweep runs -/

/-- across the origin (`bc = false`), `nr = 7`, `nt = 4`, three circles, non-uniform spacings, non-zero mixed coefficient -/
def exOp : Op ℚ :=
  { nr := 7, nt := 4, bc := false, r0 := 1 / 2, h := fun i => 1 + i, k := fun j => if j % 2 = 0 then 1 else 2,
    arr := fun i j => 1 + i + j, att := fun i j => 2 + i * j, art := fun i j => (i : ℚ) - j,
    det := fun i _ => 1 + i, beta := fun i => i }

/-- the code's test `std::abs(diag) < 1e-12` -/
def exTiny : ℚ → Bool := fun d => decide (|d| < 1 / 1000000000000)
def exF : Stencil.Field ℚ := fun i j => 1 + i * j
def exX : Array ℚ := ofField 7 4 (fun i j => (i : ℚ) - 2 * j)
/-- the result of the code-level sweep (28 rationals, computed by the kernel) -/
def exY : Array ℚ := (sweep exOp exTiny 3 exF exX).getD #[]

/-- the hypotheses of `exLinesOK_of_sdd` hold for `exOp` (the tridiagonal line matrices are strictly diagonally dominant, the
    stored diagonal entries and the pivots of the innermost circle's LU do not vanish), hence `ExLinesOK` -/
theorem exOp_linesOK : ExLinesOK exOp 3 :=
  exLinesOK_of_sdd exOp 3 (by decide) (by decide) (by decide +kernel) (by decide +kernel) (by decide +kernel)
    (by decide +kernel)

theorem exY_spec : sweep exOp exTiny 3 exF exX = some exY := by
  obtain ⟨y, hy⟩ := code_exsweep_total exOp 3 exTiny exF exX (by decide +kernel)
  rw [exY, hy]; rfl

/-- all hypotheses of `code_exsweep_isExSweep` hold on the instance, so its conclusion does -/
example : IsExSweep exOp 3 exF (fld 4 exX) (fld 4 exY) :=
  code_exsweep_isExSweep exOp 3 exTiny exF exX exY (by decide) (by decide) (by decide) (by decide) (by decide)
    (by decide +kernel) exOp_linesOK exY_spec

/-- independent check by evaluation: the 28 equations of the extrapolated sweep hold for the computed `exY`, the sweep
    changed fine nodes on a diagonal circle, on a tridiagonal circle, on the innermost circle and on both kinds of radial
    lines, and kept the coarse nodes -/
example : (∀ i, i < 7 → ∀ j, j < 4 → exDefect exOp 3 exF (fld 4 exX) (fld 4 exY) i j = 0) ∧
    fld 4 exY 2 1 ≠ fld 4 exX 2 1 ∧ fld 4 exY 1 0 ≠ fld 4 exX 1 0 ∧ fld 4 exY 0 1 ≠ fld 4 exX 0 1 ∧
    fld 4 exY 3 2 ≠ fld 4 exX 3 2 ∧ fld 4 exY 4 1 ≠ fld 4 exX 4 1 ∧
    (∀ i, i < 7 → ∀ j, j < 4 → coarseNode i j = true → fld 4 exY i j = fld 4 exX i j) := by decide +kernel

example : ∃ y, sweep exOp exTiny 3 exF exX = some y :=
  code_exsweep_total exOp 3 exTiny exF exX (by decide +kernel)

/-! ## 6  the hypothesis `nr` odd is needed -/

/-- the same data on a grid with an even number of radial nodes -/
def evOp : Op ℚ := { exOp with nr := 6 }
def evX : Array ℚ := ofField 6 4 (fun i j => (i : ℚ) - 2 * j)
def evY : Array ℚ := (sweep evOp exTiny 3 exF evX).getD #[]

theorem evOp_linesOK : ExLinesOK evOp 3 :=
  exLinesOK_of_sdd evOp 3 (by decide) (by decide) (by decide +kernel) (by decide +kernel) (by decide +kernel)
    (by decide +kernel)

theorem evY_spec : sweep evOp exTiny 3 exF evX = some evY := by
  obtain ⟨y, hy⟩ := code_exsweep_total evOp 3 exTiny exF evX (by decide +kernel)
  rw [evY, hy]; rfl

theorem evY_effects :
    fld 4 evY 4 0 ≠ fld 4 evX 4 0 ∧ fld 4 evY 5 0 = fld 4 evX 5 0 ∧ fld 4 evX 5 0 ≠ exF 5 0 := by decide +kernel

/-- **the hypothesis `nr` odd cannot be dropped**: on `evOp` (`nr = 6`, all other hypotheses of `code_exsweep_isExSweep`
    hold) the code-level sweep moves the coarse node `(4, 0)` (row `i = nr - 2` of an even radial line stores Center and
    gets the relaxation right-hand side whatever the parity of `i`; the C++ only `assert`s `i_r % 2 == 1` there) and keeps
    the incoming value at the fine Dirichlet node `(5, 0)` instead of setting the boundary datum.  Grids with `nr` even do
    not occur on the smoothed levels of a solver whose set-up succeeded (`C18.levels_admissible`). -/
theorem nr_odd_needed :
    ¬ ∀ (o : Op ℚ) (nc : Nat) (tiny : ℚ → Bool) (f : Stencil.Field ℚ) (x y : Array ℚ),
      4 ≤ o.nt → o.nt % 2 = 0 → 2 ≤ nc → nc + 3 ≤ o.nr → x.size = o.nr * o.nt → ExLinesOK o nc →
      sweep o tiny nc f x = some y → IsExSweep o nc f (fld o.nt x) (fld o.nt y) := by
  intro h
  have h1 := h evOp 3 exTiny exF evX evY (by decide) (by decide) (by decide) (by decide) (by decide +kernel)
    evOp_linesOK evY_spec
  exact evY_effects.1 (C07.coarse_fixed evOp 3 exF _ _ h1 4 0 (by decide) (by decide) (by decide))

/-- the two observable effects on `evOp`: the coarse node `(4, 0)` moves, the Dirichlet node `(5, 0)` keeps the incoming
    value although it differs from the datum -/
example : fld 4 evY 4 0 ≠ fld 4 evX 4 0 ∧ fld 4 evY 5 0 = fld 4 evX 5 0 ∧ fld 4 evX 5 0 ≠ exF 5 0 := evY_effects

/-! ## 7  `nt` divisible by 4 is not needed: an instance with `nt = 6` -/

/-- the same data with six angular nodes: `nt / 2` is odd, the antipode of the odd node 1 of the innermost circle is the
    coarse node 4 -/
def op6 : Op ℚ := { exOp with nt := 6 }
def x6 : Array ℚ := ofField 7 6 (fun i j => (i : ℚ) - 2 * j)
def y6 : Array ℚ := (sweep op6 exTiny 3 exF x6).getD #[]
theorem op6_linesOK : ExLinesOK op6 3 :=
  exLinesOK_of_sdd op6 3 (by decide) (by decide) (by decide +kernel) (by decide +kernel) (by decide +kernel)
    (by decide +kernel)

theorem y6_spec : sweep op6 exTiny 3 exF x6 = some y6 := by
  obtain ⟨y, hy⟩ := code_exsweep_total op6 3 exTiny exF x6 (by decide +kernel)
  rw [y6, hy]; rfl
/-- the main theorem applies (no hypothesis `nt % 4 = 0`) -/
example : IsExSweep op6 3 exF (fld 6 x6) (fld 6 y6) :=
  code_exsweep_isExSweep op6 3 exTiny exF x6 y6 (by decide) (by decide) (by decide) (by decide) (by decide)
    (by decide +kernel) op6_linesOK y6_spec
/-- independent check by evaluation -/
example : (∀ i, i < 7 → ∀ j, j < 6 → exDefect op6 3 exF (fld 6 x6) (fld 6 y6) i j = 0) ∧ fld 6 y6 0 1 ≠ fld 6 x6 0 1 ∧ ja op6 1 = 4 := by decide +kernel
end C07c
