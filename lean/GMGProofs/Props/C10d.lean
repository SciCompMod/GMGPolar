import GMGProofs.Props.C10c
/-!
# C10 (the whole cycle inside the model, continued): any depth, and the implicitly extrapolated cycle

`C10c.concrete_exact_fixed` is the two-level plain cycle.  Here: hierarchies of ANY depth `L ≥ 2` (the intermediate levels
smooth a zero correction with a zero right-hand side — `MGCycle.ZeroData` discharged for the code-level models), and the
implicitly extrapolated cycle (`C10.exact_fixed_extrap` instantiated), whose fixed-point statement needs the iterate to be
exact on levels 0 AND 1 (that is what `ExExactData.rhs_zero` says — the extrapolated right-hand side combines both residuals).
With the extrapolated smoother on level 0 the proof composes `C07c.code_exsweep_isExSweep`, `C07c.code_exsweep_total`,
`C07.ex_fixed_point` with two facts proved in `GMGProofs/Lemmas/ConcreteSweep.lean`: `C07c.ExLinesOK` holds for a Dirichlet inner
boundary and elliptic data, and the equations of the extrapolated sweep have at most one solution in that mode.
Holds the level hypothesis `LevelOK`, the property theorems and the example hierarchy `exH3`; helper lemmas in
`GMGProofs/Lemmas/ConcreteSweep.lean`, `ConcreteOps.lean`.
-/
namespace C10d
open MGCycle Concrete Stencil

section Ordered
variable {K : Type} [_root_.Field K] [LinearOrder K] [IsStrictOrderedRing K]

/-- a smoothing level the solver accepts: Dirichlet inner boundary, elliptic data, admissible sizes -/
structure LevelOK (D : LevelData K) : Prop where
  nt : 4 ≤ D.op.nt
  even : D.op.nt % 2 = 0
  nc : 2 ≤ D.nc
  nr : D.nc + 3 ≤ D.op.nr
  bc : D.op.bc = true
  ell : Elliptic D.op

omit [IsStrictOrderedRing K] in
/-- `LevelOK` is the conjunction the lemma files use -/
theorem LevelOK.hyp {D : LevelData K} (h : LevelOK D) : LevelHyp D := ⟨h.nt, h.even, h.nc, h.nr, h.bc, h.ell⟩

/-- **any depth**: the concrete V-, W- and F-cycle on `L ≥ 2` levels leaves the exact discrete solution alone -/
theorem concrete_exact_fixed_depth (H : Hier K) (L : Nat) (hL : 2 ≤ L) (k : Kind) (nu1 nu2 : Nat) (fgs : Bool) (u f : Array K)
    (hlev : ∀ l, l + 1 < L → LevelOK (lvl H l)) (ht1 : H.tiny 1 = false)
    (M : SparseLU.CSR K) (hM : DirectCode.assemble H.tables (lvl H (L - 1)).op = some M)
    (ht : ∀ r, r < M.rows → H.tiny (SparseLU.den ((SparseLU.factorRows M).2.getD r []) r) = false)
    (hu : u.size = (lvl H 0).op.nr * (lvl H 0).op.nt)
    (hsol : ∀ i j, i < (lvl H 0).op.nr → j < (lvl H 0).op.nt →
      take (lvl H 0).op (SmootherCode.fld (lvl H 0).op.nt f) (SmootherCode.fld (lvl H 0).op.nt u) i j = 0)
    (m : Mem (Option (Array K))) (hm : m (0, Buf.sol) = some u) (hr : m (0, Buf.rhs) = some f) :
    cycle H ⟨L, nu1, nu2⟩ k false fgs m (0, Buf.sol) = some u := by
  have E : ExactData (ops H) ⟨L, nu1, nu2⟩ 0 (m (0, Buf.sol)) (m (0, Buf.rhs)) := by
    rw [hm, hr]
    exact exactData_depth H L nu1 nu2 hL u f (fun l h => (hlev l h).hyp) ht1 ⟨M, hM, ht⟩ hu hsol
  have hL' : 1 ≤ (⟨L, nu1, nu2⟩ : Cfg).levels - 1 := by show 1 ≤ L - 1; omega
  unfold cycle
  rw [C10.exact_fixed_exec (ops H) ⟨L, nu1, nu2⟩ k fgs m hL' E, hm]

/-- the implicitly extrapolated cycle with either level-0 smoother (`nr` odd for the extrapolated one) leaves an iterate alone
    that is exact on level 0 and whose injection is exact on level 1 -/
theorem extrap_fixed (H : Hier K) (L : Nat) (hL : 2 ≤ L) (k : Kind) (nu1 nu2 : Nat) (fgs : Bool) (u f f1 : Array K)
    (hlev : ∀ l, l + 1 < L → LevelOK (lvl H l)) (hodd : fgs = false → (lvl H 0).op.nr % 2 = 1) (ht1 : H.tiny 1 = false)
    (hc : CoarseOK H (L - 1)) (hu : u.size = (lvl H 0).op.nr * (lvl H 0).op.nt) (hsol : Solves H 0 f u)
    (hnr1 : L = 2 → (lvl H 1).op.bc = true ∨ 2 ≤ (lvl H 1).op.nr) (hsol1 : InjSolves H f1 u)
    (m : Mem (Option (Array K))) (hm : m (0, Buf.sol) = some u) (hr : m (0, Buf.rhs) = some f)
    (hr1 : m (1, Buf.rhs) = some f1) : cycle H ⟨L, nu1, nu2⟩ k true fgs m (0, Buf.sol) = some u := by
  have E : ExExactData (ops H) ⟨L, nu1, nu2⟩ fgs (m (0, Buf.sol)) (m (0, Buf.rhs)) (m (1, Buf.rhs)) := by
    rw [hm, hr, hr1]
    exact exExactData H L nu1 nu2 hL fgs u f f1 (fun l h => (hlev l h).hyp) hodd ht1 hc hu hsol
      (lvl1_bc_or_nr H (fun l h => (hlev l h).bc) hnr1 hL) hsol1
  have hL' : 1 ≤ (⟨L, nu1, nu2⟩ : Cfg).levels - 1 := by show 1 ≤ L - 1; omega
  unfold cycle
  rw [C10.exact_fixed_extrap (ops H) ⟨L, nu1, nu2⟩ k fgs m hL' E, hm]

/-- **implicitly extrapolated cycle, full-grid smoothing on level 0** (`fgs = true`: the modes IMPLICIT_FULL_GRID_SMOOTHING and
    COMBINED while `full_grid_smoothing_` is set): an iterate that is exact on level 0 and whose injection is exact on level 1
    is a fixed point, for any depth.
    `hnr1`: on a TWO-level hierarchy nothing else is assumed about level 1 (it is the coarsest level), and the model's residual
    reads the injected iterate from a level-1 ARRAY; the row equation of `hsol1` at a node `(0, j)` reads `(1, j)` when the
    inner boundary is not Dirichlet, which is off the array when `nr = 1`.  For `L ≥ 3` it follows from `hlev 1`. -/
theorem concrete_exact_fixed_extrap_fgs (H : Hier K) (L : Nat) (hL : 2 ≤ L) (k : Kind) (nu1 nu2 : Nat) (u f f1 : Array K)
    (hlev : ∀ l, l + 1 < L → LevelOK (lvl H l)) (ht1 : H.tiny 1 = false)
    (M : SparseLU.CSR K) (hM : DirectCode.assemble H.tables (lvl H (L - 1)).op = some M)
    (ht : ∀ r, r < M.rows → H.tiny (SparseLU.den ((SparseLU.factorRows M).2.getD r []) r) = false)
    (hu : u.size = (lvl H 0).op.nr * (lvl H 0).op.nt)
    (hsol : ∀ i j, i < (lvl H 0).op.nr → j < (lvl H 0).op.nt →
      take (lvl H 0).op (SmootherCode.fld (lvl H 0).op.nt f) (SmootherCode.fld (lvl H 0).op.nt u) i j = 0)
    (hnr1 : L = 2 → (lvl H 1).op.bc = true ∨ 2 ≤ (lvl H 1).op.nr)
    (hsol1 : ∀ i j, i < (lvl H 1).op.nr → j < (lvl H 1).op.nt →
      take (lvl H 1).op (SmootherCode.fld (lvl H 1).op.nt f1)
        (Interp.inject (SmootherCode.fld (lvl H 0).op.nt u)) i j = 0)
    (m : Mem (Option (Array K))) (hm : m (0, Buf.sol) = some u) (hr : m (0, Buf.rhs) = some f)
    (hr1 : m (1, Buf.rhs) = some f1) :
    cycle H ⟨L, nu1, nu2⟩ k true true m (0, Buf.sol) = some u :=
  extrap_fixed H L hL k nu1 nu2 true u f f1 hlev (fun h => by cases h) ht1 ⟨M, hM, ht⟩ hu hsol hnr1 hsol1 m hm hr hr1

/-- **implicitly extrapolated cycle with the extrapolated smoother on level 0** (`fgs = false`: IMPLICIT_EXTRAPOLATION, and COMBINED
    after the switch): the same, the level-0 smoothing being `ExSmootherCode.sweep`; `nr` odd as the extrapolated smoother requires
    (`C07c.nr_odd_needed`).  No hypothesis on the line solves of the extrapolated smoother: `C07c.ExLinesOK` is proved from the
    Dirichlet inner boundary and ellipticity (`Concrete.exLinesOK_dirichlet`). -/
theorem concrete_exact_fixed_extrap (H : Hier K) (L : Nat) (hL : 2 ≤ L) (k : Kind) (nu1 nu2 : Nat) (u f f1 : Array K)
    (hlev : ∀ l, l + 1 < L → LevelOK (lvl H l)) (hodd : (lvl H 0).op.nr % 2 = 1) (ht1 : H.tiny 1 = false)
    (M : SparseLU.CSR K) (hM : DirectCode.assemble H.tables (lvl H (L - 1)).op = some M)
    (ht : ∀ r, r < M.rows → H.tiny (SparseLU.den ((SparseLU.factorRows M).2.getD r []) r) = false)
    (hu : u.size = (lvl H 0).op.nr * (lvl H 0).op.nt)
    (hsol : ∀ i j, i < (lvl H 0).op.nr → j < (lvl H 0).op.nt →
      take (lvl H 0).op (SmootherCode.fld (lvl H 0).op.nt f) (SmootherCode.fld (lvl H 0).op.nt u) i j = 0)
    (hnr1 : L = 2 → (lvl H 1).op.bc = true ∨ 2 ≤ (lvl H 1).op.nr)
    (hsol1 : ∀ i j, i < (lvl H 1).op.nr → j < (lvl H 1).op.nt →
      take (lvl H 1).op (SmootherCode.fld (lvl H 1).op.nt f1)
        (Interp.inject (SmootherCode.fld (lvl H 0).op.nt u)) i j = 0)
    (m : Mem (Option (Array K))) (hm : m (0, Buf.sol) = some u) (hr : m (0, Buf.rhs) = some f)
    (hr1 : m (1, Buf.rhs) = some f1) :
    cycle H ⟨L, nu1, nu2⟩ k true false m (0, Buf.sol) = some u :=
  extrap_fixed H L hL k nu1 nu2 false u f f1 hlev (fun _ => hodd) ht1 ⟨M, hM, ht⟩ hu hsol hnr1 hsol1 m hm hr hr1

end Ordered

/-! ## non-vacuity: a three-level hierarchy over ℚ satisfying the hypotheses of all three theorems, with a non-zero solution

Level 0 is a 13 × 16 grid (four smoother circles, `nr` odd), levels 1 and 2 are the two levels of `C10c.exH`
(7 × 8 and 4 × 4), so the 16 coarse pivots are those evaluated in `C10c.exH_pivots`. -/

/-- fine level 13 × 16, non-uniform spacings, a genuinely mixed coefficient -/
def exL0 : LevelData ℚ :=
  ⟨{ nr := 13, nt := 16, bc := true, r0 := 1 / 10, h := fun i => 1 + i, k := fun j => 1 + j,
     arr := fun i j => 1 + i + j, att := fun i j => 2 + i * j, art := fun _ _ => 1,
     det := fun i _ => 1 + i, beta := fun i => i }, 4⟩

def exP0 : Interp.Pair ℚ := ⟨13, 16, fun i => 1 + i, fun j => 1 + j, fun i => 1 + i, fun j => 1 + j⟩

/-- three levels 13 × 16 → 7 × 8 → 4 × 4, the `abs(pivot) < 1e-12` test, the generated offset tables -/
def exH3 : Hier ℚ := ⟨[exL0, C10c.exL0, C10c.exL1], [exP0, C10c.exP], C06c.exTiny, C04c.genTables⟩

theorem exL0_elliptic : Elliptic exL0.op :=
  C10c.exCoeff_elliptic 13 16 true (1 / 10) _ _ (fun i => by show (0 : ℚ) < 1 + i; positivity)
    (fun j => by show (0 : ℚ) < 1 + j; positivity)

theorem exH3_lvl0 : lvl exH3 0 = exL0 := rfl
theorem exH3_lvl1 : lvl exH3 1 = C10c.exL0 := rfl
theorem exH3_lvl2 : lvl exH3 2 = C10c.exL1 := rfl

/-- **the smoothing levels 0 and 1 satisfy `LevelOK`** -/
theorem exH3_levels : ∀ l, l + 1 < 3 → LevelOK (lvl exH3 l) := by
  intro l hl
  have : l = 0 ∨ l = 1 := by omega
  rcases this with rfl | rfl
  · rw [exH3_lvl0]
    exact ⟨by decide, by decide, by decide, by decide, rfl, exL0_elliptic⟩
  · rw [exH3_lvl1]
    exact ⟨by decide, by decide, by decide, by decide, rfl, C10c.exL0_elliptic⟩

/-- a field that is not zero, its right-hand side `f := A u` on level 0, and the level-1 right-hand side `f1 := A₁ (inject u)` -/
def exU : Array ℚ := SmootherCode.ofField 13 16 fun i j => 1 + (i : ℚ) * i - 3 * j
def exF : Array ℚ := SmootherCode.ofField 13 16 (A exL0.op (SmootherCode.fld 16 exU))
def exF1 : Array ℚ := SmootherCode.ofField 7 8 (A C10c.exL0.op (Interp.inject (SmootherCode.fld 16 exU)))

theorem exU_size : exU.size = (lvl exH3 0).op.nr * (lvl exH3 0).op.nt := Array.size_ofFn

theorem exU_sol : ∀ i j, i < (lvl exH3 0).op.nr → j < (lvl exH3 0).op.nt →
    take (lvl exH3 0).op (SmootherCode.fld (lvl exH3 0).op.nt exF) (SmootherCode.fld (lvl exH3 0).op.nt exU) i j = 0 :=
  fun i j hi hj => take_ofField_A exL0.op 13 16 _ i j hi hj

theorem exU_sol1 : ∀ i j, i < (lvl exH3 1).op.nr → j < (lvl exH3 1).op.nt →
    take (lvl exH3 1).op (SmootherCode.fld (lvl exH3 1).op.nt exF1)
      (Interp.inject (SmootherCode.fld (lvl exH3 0).op.nt exU)) i j = 0 :=
  fun i j hi hj => take_ofField_A C10c.exL0.op 7 8 _ i j hi hj

/-- `concrete_exact_fixed_depth` applies with `L = 3`: all hypotheses hold jointly, for a solution with non-zero entries and a
    non-zero right-hand side -/
example (k : Kind) (nu1 nu2 : Nat) (fgs : Bool) (m : Mem (Option (Array ℚ)))
    (hm : m (0, Buf.sol) = some exU) (hr : m (0, Buf.rhs) = some exF) :
    cycle exH3 ⟨3, nu1, nu2⟩ k false fgs m (0, Buf.sol) = some exU ∧ exU[10]? = some (-29 : ℚ) ∧ exF[20]? ≠ some 0 := by
  obtain ⟨M, hM, ht⟩ := C10c.exL1_coarse
  exact ⟨concrete_exact_fixed_depth exH3 3 (by decide) k nu1 nu2 fgs exU exF exH3_levels C10c.exTiny_one M hM ht
    exU_size exU_sol m hm hr, by decide +kernel, by decide +kernel⟩

/-- the two extrapolated statements apply to the same data (`nr = 13` is odd; `hnr1` is void for `L = 3`), the level-1
    right-hand side is not zero either -/
example (k : Kind) (nu1 nu2 : Nat) (fgs : Bool) (m : Mem (Option (Array ℚ)))
    (hm : m (0, Buf.sol) = some exU) (hr : m (0, Buf.rhs) = some exF) (hr1 : m (1, Buf.rhs) = some exF1) :
    cycle exH3 ⟨3, nu1, nu2⟩ k true fgs m (0, Buf.sol) = some exU ∧ exF1[10]? ≠ some 0 :=
  ⟨extrap_fixed exH3 3 (by decide) k nu1 nu2 fgs exU exF exF1 exH3_levels (fun _ => by decide) C10c.exTiny_one
    C10c.exL1_coarse exU_size exU_sol (fun h => absurd h (by decide)) exU_sol1 m hm hr hr1, by decide +kernel⟩

def exF1two : Array ℚ := SmootherCode.ofField 4 4 (A C10c.exL1.op (Interp.inject (SmootherCode.fld 8 C10c.exU)))

theorem exH_levels : ∀ l, l + 1 < 2 → LevelOK (lvl C10c.exH l) := by
  intro l hl
  obtain rfl : l = 0 := by omega
  exact ⟨by decide, by decide, by decide, by decide, rfl, C10c.exL0_elliptic⟩

/-- on TWO levels (`C10c.exH`, 7 × 8 → 4 × 4, `nr = 7` odd) the extrapolated statements apply as well; `hnr1` holds because
    level 1 has a Dirichlet inner boundary (and four radial nodes) -/
example (k : Kind) (nu1 nu2 : Nat) (fgs : Bool) (m : Mem (Option (Array ℚ)))
    (hm : m (0, Buf.sol) = some C10c.exU) (hr : m (0, Buf.rhs) = some C10c.exF) (hr1 : m (1, Buf.rhs) = some exF1two) :
    cycle C10c.exH ⟨2, nu1, nu2⟩ k true fgs m (0, Buf.sol) = some C10c.exU :=
  extrap_fixed C10c.exH 2 (by decide) k nu1 nu2 fgs C10c.exU C10c.exF exF1two exH_levels (fun _ => by decide)
    C10c.exTiny_one C10c.exL1_coarse C10c.exU_size C10c.exU_sol (fun _ => Or.inl rfl)
    (fun i j hi hj => take_ofField_A C10c.exL1.op 4 4 _ i j hi hj) m hm hr hr1

end C10d
