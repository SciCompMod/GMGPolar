import GMGProofs.Props.C19
import Generated.SourceTerms
import GMGProofs.Lemmas.SourceTerms1
import GMGProofs.Lemmas.SourceTerms2
/-!
# C19 (source terms as theorems) — the shipped Circular-geometry source terms ARE `-div(α∇u) + βu` of their exact solutions

`SourceTerms.Gen.<Class>_rhs_f` is the `Expr` the translator `tools/cxx_expr.py` regenerates from
`src/InputFunctions/SourceTerms/<class>.cpp` on every run; `Sym.Lu ⟨u, α, β, Fx, Fy⟩` is the PDE operator applied to the
exact solution by symbolic differentiation (`C19.Lu_is_pde` shows it is the real operator).  Each theorem `src_<Problem>_<Coefficients>`
states that the two agree at every point with `0 < r` of every domain `Rmax ≠ 0` (`env 0 = Rmax`).

* Poisson, Zoni, ZoniGyro, ZoniShifted, ZoniShiftedGyro coefficients (15 problems): exact equality, proved.
* Sonnendrücker, SonnendrückerGyro coefficients (6 problems): the exact equality is FALSE (`src_*_false`, witness points with
  `Rmax = 1`).  The C++ source terms hard-code `α'(ρ)` as `−c₂ / (q (ρ − s)² + 1)` with independently rounded 15-digit literals
  `c₂, q, s` that are not consistent with the literals `a₁, k, c` of `α(ρ) = a₀ − a₁ arctan(k ρ − c)`.  What holds instead:
  `src = Lu + sonDelta(r/Rmax) · Rmax · u_r` exactly (`src_*_defect`), with `|sonDelta ρ| ≤ 10⁻¹¹` on `0 ≤ ρ ≤ 1`, hence
  `|src − Lu| ≤ 10⁻¹¹ |Rmax u_r|` on the domain (`src_*_approx`).

All proofs go through `Sym.Lu_circ_scale`: solutions and profiles are functions of `ρ = r / Rmax`, so `Lu` is evaluated at
`Rmax = 1`; what remains is a polynomial identity in `ρ`, the trigonometric values and `α`, closed by `ring` (the factors
`ρ - 1`, `ρ + 1` of the solutions are generalised first: both sides are built from them by the product rule).
Helper lemmas in `GMGProofs/Lemmas/SourceTerms1.lean`, `SourceTerms2.lean`.
-/
namespace C19s
open Sym Sym.Expr InputFns

variable {env : Nat → ℝ} {r th : ℝ}

/-- the test problem of a (exact solution, coefficient profile) pair on the circular geometry -/
def circ (u alpha beta : Expr) : Problem := ⟨u, alpha, beta, Gen.CircularGeometry_Fx, Gen.CircularGeometry_Fy⟩

theorem src_CartesianR2_Poisson (hR : env 0 ≠ 0) (hr : 0 < r) :
    ev env r th SourceTerms.Gen.CartesianR2_Poisson_CircularGeometry_rhs_f
      = ev env r th (Lu (circ Gen.CartesianR2_CircularGeometry_exact_solution Gen.PoissonCoefficients_alpha Gen.PoissonCoefficients_beta)) := by
  rw [circ, Lu_circ_scale (a := Gen.PoissonCoefficients_alpha) _ hR hr.ne' (scales_CartesianR2 hR) (scales_num 1 1)]
  simp only [SourceTerms.Gen.CartesianR2_Poisson_CircularGeometry_rhs_f, Gen.PoissonCoefficients_beta, sym_ev]
  refine eq_of_mul_sq (div_ne_zero hr.ne' hR) ?_
  simp only [Gen.CartesianR2_CircularGeometry_exact_solution, Gen.PoissonCoefficients_alpha]
  sym_eval
  generalize r / env 0 = ρ
  ring

/-- exact form of the defect: the source term is the PDE operator plus `sonDelta ρ · Rmax · u_r` -/
theorem src_CartesianR2_Sonnendrucker_defect (hR : env 0 ≠ 0) (hr : 0 < r) :
    ev env r th SourceTerms.Gen.CartesianR2_Sonnendrucker_CircularGeometry_rhs_f
      = ev env r th (Lu (circ Gen.CartesianR2_CircularGeometry_exact_solution Gen.SonnendruckerCoefficients_alpha Gen.SonnendruckerCoefficients_beta))
        + sonDelta (r / env 0) * (env 0 * ev env r th (D .r Gen.CartesianR2_CircularGeometry_exact_solution)) := by
  rw [circ, Lu_circ_scale (a := Gen.SonnendruckerCoefficients_alpha) _ hR hr.ne' (scales_CartesianR2 hR) (scales_Sonnendrucker hR), (scales_CartesianR2 hR).dr, add_assoc]
  simp only [SourceTerms.Gen.CartesianR2_Sonnendrucker_CircularGeometry_rhs_f, Gen.SonnendruckerCoefficients_beta, sym_ev]
  refine eq_of_neg_div (div_ne_zero hr.ne' hR) ?_
  simp only [Gen.CartesianR2_CircularGeometry_exact_solution, Gen.SonnendruckerCoefficients_alpha]
  sym_eval
  unfold sonDelta
  generalize r / env 0 = ρ
  ring

/-- on the domain `0 < r ≤ Rmax` the source term is the PDE operator up to `10⁻¹¹ |Rmax u_r|` -/
theorem src_CartesianR2_Sonnendrucker_approx (hR : 0 < env 0) (hr : 0 < r) (hr1 : r ≤ env 0) :
    |ev env r th SourceTerms.Gen.CartesianR2_Sonnendrucker_CircularGeometry_rhs_f
      - ev env r th (Lu (circ Gen.CartesianR2_CircularGeometry_exact_solution Gen.SonnendruckerCoefficients_alpha Gen.SonnendruckerCoefficients_beta))|
      ≤ 1 / 10 ^ 11 * |env 0 * ev env r th (D .r Gen.CartesianR2_CircularGeometry_exact_solution)| :=
  approx_of_defect (src_CartesianR2_Sonnendrucker_defect hR.ne' hr) hR hr hr1

/-- the exact equality fails: `Rmax = 1`, `(r, θ) = (1 / 2, Real.pi / 2)` -/
theorem src_CartesianR2_Sonnendrucker_false :
    ¬ ∀ (env : Nat → ℝ) (r th : ℝ), env 0 ≠ 0 → 0 < r →
      ev env r th SourceTerms.Gen.CartesianR2_Sonnendrucker_CircularGeometry_rhs_f
        = ev env r th (Lu (circ Gen.CartesianR2_CircularGeometry_exact_solution Gen.SonnendruckerCoefficients_alpha Gen.SonnendruckerCoefficients_beta)) :=
  not_forall_of_defect src_CartesianR2_Sonnendrucker_defect (by norm_num) sonDelta_half_ne ur_CartesianR2_ne

/-- exact form of the defect: the source term is the PDE operator plus `sonDelta ρ · Rmax · u_r` -/
theorem src_CartesianR2_SonnendruckerGyro_defect (hR : env 0 ≠ 0) (hr : 0 < r) :
    ev env r th SourceTerms.Gen.CartesianR2_SonnendruckerGyro_CircularGeometry_rhs_f
      = ev env r th (Lu (circ Gen.CartesianR2_CircularGeometry_exact_solution Gen.SonnendruckerGyroCoefficients_alpha Gen.SonnendruckerGyroCoefficients_beta))
        + sonDelta (r / env 0) * (env 0 * ev env r th (D .r Gen.CartesianR2_CircularGeometry_exact_solution)) := by
  rw [circ, Lu_circ_scale (a := Gen.SonnendruckerGyroCoefficients_alpha) _ hR hr.ne' (scales_CartesianR2 hR) (scales_Sonnendrucker hR), (scales_CartesianR2 hR).dr, add_assoc]
  simp only [SourceTerms.Gen.CartesianR2_SonnendruckerGyro_CircularGeometry_rhs_f, Gen.SonnendruckerGyroCoefficients_beta, sym_ev]
  refine eq_of_sub_div (div_ne_zero hr.ne' hR) ?_
  simp only [Gen.CartesianR2_CircularGeometry_exact_solution, Gen.SonnendruckerGyroCoefficients_alpha]
  sym_eval
  unfold sonDelta
  generalize r / env 0 = ρ
  ring

/-- on the domain `0 < r ≤ Rmax` the source term is the PDE operator up to `10⁻¹¹ |Rmax u_r|` -/
theorem src_CartesianR2_SonnendruckerGyro_approx (hR : 0 < env 0) (hr : 0 < r) (hr1 : r ≤ env 0) :
    |ev env r th SourceTerms.Gen.CartesianR2_SonnendruckerGyro_CircularGeometry_rhs_f
      - ev env r th (Lu (circ Gen.CartesianR2_CircularGeometry_exact_solution Gen.SonnendruckerGyroCoefficients_alpha Gen.SonnendruckerGyroCoefficients_beta))|
      ≤ 1 / 10 ^ 11 * |env 0 * ev env r th (D .r Gen.CartesianR2_CircularGeometry_exact_solution)| :=
  approx_of_defect (src_CartesianR2_SonnendruckerGyro_defect hR.ne' hr) hR hr hr1

/-- the exact equality fails: `Rmax = 1`, `(r, θ) = (1 / 2, Real.pi / 2)` -/
theorem src_CartesianR2_SonnendruckerGyro_false :
    ¬ ∀ (env : Nat → ℝ) (r th : ℝ), env 0 ≠ 0 → 0 < r →
      ev env r th SourceTerms.Gen.CartesianR2_SonnendruckerGyro_CircularGeometry_rhs_f
        = ev env r th (Lu (circ Gen.CartesianR2_CircularGeometry_exact_solution Gen.SonnendruckerGyroCoefficients_alpha Gen.SonnendruckerGyroCoefficients_beta)) :=
  not_forall_of_defect src_CartesianR2_SonnendruckerGyro_defect (by norm_num) sonDelta_half_ne ur_CartesianR2_ne

theorem src_CartesianR2_Zoni (hR : env 0 ≠ 0) (hr : 0 < r) :
    ev env r th SourceTerms.Gen.CartesianR2_Zoni_CircularGeometry_rhs_f
      = ev env r th (Lu (circ Gen.CartesianR2_CircularGeometry_exact_solution Gen.ZoniCoefficients_alpha Gen.ZoniCoefficients_beta)) := by
  rw [circ, Lu_circ_scale (a := Gen.ZoniCoefficients_alpha) _ hR hr.ne' (scales_CartesianR2 hR) (scales_Zoni hR)]
  simp only [SourceTerms.Gen.CartesianR2_Zoni_CircularGeometry_rhs_f, Gen.ZoniCoefficients_beta, sym_ev]
  refine eq_of_neg_div (div_ne_zero hr.ne' hR) ?_
  simp only [Gen.CartesianR2_CircularGeometry_exact_solution, Gen.ZoniCoefficients_alpha]
  sym_eval
  generalize r / env 0 = ρ
  ring

theorem src_CartesianR2_ZoniGyro (hR : env 0 ≠ 0) (hr : 0 < r) :
    ev env r th SourceTerms.Gen.CartesianR2_ZoniGyro_CircularGeometry_rhs_f
      = ev env r th (Lu (circ Gen.CartesianR2_CircularGeometry_exact_solution Gen.ZoniGyroCoefficients_alpha Gen.ZoniGyroCoefficients_beta)) := by
  rw [circ, Lu_circ_scale (a := Gen.ZoniGyroCoefficients_alpha) _ hR hr.ne' (scales_CartesianR2 hR) (scales_Zoni hR)]
  simp only [SourceTerms.Gen.CartesianR2_ZoniGyro_CircularGeometry_rhs_f, Gen.ZoniGyroCoefficients_beta, sym_ev]
  refine eq_of_sub_div (div_ne_zero hr.ne' hR) ?_
  simp only [Gen.CartesianR2_CircularGeometry_exact_solution, Gen.ZoniGyroCoefficients_alpha]
  sym_eval
  generalize r / env 0 = ρ
  ring

theorem src_CartesianR2_ZoniShifted (hR : env 0 ≠ 0) (hr : 0 < r) :
    ev env r th SourceTerms.Gen.CartesianR2_ZoniShifted_CircularGeometry_rhs_f
      = ev env r th (Lu (circ Gen.CartesianR2_CircularGeometry_exact_solution Gen.ZoniShiftedCoefficients_alpha Gen.ZoniShiftedCoefficients_beta)) := by
  rw [circ, Lu_circ_scale (a := Gen.ZoniShiftedCoefficients_alpha) _ hR hr.ne' (scales_CartesianR2 hR) (scales_ZoniShifted hR)]
  simp only [SourceTerms.Gen.CartesianR2_ZoniShifted_CircularGeometry_rhs_f, Gen.ZoniShiftedCoefficients_beta, sym_ev]
  refine eq_of_neg_div (div_ne_zero hr.ne' hR) ?_
  simp only [Gen.CartesianR2_CircularGeometry_exact_solution, Gen.ZoniShiftedCoefficients_alpha]
  sym_eval
  generalize r / env 0 = ρ
  ring

theorem src_CartesianR2_ZoniShiftedGyro (hR : env 0 ≠ 0) (hr : 0 < r) :
    ev env r th SourceTerms.Gen.CartesianR2_ZoniShiftedGyro_CircularGeometry_rhs_f
      = ev env r th (Lu (circ Gen.CartesianR2_CircularGeometry_exact_solution Gen.ZoniShiftedGyroCoefficients_alpha Gen.ZoniShiftedGyroCoefficients_beta)) := by
  rw [circ, Lu_circ_scale (a := Gen.ZoniShiftedGyroCoefficients_alpha) _ hR hr.ne' (scales_CartesianR2 hR) (scales_ZoniShifted hR)]
  simp only [SourceTerms.Gen.CartesianR2_ZoniShiftedGyro_CircularGeometry_rhs_f, Gen.ZoniShiftedGyroCoefficients_beta, sym_ev]
  refine eq_of_sub_div (div_ne_zero hr.ne' hR) ?_
  simp only [Gen.CartesianR2_CircularGeometry_exact_solution, Gen.ZoniShiftedGyroCoefficients_alpha]
  sym_eval
  generalize r / env 0 = ρ
  ring

theorem src_CartesianR6_Poisson (hR : env 0 ≠ 0) (hr : 0 < r) :
    ev env r th SourceTerms.Gen.CartesianR6_Poisson_CircularGeometry_rhs_f
      = ev env r th (Lu (circ Gen.CartesianR6_CircularGeometry_exact_solution Gen.PoissonCoefficients_alpha Gen.PoissonCoefficients_beta)) := by
  rw [circ, Lu_circ_scale (a := Gen.PoissonCoefficients_alpha) _ hR hr.ne' (scales_CartesianR6 hR) (scales_num 1 1)]
  simp only [SourceTerms.Gen.CartesianR6_Poisson_CircularGeometry_rhs_f, Gen.PoissonCoefficients_beta, sym_ev]
  refine eq_of_neg_div (div_ne_zero hr.ne' hR) ?_
  simp only [Gen.CartesianR6_CircularGeometry_exact_solution, Gen.PoissonCoefficients_alpha]
  sym_eval
  generalize r / env 0 = ρ
  generalize ρ - 1 = m
  generalize ρ + 1 = q
  ring

/-- exact form of the defect: the source term is the PDE operator plus `sonDelta ρ · Rmax · u_r` -/
theorem src_CartesianR6_Sonnendrucker_defect (hR : env 0 ≠ 0) (hr : 0 < r) :
    ev env r th SourceTerms.Gen.CartesianR6_Sonnendrucker_CircularGeometry_rhs_f
      = ev env r th (Lu (circ Gen.CartesianR6_CircularGeometry_exact_solution Gen.SonnendruckerCoefficients_alpha Gen.SonnendruckerCoefficients_beta))
        + sonDelta (r / env 0) * (env 0 * ev env r th (D .r Gen.CartesianR6_CircularGeometry_exact_solution)) := by
  rw [circ, Lu_circ_scale (a := Gen.SonnendruckerCoefficients_alpha) _ hR hr.ne' (scales_CartesianR6 hR) (scales_Sonnendrucker hR), (scales_CartesianR6 hR).dr, add_assoc]
  simp only [SourceTerms.Gen.CartesianR6_Sonnendrucker_CircularGeometry_rhs_f, Gen.SonnendruckerCoefficients_beta, sym_ev]
  refine eq_of_neg_div (div_ne_zero hr.ne' hR) ?_
  simp only [Gen.CartesianR6_CircularGeometry_exact_solution, Gen.SonnendruckerCoefficients_alpha]
  sym_eval
  unfold sonDelta
  generalize r / env 0 = ρ
  generalize ρ - 1 = m
  generalize ρ + 1 = q
  ring

/-- on the domain `0 < r ≤ Rmax` the source term is the PDE operator up to `10⁻¹¹ |Rmax u_r|` -/
theorem src_CartesianR6_Sonnendrucker_approx (hR : 0 < env 0) (hr : 0 < r) (hr1 : r ≤ env 0) :
    |ev env r th SourceTerms.Gen.CartesianR6_Sonnendrucker_CircularGeometry_rhs_f
      - ev env r th (Lu (circ Gen.CartesianR6_CircularGeometry_exact_solution Gen.SonnendruckerCoefficients_alpha Gen.SonnendruckerCoefficients_beta))|
      ≤ 1 / 10 ^ 11 * |env 0 * ev env r th (D .r Gen.CartesianR6_CircularGeometry_exact_solution)| :=
  approx_of_defect (src_CartesianR6_Sonnendrucker_defect hR.ne' hr) hR hr hr1

/-- the exact equality fails: `Rmax = 1`, `(r, θ) = (1 / 2, Real.pi / 2)` -/
theorem src_CartesianR6_Sonnendrucker_false :
    ¬ ∀ (env : Nat → ℝ) (r th : ℝ), env 0 ≠ 0 → 0 < r →
      ev env r th SourceTerms.Gen.CartesianR6_Sonnendrucker_CircularGeometry_rhs_f
        = ev env r th (Lu (circ Gen.CartesianR6_CircularGeometry_exact_solution Gen.SonnendruckerCoefficients_alpha Gen.SonnendruckerCoefficients_beta)) :=
  not_forall_of_defect src_CartesianR6_Sonnendrucker_defect (by norm_num) sonDelta_half_ne ur_CartesianR6_ne

/-- exact form of the defect: the source term is the PDE operator plus `sonDelta ρ · Rmax · u_r` -/
theorem src_CartesianR6_SonnendruckerGyro_defect (hR : env 0 ≠ 0) (hr : 0 < r) :
    ev env r th SourceTerms.Gen.CartesianR6_SonnendruckerGyro_CircularGeometry_rhs_f
      = ev env r th (Lu (circ Gen.CartesianR6_CircularGeometry_exact_solution Gen.SonnendruckerGyroCoefficients_alpha Gen.SonnendruckerGyroCoefficients_beta))
        + sonDelta (r / env 0) * (env 0 * ev env r th (D .r Gen.CartesianR6_CircularGeometry_exact_solution)) := by
  rw [circ, Lu_circ_scale (a := Gen.SonnendruckerGyroCoefficients_alpha) _ hR hr.ne' (scales_CartesianR6 hR) (scales_Sonnendrucker hR), (scales_CartesianR6 hR).dr, add_assoc]
  simp only [SourceTerms.Gen.CartesianR6_SonnendruckerGyro_CircularGeometry_rhs_f, Gen.SonnendruckerGyroCoefficients_beta, sym_ev]
  refine eq_of_sub_div (div_ne_zero hr.ne' hR) ?_
  simp only [Gen.CartesianR6_CircularGeometry_exact_solution, Gen.SonnendruckerGyroCoefficients_alpha]
  sym_eval
  unfold sonDelta
  generalize r / env 0 = ρ
  generalize ρ - 1 = m
  generalize ρ + 1 = q
  ring

/-- on the domain `0 < r ≤ Rmax` the source term is the PDE operator up to `10⁻¹¹ |Rmax u_r|` -/
theorem src_CartesianR6_SonnendruckerGyro_approx (hR : 0 < env 0) (hr : 0 < r) (hr1 : r ≤ env 0) :
    |ev env r th SourceTerms.Gen.CartesianR6_SonnendruckerGyro_CircularGeometry_rhs_f
      - ev env r th (Lu (circ Gen.CartesianR6_CircularGeometry_exact_solution Gen.SonnendruckerGyroCoefficients_alpha Gen.SonnendruckerGyroCoefficients_beta))|
      ≤ 1 / 10 ^ 11 * |env 0 * ev env r th (D .r Gen.CartesianR6_CircularGeometry_exact_solution)| :=
  approx_of_defect (src_CartesianR6_SonnendruckerGyro_defect hR.ne' hr) hR hr hr1

/-- the exact equality fails: `Rmax = 1`, `(r, θ) = (1 / 2, Real.pi / 2)` -/
theorem src_CartesianR6_SonnendruckerGyro_false :
    ¬ ∀ (env : Nat → ℝ) (r th : ℝ), env 0 ≠ 0 → 0 < r →
      ev env r th SourceTerms.Gen.CartesianR6_SonnendruckerGyro_CircularGeometry_rhs_f
        = ev env r th (Lu (circ Gen.CartesianR6_CircularGeometry_exact_solution Gen.SonnendruckerGyroCoefficients_alpha Gen.SonnendruckerGyroCoefficients_beta)) :=
  not_forall_of_defect src_CartesianR6_SonnendruckerGyro_defect (by norm_num) sonDelta_half_ne ur_CartesianR6_ne

theorem src_CartesianR6_Zoni (hR : env 0 ≠ 0) (hr : 0 < r) :
    ev env r th SourceTerms.Gen.CartesianR6_Zoni_CircularGeometry_rhs_f
      = ev env r th (Lu (circ Gen.CartesianR6_CircularGeometry_exact_solution Gen.ZoniCoefficients_alpha Gen.ZoniCoefficients_beta)) := by
  rw [circ, Lu_circ_scale (a := Gen.ZoniCoefficients_alpha) _ hR hr.ne' (scales_CartesianR6 hR) (scales_Zoni hR)]
  simp only [SourceTerms.Gen.CartesianR6_Zoni_CircularGeometry_rhs_f, Gen.ZoniCoefficients_beta, sym_ev]
  refine eq_of_neg_div (div_ne_zero hr.ne' hR) ?_
  simp only [Gen.CartesianR6_CircularGeometry_exact_solution, Gen.ZoniCoefficients_alpha]
  sym_eval
  generalize r / env 0 = ρ
  generalize ρ - 1 = m
  generalize ρ + 1 = q
  ring

theorem src_CartesianR6_ZoniGyro (hR : env 0 ≠ 0) (hr : 0 < r) :
    ev env r th SourceTerms.Gen.CartesianR6_ZoniGyro_CircularGeometry_rhs_f
      = ev env r th (Lu (circ Gen.CartesianR6_CircularGeometry_exact_solution Gen.ZoniGyroCoefficients_alpha Gen.ZoniGyroCoefficients_beta)) := by
  rw [circ, Lu_circ_scale (a := Gen.ZoniGyroCoefficients_alpha) _ hR hr.ne' (scales_CartesianR6 hR) (scales_Zoni hR)]
  simp only [SourceTerms.Gen.CartesianR6_ZoniGyro_CircularGeometry_rhs_f, Gen.ZoniGyroCoefficients_beta, sym_ev]
  refine eq_of_sub_div (div_ne_zero hr.ne' hR) ?_
  simp only [Gen.CartesianR6_CircularGeometry_exact_solution, Gen.ZoniGyroCoefficients_alpha]
  sym_eval
  generalize r / env 0 = ρ
  generalize ρ - 1 = m
  generalize ρ + 1 = q
  ring

theorem src_CartesianR6_ZoniShifted (hR : env 0 ≠ 0) (hr : 0 < r) :
    ev env r th SourceTerms.Gen.CartesianR6_ZoniShifted_CircularGeometry_rhs_f
      = ev env r th (Lu (circ Gen.CartesianR6_CircularGeometry_exact_solution Gen.ZoniShiftedCoefficients_alpha Gen.ZoniShiftedCoefficients_beta)) := by
  rw [circ, Lu_circ_scale (a := Gen.ZoniShiftedCoefficients_alpha) _ hR hr.ne' (scales_CartesianR6 hR) (scales_ZoniShifted hR)]
  simp only [SourceTerms.Gen.CartesianR6_ZoniShifted_CircularGeometry_rhs_f, Gen.ZoniShiftedCoefficients_beta, sym_ev]
  refine eq_of_neg_div (div_ne_zero hr.ne' hR) ?_
  simp only [Gen.CartesianR6_CircularGeometry_exact_solution, Gen.ZoniShiftedCoefficients_alpha]
  sym_eval
  generalize r / env 0 = ρ
  generalize ρ - 1 = m
  generalize ρ + 1 = q
  ring

theorem src_CartesianR6_ZoniShiftedGyro (hR : env 0 ≠ 0) (hr : 0 < r) :
    ev env r th SourceTerms.Gen.CartesianR6_ZoniShiftedGyro_CircularGeometry_rhs_f
      = ev env r th (Lu (circ Gen.CartesianR6_CircularGeometry_exact_solution Gen.ZoniShiftedGyroCoefficients_alpha Gen.ZoniShiftedGyroCoefficients_beta)) := by
  rw [circ, Lu_circ_scale (a := Gen.ZoniShiftedGyroCoefficients_alpha) _ hR hr.ne' (scales_CartesianR6 hR) (scales_ZoniShifted hR)]
  simp only [SourceTerms.Gen.CartesianR6_ZoniShiftedGyro_CircularGeometry_rhs_f, Gen.ZoniShiftedGyroCoefficients_beta, sym_ev]
  refine eq_of_sub_div (div_ne_zero hr.ne' hR) ?_
  simp only [Gen.CartesianR6_CircularGeometry_exact_solution, Gen.ZoniShiftedGyroCoefficients_alpha]
  sym_eval
  generalize r / env 0 = ρ
  generalize ρ - 1 = m
  generalize ρ + 1 = q
  ring

theorem src_PolarR6_Poisson (hR : env 0 ≠ 0) (hr : 0 < r) :
    ev env r th SourceTerms.Gen.PolarR6_Poisson_CircularGeometry_rhs_f
      = ev env r th (Lu (circ Gen.PolarR6_CircularGeometry_exact_solution Gen.PoissonCoefficients_alpha Gen.PoissonCoefficients_beta)) := by
  rw [circ, Lu_circ_scale (a := Gen.PoissonCoefficients_alpha) _ hR hr.ne' (scales_PolarR6 hR) (scales_num 1 1)]
  simp only [SourceTerms.Gen.PolarR6_Poisson_CircularGeometry_rhs_f, Gen.PoissonCoefficients_beta, sym_ev]
  refine eq_of_mul_sq (div_ne_zero hr.ne' hR) ?_
  simp only [Gen.PolarR6_CircularGeometry_exact_solution, Gen.PoissonCoefficients_alpha]
  sym_eval
  generalize r / env 0 = ρ
  generalize ρ - 1 = m
  ring

/-- exact form of the defect: the source term is the PDE operator plus `sonDelta ρ · Rmax · u_r` -/
theorem src_PolarR6_Sonnendrucker_defect (hR : env 0 ≠ 0) (hr : 0 < r) :
    ev env r th SourceTerms.Gen.PolarR6_Sonnendrucker_CircularGeometry_rhs_f
      = ev env r th (Lu (circ Gen.PolarR6_CircularGeometry_exact_solution Gen.SonnendruckerCoefficients_alpha Gen.SonnendruckerCoefficients_beta))
        + sonDelta (r / env 0) * (env 0 * ev env r th (D .r Gen.PolarR6_CircularGeometry_exact_solution)) := by
  rw [circ, Lu_circ_scale (a := Gen.SonnendruckerCoefficients_alpha) _ hR hr.ne' (scales_PolarR6 hR) (scales_Sonnendrucker hR), (scales_PolarR6 hR).dr, add_assoc]
  simp only [SourceTerms.Gen.PolarR6_Sonnendrucker_CircularGeometry_rhs_f, Gen.SonnendruckerCoefficients_beta, sym_ev]
  refine eq_of_mul_sq (div_ne_zero hr.ne' hR) ?_
  simp only [Gen.PolarR6_CircularGeometry_exact_solution, Gen.SonnendruckerCoefficients_alpha]
  sym_eval
  unfold sonDelta
  generalize r / env 0 = ρ
  generalize ρ - 1 = m
  ring

/-- on the domain `0 < r ≤ Rmax` the source term is the PDE operator up to `10⁻¹¹ |Rmax u_r|` -/
theorem src_PolarR6_Sonnendrucker_approx (hR : 0 < env 0) (hr : 0 < r) (hr1 : r ≤ env 0) :
    |ev env r th SourceTerms.Gen.PolarR6_Sonnendrucker_CircularGeometry_rhs_f
      - ev env r th (Lu (circ Gen.PolarR6_CircularGeometry_exact_solution Gen.SonnendruckerCoefficients_alpha Gen.SonnendruckerCoefficients_beta))|
      ≤ 1 / 10 ^ 11 * |env 0 * ev env r th (D .r Gen.PolarR6_CircularGeometry_exact_solution)| :=
  approx_of_defect (src_PolarR6_Sonnendrucker_defect hR.ne' hr) hR hr hr1

/-- the exact equality fails: `Rmax = 1`, `(r, θ) = (1 / 4, 0)` -/
theorem src_PolarR6_Sonnendrucker_false :
    ¬ ∀ (env : Nat → ℝ) (r th : ℝ), env 0 ≠ 0 → 0 < r →
      ev env r th SourceTerms.Gen.PolarR6_Sonnendrucker_CircularGeometry_rhs_f
        = ev env r th (Lu (circ Gen.PolarR6_CircularGeometry_exact_solution Gen.SonnendruckerCoefficients_alpha Gen.SonnendruckerCoefficients_beta)) :=
  not_forall_of_defect src_PolarR6_Sonnendrucker_defect (by norm_num) sonDelta_quarter_ne ur_PolarR6_ne

/-- exact form of the defect: the source term is the PDE operator plus `sonDelta ρ · Rmax · u_r` -/
theorem src_PolarR6_SonnendruckerGyro_defect (hR : env 0 ≠ 0) (hr : 0 < r) :
    ev env r th SourceTerms.Gen.PolarR6_SonnendruckerGyro_CircularGeometry_rhs_f
      = ev env r th (Lu (circ Gen.PolarR6_CircularGeometry_exact_solution Gen.SonnendruckerGyroCoefficients_alpha Gen.SonnendruckerGyroCoefficients_beta))
        + sonDelta (r / env 0) * (env 0 * ev env r th (D .r Gen.PolarR6_CircularGeometry_exact_solution)) := by
  rw [circ, Lu_circ_scale (a := Gen.SonnendruckerGyroCoefficients_alpha) _ hR hr.ne' (scales_PolarR6 hR) (scales_Sonnendrucker hR), (scales_PolarR6 hR).dr, add_assoc]
  simp only [SourceTerms.Gen.PolarR6_SonnendruckerGyro_CircularGeometry_rhs_f, Gen.SonnendruckerGyroCoefficients_beta, sym_ev]
  refine eq_of_mul_sq (div_ne_zero hr.ne' hR) ?_
  simp only [Gen.PolarR6_CircularGeometry_exact_solution, Gen.SonnendruckerGyroCoefficients_alpha]
  sym_eval
  unfold sonDelta
  generalize r / env 0 = ρ
  generalize ρ - 1 = m
  ring

/-- on the domain `0 < r ≤ Rmax` the source term is the PDE operator up to `10⁻¹¹ |Rmax u_r|` -/
theorem src_PolarR6_SonnendruckerGyro_approx (hR : 0 < env 0) (hr : 0 < r) (hr1 : r ≤ env 0) :
    |ev env r th SourceTerms.Gen.PolarR6_SonnendruckerGyro_CircularGeometry_rhs_f
      - ev env r th (Lu (circ Gen.PolarR6_CircularGeometry_exact_solution Gen.SonnendruckerGyroCoefficients_alpha Gen.SonnendruckerGyroCoefficients_beta))|
      ≤ 1 / 10 ^ 11 * |env 0 * ev env r th (D .r Gen.PolarR6_CircularGeometry_exact_solution)| :=
  approx_of_defect (src_PolarR6_SonnendruckerGyro_defect hR.ne' hr) hR hr hr1

/-- the exact equality fails: `Rmax = 1`, `(r, θ) = (1 / 4, 0)` -/
theorem src_PolarR6_SonnendruckerGyro_false :
    ¬ ∀ (env : Nat → ℝ) (r th : ℝ), env 0 ≠ 0 → 0 < r →
      ev env r th SourceTerms.Gen.PolarR6_SonnendruckerGyro_CircularGeometry_rhs_f
        = ev env r th (Lu (circ Gen.PolarR6_CircularGeometry_exact_solution Gen.SonnendruckerGyroCoefficients_alpha Gen.SonnendruckerGyroCoefficients_beta)) :=
  not_forall_of_defect src_PolarR6_SonnendruckerGyro_defect (by norm_num) sonDelta_quarter_ne ur_PolarR6_ne

theorem src_PolarR6_Zoni (hR : env 0 ≠ 0) (hr : 0 < r) :
    ev env r th SourceTerms.Gen.PolarR6_Zoni_CircularGeometry_rhs_f
      = ev env r th (Lu (circ Gen.PolarR6_CircularGeometry_exact_solution Gen.ZoniCoefficients_alpha Gen.ZoniCoefficients_beta)) := by
  rw [circ, Lu_circ_scale (a := Gen.ZoniCoefficients_alpha) _ hR hr.ne' (scales_PolarR6 hR) (scales_Zoni hR)]
  simp only [SourceTerms.Gen.PolarR6_Zoni_CircularGeometry_rhs_f, Gen.ZoniCoefficients_beta, sym_ev]
  refine eq_of_mul_sq (div_ne_zero hr.ne' hR) ?_
  simp only [Gen.PolarR6_CircularGeometry_exact_solution, Gen.ZoniCoefficients_alpha]
  sym_eval
  generalize r / env 0 = ρ
  generalize ρ - 1 = m
  ring

theorem src_PolarR6_ZoniGyro (hR : env 0 ≠ 0) (hr : 0 < r) :
    ev env r th SourceTerms.Gen.PolarR6_ZoniGyro_CircularGeometry_rhs_f
      = ev env r th (Lu (circ Gen.PolarR6_CircularGeometry_exact_solution Gen.ZoniGyroCoefficients_alpha Gen.ZoniGyroCoefficients_beta)) := by
  rw [circ, Lu_circ_scale (a := Gen.ZoniGyroCoefficients_alpha) _ hR hr.ne' (scales_PolarR6 hR) (scales_Zoni hR)]
  simp only [SourceTerms.Gen.PolarR6_ZoniGyro_CircularGeometry_rhs_f, Gen.ZoniGyroCoefficients_beta, sym_ev]
  refine eq_of_mul_sq (div_ne_zero hr.ne' hR) ?_
  simp only [Gen.PolarR6_CircularGeometry_exact_solution, Gen.ZoniGyroCoefficients_alpha]
  sym_eval
  generalize r / env 0 = ρ
  generalize ρ - 1 = m
  ring

theorem src_PolarR6_ZoniShifted (hR : env 0 ≠ 0) (hr : 0 < r) :
    ev env r th SourceTerms.Gen.PolarR6_ZoniShifted_CircularGeometry_rhs_f
      = ev env r th (Lu (circ Gen.PolarR6_CircularGeometry_exact_solution Gen.ZoniShiftedCoefficients_alpha Gen.ZoniShiftedCoefficients_beta)) := by
  rw [circ, Lu_circ_scale (a := Gen.ZoniShiftedCoefficients_alpha) _ hR hr.ne' (scales_PolarR6 hR) (scales_ZoniShifted hR)]
  simp only [SourceTerms.Gen.PolarR6_ZoniShifted_CircularGeometry_rhs_f, Gen.ZoniShiftedCoefficients_beta, sym_ev]
  refine eq_of_mul_sq (div_ne_zero hr.ne' hR) ?_
  simp only [Gen.PolarR6_CircularGeometry_exact_solution, Gen.ZoniShiftedCoefficients_alpha]
  sym_eval
  generalize r / env 0 = ρ
  generalize ρ - 1 = m
  ring

theorem src_PolarR6_ZoniShiftedGyro (hR : env 0 ≠ 0) (hr : 0 < r) :
    ev env r th SourceTerms.Gen.PolarR6_ZoniShiftedGyro_CircularGeometry_rhs_f
      = ev env r th (Lu (circ Gen.PolarR6_CircularGeometry_exact_solution Gen.ZoniShiftedGyroCoefficients_alpha Gen.ZoniShiftedGyroCoefficients_beta)) := by
  rw [circ, Lu_circ_scale (a := Gen.ZoniShiftedGyroCoefficients_alpha) _ hR hr.ne' (scales_PolarR6 hR) (scales_ZoniShifted hR)]
  simp only [SourceTerms.Gen.PolarR6_ZoniShiftedGyro_CircularGeometry_rhs_f, Gen.ZoniShiftedGyroCoefficients_beta, sym_ev]
  refine eq_of_mul_sq (div_ne_zero hr.ne' hR) ?_
  simp only [Gen.PolarR6_CircularGeometry_exact_solution, Gen.ZoniShiftedGyroCoefficients_alpha]
  sym_eval
  generalize r / env 0 = ρ
  generalize ρ - 1 = m
  ring

end C19s
