import GMGProofs.Props.C05
import GMGProofs.Props.C06d
import GMGProofs.Props.C04c
import GMGProofs.Props.C10i
/-!
# C05 / C04 / C06 on the operators `setup()` builds

The operator theorems (C05 symmetry and positive definiteness, C04 "the coarse solve inverts the operator", C06d "the line matrices
are SPD, the sweep is total / an exact relaxation / energy non-increasing") take `Stencil.Elliptic o` as a hypothesis on the operator
data.  For the data `Build.opOf` hands to the operators (through the level caches) that hypothesis is a THEOREM (`C10i.opOf_elliptic`,
from α > 0, β ≥ 0, det DF ≠ 0, increasing coordinates).  This file states the consequences for the built operators with hypotheses on
the INPUTS only, Dirichlet inner boundary.
-/
namespace C05b
open Stencil Cache Build Finset SparseLU

section Ordered
variable {K : Type} [_root_.Field K] [LinearOrder K] [IsStrictOrderedRing K]

/-- the operator of a built level (cached through `Cache.fresh`, any flags), Dirichlet inner boundary -/
abbrev builtOp (E : Env K) (G : GridData K) (cc cg : Bool) : Op K := opOf E G true (fresh E G cc cg)

/-- **the built operator is symmetric and positive definite on the non-Dirichlet unknowns** -/
theorem built_spd (E : Env K) (G : GridData K) (h : C10i.InputsOK E G) (cc cg : Bool)
    (hnr : 4 ≤ G.g.nr) (hnt : 2 ≤ G.g.nt) (heven : G.g.nt % 2 = 0) :
    (∀ x y : Stencil.Field K, V0 (builtOp E G cc cg) x → V0 (builtOp E G cc cg) y →
      inner (builtOp E G cc cg) (A (builtOp E G cc cg) x) y = inner (builtOp E G cc cg) x (A (builtOp E G cc cg) y)) ∧
    (∀ x : Stencil.Field K, V0 (builtOp E G cc cg) x → (∃ i j, i < G.g.nr ∧ j < G.g.nt ∧ x i j ≠ 0) →
      0 < inner (builtOp E G cc cg) (A (builtOp E G cc cg) x) x) := by
  have he : Elliptic (builtOp E G cc cg) := C10i.opOf_elliptic E G h true cc cg
  refine ⟨fun x y hx hy => ?_, fun x hx hne => ?_⟩
  · exact C05.symm (builtOp E G cc cg) hnr hnt heven (not_across rfl) x y hx hy
  · exact C05.pd_dirichlet (builtOp E G cc cg) hnr hnt heven rfl he x hx hne

/-- **the line blocks the smoother factorises on a built level are fine** (`C06c.LinesOK`: SPD tridiagonal blocks, non-vanishing
    pivots of the inner circle), hence the code-level sweep is total and an exact zebra relaxation -/
theorem built_linesOK (E : Env K) (G : GridData K) (h : C10i.InputsOK E G) (cc cg : Bool)
    (hnr : G.g.nc + 3 ≤ G.g.nr) (hnc : 2 ≤ G.g.nc) (hnt : 4 ≤ G.g.nt) (heven : G.g.nt % 2 = 0) :
    C06c.LinesOK (builtOp E G cc cg) G.g.nc :=
  C06d.linesOK_dirichlet (builtOp E G cc cg) G.g.nc hnr hnc hnt heven rfl (C10i.opOf_elliptic E G h true cc cg)

/-- **the coarse direct solve on a built level returns THE solution of the discrete system** whenever it returns (it returns unless the
    absolute `tiny` test fires): no pivot hypothesis -/
theorem built_coarse_solve (E : Env K) (G : GridData K) (h : C10i.InputsOK E G) (cc cg : Bool)
    (hnr : 4 ≤ G.g.nr) (hnt : 4 ≤ G.g.nt) (heven : G.g.nt % 2 = 0) (tiny : K → Bool) (b xv : List K)
    (hb : b.length = G.g.nr * G.g.nt)
    (hs : DirectCode.solve C04c.genTables (builtOp E G cc cg) tiny b = some (some xv)) :
    ∀ i j, i < G.g.nr → j < G.g.nt →
      take (builtOp E G cc cg) (fun i j => vget b (i * G.g.nt + j)) (fun i j => vget xv (i * G.g.nt + j)) i j = 0 :=
  C04c.code_solve_inverts_dirichlet (builtOp E G cc cg) hnr hnt heven rfl (C10i.opOf_elliptic E G h true cc cg)
    tiny b xv hb hs

end Ordered

/-! ## non-vacuity -/

/-- `built_spd` applies to the 9 × 16 example level of `C10i` (all hypotheses hold jointly) -/
example (cc cg : Bool) :=
  built_spd C10i.exEnv C10i.exG0 C10i.exG0_ok cc cg (by decide) (by decide) (by decide)

end C05b
