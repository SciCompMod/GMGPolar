import GMGProofs.Lemmas.SparseLULemmas
import GMGProofs.Lemmas.SparseLUPivots
/-!
# C16 — sparse LU without pivoting solves every system with non-vanishing pivots, any storage order

Model: `GMGModel/SparseLU.lean` (transcribes `csr_matrix.h` constructors and
`sparseLUSolver.h:145-245`).  `K` is an arbitrary field (`Scalar K` through `instScalarField`); the
finite-map lemmas hold for every scalar type.  `std::unordered_map` iteration order is the list order
of a `Row`; no theorem depends on it.
-/
namespace C16
open SparseLU Finset

/-! ## the finite map -/
section Maps
variable {α : Type} [Scalar α]

set_option linter.unusedSectionVars false in
/-- `find` after `map[k] = v` (any list, even with repeated keys) -/
theorem get_set (r : Row α) (k k' : Nat) (v : α) :
    get (set r k v) k' = if k' = k then some v else get r k' := SparseLU.get_set r k k' v

/-- `operator[]` after `map[k] = v` -/
theorem den_set (r : Row α) (k k' : Nat) (v : α) :
    den (set r k v) k' = if k' = k then v else den r k' := SparseLU.den_set r k k' v

set_option linter.unusedSectionVars false in
/-- `map[k] = v` never creates a second entry for a key -/
theorem uniq_set {r : Row α} (hu : Uniq r) (k : Nat) (v : α) : Uniq (set r k v) := SparseLU.uniq_set hu k v

set_option linter.unusedSectionVars false in
/-- the key set after `map[k] = v` -/
theorem keys_set (r : Row α) (k : Nat) (v : α) :
    keys (set r k v) = if k ∈ keys r then keys r else keys r ++ [k] := SparseLU.keys_set r k v

/-- a missing key reads as `T()` -/
theorem den_absent {r : Row α} {k : Nat} (h : k ∉ keys r) : den r k = Scalar.n 0 := den_of_not_mem h

set_option linter.unusedSectionVars false in
/-- with unique keys `find` returns exactly the stored pairs -/
theorem get_eq_some_iff {r : Row α} (hu : Uniq r) {k : Nat} {v : α} :
    get r k = some v ↔ (k, v) ∈ r := SparseLU.get_eq_some_iff hu

/-- splitting a row into its L part / U part (`filter` on the key) -/
theorem den_filter (r : Row α) (p : Nat → Bool) (k : Nat) :
    den (r.filter (fun e => p e.1)) k = if p k then den r k else Scalar.n 0 := SparseLU.den_filter r p k

/-- the working row loaded from CSR storage has unique keys whatever the stored pattern -/
theorem uniq_loadRow {K : Type} [Field K] (A : CSR K) (i : Nat) : Uniq (loadRow A i) :=
  SparseLU.uniq_loadRow A i

end Maps

variable {K : Type} [Field K]

/-! ## one elimination step, densely -/

/-- dense semantics of `elimStep`: column `j` becomes the multiplier, columns `> j` get the update
    (also on the skip branch `find(j) == end`, where the multiplier is `0`) -/
theorem elimStep_den (Uj : Row K) (hu : Uniq Uj) (j : Nat) (row : Row K) (k : Nat) :
    den (elimStep Uj j row) k =
      if k = j then den row j / den Uj j
      else if j < k then den row k - (den row j / den Uj j) * den Uj k else den row k :=
  SparseLU.elimStep_den Uj hu j row k

/-- fill-in keeps the keys of the working row unique -/
theorem elimStep_uniq (Uj : Row K) (j : Nat) (row : Row K) (h : Uniq row) : Uniq (elimStep Uj j row) :=
  uniq_elimStep Uj j row h

/-- the map-level row elimination computes the dense recurrence `elim` -/
theorem elimRow_is_elim (U : List (Row K)) (row : Row K) (i : Nat)
    (hU : ∀ m, m < i → Uniq (U.getD m [])) (k : Nat) :
    den (elimRow U i row) k = elim (fun m k => den (U.getD m []) k) i (den row) k :=
  elimRow_den U row i hU k

/-! ## the row invariant -/

/-- after eliminating columns `0 … i-1` of `row` against `U₀ … U_{i-1}` (pivots `≠ 0`):
    `row = Σ_{m<i} l_m · (upper part of U_m) + (remaining part of the working row)`,
    `l_m` = entry `m` of the eliminated row -/
theorem lu_row_invariant (U : List (Row K)) (row : Row K) (i : Nat)
    (hU : ∀ m, m < i → Uniq (U.getD m []))
    (hp : ∀ m, m < i → den (U.getD m []) m ≠ 0) (k : Nat) :
    den row k = ∑ m ∈ range i, den (elimRow U i row) m * (if m ≤ k then den (U.getD m []) k else 0)
      + (if i ≤ k then den (elimRow U i row) k else 0) := by
  have h := elim_invariant (denU U) (den row) i hp k
  simp only [← elimRow_den U row i hU] at h
  exact h

/-! ## L·U = A -/

/-- what `mulDense` computes: the dense matrix-vector product (columns `≥ x.length` read `0`) -/
theorem mulDense_spec (A : CSR K) (x : List K) (i : Nat) (hi : i < A.rows) :
    vget (mulDense A x) i = ∑ k ∈ range x.length, toDense A i k * vget x k := vget_mulDense A x i hi

/-- `A = L·U` entrywise, `L` strictly lower (unit diagonal implicit), `U` upper triangular.
    Holds for every column index `k` (also beyond `A.rows`). -/
theorem lu_product (A : CSR K)
    (hp : ∀ i, i < A.rows → den ((factorRows A).2.getD i []) i ≠ 0) :
    (∀ i k, i < A.rows →
      toDense A i k = ∑ m ∈ range i, den ((factorRows A).1.getD i []) m * den ((factorRows A).2.getD m []) k
        + den ((factorRows A).2.getD i []) k) ∧
    (∀ i k, k < i → den ((factorRows A).2.getD i []) k = 0) ∧
    (∀ i m, i ≤ m → den ((factorRows A).1.getD i []) m = 0) ∧
    (factorRows A).1.length = A.rows ∧ (factorRows A).2.length = A.rows :=
  ⟨fun i k hi => SparseLU.lu_product_row_of_lt A i k hi fun m hm => hp m (by omega), U_upper A, L_lower A,
   (factorRows_length A).1, (factorRows_length A).2⟩

/-- the rows of the stored factors are proper maps -/
theorem factor_uniq (A : CSR K) (i : Nat) :
    Uniq ((factorRows A).1.getD i []) ∧ Uniq ((factorRows A).2.getD i []) := uniq_LU A i

/-! ## the solve -/

/-- forward substitution: `y + L y = b` (unit lower triangular system) -/
theorem fwdSolve_correct (A : CSR K) (b : List K) (hb : b.length = A.rows) :
    (fwdSolve (factorRows A).1 b).length = A.rows ∧
    ∀ i, i < A.rows → vget (fwdSolve (factorRows A).1 b) i
      + ∑ m ∈ range i, den ((factorRows A).1.getD i []) m * vget (fwdSolve (factorRows A).1 b) m
      = vget b i := fwdSolve_spec A b hb

/-- backward substitution: `U x = y` whenever the `std::exit` branch is not taken -/
theorem bwdSolve_correct (tiny : K → Bool) (A : CSR K)
    (hp : ∀ i, i < A.rows → den ((factorRows A).2.getD i []) i ≠ 0)
    (y x : List K) (hy : y.length = A.rows)
    (hs : bwdSolve tiny (factorRows A).2 A.rows y = some x) :
    x.length = A.rows ∧
    ∀ j, j < A.rows → ∑ k ∈ range A.rows, den ((factorRows A).2.getD j []) k * vget x k = vget y j :=
  bwdSolve_spec tiny A hp y x hy hs

/-- non-vanishing pivots and no error outcome ⇒ the computed vector solves `A x = b`,
    for every test `tiny`, every storage order, stored zeros, repeated columns (last one wins) -/
theorem lu_solve (tiny : K → Bool) (A : CSR K)
    (hp : ∀ i, i < A.rows → den ((factorRows A).2.getD i []) i ≠ 0)
    (b x : List K) (hb : b.length = A.rows)
    (hs : solve tiny (factorRows A) b = some x) : mulDense A x = b := by
  unfold solve at hs
  rw [(factorRows_length A).2] at hs
  obtain ⟨yl, hy⟩ := fwdSolve_spec A b hb
  obtain ⟨xl, hx⟩ := bwdSolve_spec tiny A hp _ x yl hs
  apply ext_vget
  · rw [mulDense_length, hb]
  · intro i hi
    rw [mulDense_length] at hi
    -- `(A x)ᵢ = (L (U x))ᵢ + (U x)ᵢ = (L y)ᵢ + yᵢ = bᵢ`
    rw [vget_mulDense A x i hi, xl, sum_toDense_mul A i hi (fun m hm => hp m (by omega)), hx i hi,
      ← hy i hi, add_comm]
    congr 1
    exact Finset.sum_congr rfl fun m hm => by rw [hx m (by have := mem_range.mp hm; omega)]

/-- the error outcome (`std::exit`) occurs exactly when some pivot passes the `tiny` test — finding F7:
    with `tiny d := |d| < 1e-12` a matrix with non-zero pivots can still exit -/
theorem solve_exit_iff (tiny : K → Bool) (A : CSR K) (b : List K) :
    solve tiny (factorRows A) b = none ↔
      ∃ j, j < A.rows ∧ tiny (den ((factorRows A).2.getD j []) j) = true := solve_none_iff tiny A b

/-- total form: non-zero pivots none of which is `tiny` ⇒ a solution is returned and it is correct -/
theorem lu_solve_total (tiny : K → Bool) (A : CSR K)
    (hp : ∀ i, i < A.rows → den ((factorRows A).2.getD i []) i ≠ 0)
    (ht : ∀ i, i < A.rows → tiny (den ((factorRows A).2.getD i []) i) = false)
    (b : List K) (hb : b.length = A.rows) :
    ∃ x, solve tiny (factorRows A) b = some x ∧ mulDense A x = b := by
  cases hs : solve tiny (factorRows A) b with
  | none =>
      obtain ⟨j, hj, h⟩ := (solve_none_iff tiny A b).mp hs
      rw [ht j hj] at h; exact absurd h (by simp)
  | some x => exact ⟨x, rfl, lu_solve tiny A hp b x hb hs⟩

/-! ## storage order, explicit zeros, several right-hand sides -/

/-- a map row read in any storage order has the same dense meaning -/
theorem den_perm {r r' : Row K} (hu : Uniq r) (hp : r.Perm r') (k : Nat) : den r k = den r' k :=
  SparseLU.den_perm hu hp k

/-- without repeated columns the working row is the stored (column, value) list itself -/
theorem loadRow_eq_rowEntries (A : CSR K) (i : Nat) (h : Uniq (rowEntries A i)) :
    loadRow A i = rowEntries A i := SparseLU.loadRow_eq_rowEntries A i h

/-- permuting the stored entries of a row and inserting explicit zeros leaves `toDense` unchanged -/
theorem toDense_perm (A B : CSR K) (i : Nat) (zs : Row K)
    (hB : Uniq (rowEntries B i))
    (hperm : (rowEntries B i).Perm (rowEntries A i ++ zs))
    (hz : ∀ e ∈ zs, e.2 = 0) (k : Nat) : toDense B i k = toDense A i k := by
  have hA : Uniq (rowEntries A i) := by
    have h1 : Uniq (rowEntries A i ++ zs) := by
      unfold Uniq keys at *; exact (hperm.map _).nodup_iff.mp hB
    unfold Uniq keys at *
    rw [List.map_append] at h1
    exact h1.of_append_left
  unfold toDense
  rw [SparseLU.loadRow_eq_rowEntries B i hB, SparseLU.loadRow_eq_rowEntries A i hA]
  rw [SparseLU.den_perm hB hperm, den_append_zeros _ zs hz]

/-- `solveInPlace` is `const` on the factorisation: solving `b₁` first does not change what `b₂` gives
    (the model is a pure function of the stored factors; documentation theorem) -/
theorem multi_rhs (tiny : K → Bool) (LU : List (Row K) × List (Row K)) (b₁ b₂ : List K) :
    let after := (LU, solve tiny LU b₁)
    solve tiny after.1 b₂ = solve tiny LU b₂ := rfl

/-! ## strictly diagonally dominant rows -/
section SDD
variable {F : Type} [Field F] [LinearOrder F] [IsStrictOrderedRing F]

/-- rows strictly diagonally dominant (over the columns `< N`, `A.rows ≤ N`; in particular over all
    `A.cols` columns of a square matrix) ⇒ every pivot is non-zero -/
theorem sdd_pivots (A : CSR F) (N : ℕ) (hN : A.rows ≤ N)
    (hsdd : ∀ i, i < A.rows →
      ∑ k ∈ range N, (if k = i then 0 else |toDense A i k|) < |toDense A i i|) :
    ∀ i, i < A.rows → den ((factorRows A).2.getD i []) i ≠ 0 :=
  fun i hi => (sdd_pivots_aux A N hN hsdd i hi).1

/-- … and the rows of `U` are again (weakly) dominated by their pivot -/
theorem sdd_U_dominant (A : CSR F) (N : ℕ) (hN : A.rows ≤ N)
    (hsdd : ∀ i, i < A.rows →
      ∑ k ∈ range N, (if k = i then 0 else |toDense A i k|) < |toDense A i i|) :
    ∀ i, i < A.rows → ∑ k ∈ Ico (i + 1) N, |den ((factorRows A).2.getD i []) k|
      ≤ |den ((factorRows A).2.getD i []) i| :=
  fun i hi => (sdd_pivots_aux A N hN hsdd i hi).2

/-- strictly diagonally dominant system: whenever `solveInPlace` returns, it returns the solution -/
theorem sdd_solve (tiny : F → Bool) (A : CSR F) (N : ℕ) (hN : A.rows ≤ N)
    (hsdd : ∀ i, i < A.rows →
      ∑ k ∈ range N, (if k = i then 0 else |toDense A i k|) < |toDense A i i|)
    (b x : List F) (hb : b.length = A.rows)
    (hs : solve tiny (factorRows A) b = some x) : mulDense A x = b :=
  lu_solve tiny A (sdd_pivots A N hN hsdd) b x hb hs

/-- the dominance hypothesis is satisfiable: `[[2,1],[1,2]]` -/
example : let A : CSR F := ⟨2, 2, [2, 1, 1, 2], [0, 1, 0, 1], [0, 2, 4]⟩
    ∀ i, i < A.rows → ∑ k ∈ range 2, (if k = i then 0 else |toDense A i k|) < |toDense A i i| := by
  intro A i hi
  obtain ⟨d00, d01, d10, d11⟩ :
      toDense A 0 0 = 2 ∧ toDense A 0 1 = 1 ∧ toDense A 1 0 = 1 ∧ toDense A 1 1 = 2 := toDense_full2 2 1 1 2
  have : i = 0 ∨ i = 1 := by simp [A] at hi; omega
  rcases this with h | h <;> subst h <;> simp [A, Finset.sum_range_succ, d00, d01, d10, d11]

end SDD

/-! ## examples -/

example : factorRows (exA : CSR K) = ([[], [(0,1)]], [[(1,1),(0,1)],[(1,1)]]) := factorRows_exA

/-- the hypotheses of `lu_product` / `lu_solve` are satisfiable and the solve does not exit -/
example (b0 b1 : K) :
    (∀ i, i < (exA : CSR K).rows → den ((factorRows (exA : CSR K)).2.getD i []) i ≠ 0) ∧
    solve (fun _ => false) (factorRows (exA : CSR K)) [b0, b1] = some [b0 - (b1 - b0), b1 - b0] := by
  rw [factorRows_exA]
  constructor
  · intro i hi
    have : i = 0 ∨ i = 1 := by simp [exA, CSR.ofTriplets] at hi; omega
    rcases this with h | h <;> subst h <;> simp [den, SparseLU.get, List.find?]
  · simp [solve, fwdSolve, bwdSolve, bwdRow, vget, List.range_succ]

/-- `toDense_perm` instance: `[(0,2),(2,5)]` against `[(2,5),(1,0),(0,2)]` -/
example (k : Nat) :
    toDense (⟨1, 3, [5, 0, 1+1], [2, 1, 0], [0, 3]⟩ : CSR K) 0 k
      = toDense (⟨1, 3, [1+1, 5], [0, 2], [0, 2]⟩ : CSR K) 0 k := by
  apply toDense_perm _ _ 0 [(1, 0)]
  · simp [rowEntries, Uniq, keys, List.range_succ]
  · simp [rowEntries, List.range_succ]
    exact ((List.Perm.swap _ _ _).cons _).trans (List.Perm.swap _ _ _)
  · simp

/-! ## injective leading principal blocks: no zero pivot without any dominance -/

/-- the row identity of `lu_product` for row `i` needs the pivots `m < i` only -/
theorem lu_product_row_of_lt (A : CSR K) (i k : Nat) (hi : i < A.rows)
    (hp : ∀ m, m < i → den ((factorRows A).2.getD m []) m ≠ 0) :
    toDense A i k = ∑ m ∈ range i, den ((factorRows A).1.getD i []) m * den ((factorRows A).2.getD m []) k
        + den ((factorRows A).2.getD i []) k := SparseLU.lu_product_row_of_lt A i k hi hp

/-- if every leading principal block of `A` is injective, the elimination without pivoting never meets a
    zero pivot (no hypothesis on `A.cols`, the stored pattern or the storage order) -/
theorem pivots_of_leading_injective (A : CSR K)
    (hinj : ∀ k, k < A.rows → ∀ x : ℕ → K,
      (∀ i, i ≤ k → ∑ m ∈ range (k + 1), toDense A i m * x m = 0) → ∀ m, m ≤ k → x m = 0) :
    ∀ i, i < A.rows → den ((factorRows A).2.getD i []) i ≠ 0 := by
  intro i
  induction i using Nat.strong_induction_on with
  | _ i ih =>
      intro hi h0
      have hp : ∀ m, m < i → den ((factorRows A).2.getD m []) m ≠ 0 := fun m hm => ih m hm (by omega)
      obtain ⟨hx1, hker⟩ := kerVec_final (denU (factorRows A).2) i (fun m k h => U_upper A m k h) hp h0
      simp only [denU] at hker
      -- `U x = 0` on the leading block, hence `A x = L (U x) + U x = 0` there, although `x i = 1`
      refine one_ne_zero (hx1.symm.trans (hinj i hi _ (fun r hr => ?_) i (le_refl i)))
      rw [sum_toDense_mul A r (by omega) (fun q hq => hp q (by omega)), hker r hr, add_zero]
      exact Finset.sum_eq_zero fun q hq => by
        rw [hker q (by have := mem_range.mp hq; omega), mul_zero]

/-- … hence whenever `solveInPlace` returns, it returns the solution -/
theorem leading_injective_solve (tiny : K → Bool) (A : CSR K)
    (hinj : ∀ k, k < A.rows → ∀ x : ℕ → K,
      (∀ i, i ≤ k → ∑ m ∈ range (k + 1), toDense A i m * x m = 0) → ∀ m, m ≤ k → x m = 0)
    (b x : List K) (hb : b.length = A.rows)
    (hs : solve tiny (factorRows A) b = some x) : mulDense A x = b :=
  lu_solve tiny A (pivots_of_leading_injective A hinj) b x hb hs

/-- the hypothesis matters: `[[0,1],[1,0]]` is invertible, its leading 1×1 block is singular, and the first
    pivot IS zero (the code would divide by it / exit) -/
theorem zero_pivot_of_singular_leading_block :
    let A : CSR K := ⟨2, 2, [1, 1], [1, 0], [0, 1, 2]⟩
    (∀ x : ℕ → K, (∀ i, i < 2 → ∑ m ∈ range 2, toDense A i m * x m = 0) → ∀ m, m < 2 → x m = 0) ∧
    den ((factorRows A).2.getD 0 []) 0 = 0 := by
  intro A
  have d00 : toDense A 0 0 = 0 := by
    simp [A, toDense, loadRow, List.range_succ, SparseLU.set, den, SparseLU.get, List.find?]
  have d01 : toDense A 0 1 = 1 := by
    simp [A, toDense, loadRow, List.range_succ, SparseLU.set, den, SparseLU.get]
  have d10 : toDense A 1 0 = 1 := by
    simp [A, toDense, loadRow, List.range_succ, SparseLU.set, den, SparseLU.get]
  have d11 : toDense A 1 1 = 0 := by
    simp [A, toDense, loadRow, List.range_succ, SparseLU.set, den, SparseLU.get, List.find?]
  constructor
  · intro x hx m hm
    have h0 := hx 0 (by omega)
    have h1 := hx 1 (by omega)
    simp only [Finset.sum_range_succ, Finset.sum_range_zero, d00, d01, d10, d11] at h0 h1
    have : m = 0 ∨ m = 1 := by omega
    rcases this with h | h <;> subst h
    · simpa using h1
    · simpa using h0
  · simp [A, factorRows, List.range_succ, elimRow, loadRow, SparseLU.set, den, SparseLU.get, List.find?]

section PD
variable {F : Type} [Field F] [LinearOrder F] [IsStrictOrderedRing F]

set_option linter.unusedSectionVars false in
/-- a positive definite quadratic form (symmetry not needed) ⇒ every pivot is non-zero -/
theorem pd_pivots (A : CSR F)
    (hpd : ∀ x : ℕ → F, (∃ m, m < A.rows ∧ x m ≠ 0) → (∀ m, A.rows ≤ m → x m = 0) →
      0 < ∑ i ∈ range A.rows, x i * ∑ m ∈ range A.rows, toDense A i m * x m) :
    ∀ i, i < A.rows → den ((factorRows A).2.getD i []) i ≠ 0 := by
  refine pivots_of_leading_injective A fun k hk x hx m hm => ?_
  by_contra hne
  -- `x` cut off behind `k` is a non-zero vector on which the form vanishes
  have hpos := hpd (fun q => if q ≤ k then x q else 0) ⟨m, by omega, by simp only [if_pos hm]; exact hne⟩
    (fun q hq => if_neg (by omega))
  refine lt_irrefl _ (hpos.trans_eq (Finset.sum_eq_zero fun i _ => ?_))
  by_cases hik : i ≤ k
  · rw [sum_trunc hk, hx i hik, mul_zero]
  · simp only [if_neg hik, zero_mul]

/-- `[[1,2],[1,1]]` is NOT diagonally dominant (row 0), its leading blocks are injective,
    and its pivots are `1, -1` -/
example : let A : CSR F := ⟨2, 2, [1, 2, 1, 1], [0, 1, 0, 1], [0, 2, 4]⟩
    (∀ k, k < A.rows → ∀ x : ℕ → F,
      (∀ i, i ≤ k → ∑ m ∈ range (k + 1), toDense A i m * x m = 0) → ∀ m, m ≤ k → x m = 0) ∧
    ¬ (∀ i, i < A.rows → ∑ k ∈ range 2, (if k = i then 0 else |toDense A i k|) < |toDense A i i|) ∧
    den ((factorRows A).2.getD 0 []) 0 = 1 ∧ den ((factorRows A).2.getD 1 []) 1 = -1 := by
  intro A
  obtain ⟨d00, d01, d10, d11⟩ :
      toDense A 0 0 = 1 ∧ toDense A 0 1 = 2 ∧ toDense A 1 0 = 1 ∧ toDense A 1 1 = 1 := toDense_full2 1 2 1 1
  refine ⟨?_, ?_, ?_, ?_⟩
  · intro k hk x hx m hm
    have hk' : k = 0 ∨ k = 1 := by simp [A] at hk; omega
    rcases hk' with h | h <;> subst h
    · have h0 := hx 0 (le_refl _)
      simp only [Finset.sum_range_succ, Finset.sum_range_zero, d00] at h0
      have : m = 0 := by omega
      subst this; simpa using h0
    · have h0 := hx 0 (by omega)
      have h1 := hx 1 (by omega)
      simp only [Finset.sum_range_succ, Finset.sum_range_zero, d00, d01, d10, d11] at h0 h1
      have hx1 : x 1 = 0 := by linarith
      have hx0 : x 0 = 0 := by linarith
      have : m = 0 ∨ m = 1 := by omega
      rcases this with h | h <;> subst h <;> assumption
  · intro h
    have := h 0 (by simp [A])
    simp [Finset.sum_range_succ, d00, d01] at this
  · simp [A, factorRows_full2, den, SparseLU.get]
  · simp [A, factorRows_full2, den, SparseLU.get]
    norm_num

end PD

end C16
