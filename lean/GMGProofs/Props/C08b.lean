import GMGProofs.Props.C08
import GMGProofs.Props.C10i
import GMGProofs.Lemmas.BuiltPairs
/-!
# C08 on the hierarchy `setup()` builds

`C08` is about an abstract fine / coarse `Interp.Pair` under `Admissible` (shape) and `PosSpacing` (all spacings positive, for EVERY
index).  Here the pairs are the ones `Build.hier` builds from the level grids (`Build.pairOf`: spacings are differences of the node
coordinates), the shape of the fine grid stays a hypothesis (odd `nr ≥ 3`, even `nt ≥ 4`: what C10h `built_sizes` gives every level), and
positivity — only on the index range of the grid, outside it the coordinate functions are arbitrary — is derived from the increasing
coordinates (`C10i.InputsOK`).
-/
namespace C08b
open Interp Build Cache Finset

section
variable {K : Type} [_root_.Field K] [LinearOrder K] [IsStrictOrderedRing K]

omit [LinearOrder K] [IsStrictOrderedRing K] in
theorem pairOf_admissible (GF GC : GridData K) (hodd : GF.g.nr % 2 = 1) (hnr : 3 ≤ GF.g.nr) (heven : GF.g.nt % 2 = 0) (hnt : 4 ≤ GF.g.nt) :
    Admissible (pairOf GF GC) := Build.pairOf_admissible GF GC hodd hnr heven hnt

omit [LinearOrder K] [IsStrictOrderedRing K] in
/-- **restriction = prolongationᵀ on every built pair** (standard and extrapolated), no positivity needed -/
theorem built_adjoint (GF GC : GridData K) (hodd : GF.g.nr % 2 = 1) (hnr : 3 ≤ GF.g.nr) (heven : GF.g.nt % 2 = 0) (hnt : 4 ≤ GF.g.nt)
    (x y : Interp.Field K) :
    (∑ i ∈ range GF.g.nr, ∑ j ∈ range GF.g.nt, prolong (pairOf GF GC) x i j * y i j
      = ∑ I ∈ range ((GF.g.nr + 1) / 2), ∑ J ∈ range (GF.g.nt / 2), x I J * restrict (pairOf GF GC) y I J) ∧
    (∑ i ∈ range GF.g.nr, ∑ j ∈ range GF.g.nt, exProlong (pairOf GF GC) x i j * y i j
      = ∑ I ∈ range ((GF.g.nr + 1) / 2), ∑ J ∈ range (GF.g.nt / 2), x I J * exRestrict (pairOf GF GC) y I J) :=
  ⟨C08.adjoint (pairOf GF GC) (pairOf_admissible GF GC hodd hnr heven hnt) x y,
   C08.adjoint_ex (pairOf GF GC) (pairOf_admissible GF GC hodd hnr heven hnt) x y⟩

/-- **prolongation on a built pair is a convex combination of the four surrounding coarse values at every fine node OF THE GRID** —
    positivity of the spacings is only available on the index range (increasing coordinates of the fine grid; `prolong` reads no
    coarse spacing, so nothing is asked of `GC`, and of the shape only that `nr` is odd: an odd `i < nr` then has `i + 1 < nr`) -/
theorem built_convex (E : Env K) (GF GC : GridData K) (hF : C10i.InputsOK E GF) (hodd : GF.g.nr % 2 = 1)
    (i j : ℕ) (hi : i < GF.g.nr) (hj : j < GF.g.nt) :
    ∃ w00 w10 w01 w11 : K, 0 ≤ w00 ∧ 0 ≤ w10 ∧ 0 ≤ w01 ∧ 0 ≤ w11 ∧ w00 + w10 + w01 + w11 = 1 ∧
      ∀ x : Interp.Field K, prolong (pairOf GF GC) x i j = w00 * x (i / 2) (j / 2) + w10 * x (i / 2 + 1) (j / 2)
        + w01 * x (i / 2) (wC (pairOf GF GC) (j / 2 + 1)) + w11 * x (i / 2 + 1) (wC (pairOf GF GC) (j / 2 + 1)) := by
  have hpos : 0 < GF.g.nt := by omega
  refine prolong_convex_local (pairOf GF GC) i j (fun ci => ⟨?_, ?_⟩) (fun _ => ⟨?_, ?_⟩)
  · exact pairOf_hF_pos GF GC hF.radius_inc (i - 1) (by omega)
  · exact pairOf_hF_pos GF GC hF.radius_inc i (by omega)
  · exact pairOf_kF_pos GF GC hF.theta_inc _ (Nat.mod_lt _ hpos)
  · exact pairOf_kF_pos GF GC hF.theta_inc j hj

end
end C08b
