import GMGProofs.Lemmas.DirectLemmas
import GMGProofs.Props.C03
import GMGProofs.Props.C05
import GMGProofs.Props.C16
/-!
# C04 — the coarse direct solve inverts the operator the residual applies

Operator: `Stencil.take` (`take o f x = f - A o x`, `A` of
`GMGProofs/Lemmas/StencilLemmas4.lean`); solver: `SparseLU.solve ∘ SparseLU.factorRows` (C16).
`Direct.oneHot s t` is the unit field of node `(s, t)`, `Direct.opEntry o i j s t := A o (oneHot s t) i j` the
matrix entry (`GMGProofs/Lemmas/DirectLemmas.lean`); unknowns are numbered row-major, `(i, j) ↦ i·nt + j`.
That the assembled CSR matrix of the implementation has these entries is the hypothesis `hM` of
`solve_inverts`; `C04c.assemble_entries` proves it for the code-level assembly.
-/
namespace C04
open Stencil Direct Finset SparseLU

section AnyField
variable {K : Type} [_root_.Field K]

/-! ## 1  the residual is affine -/

/-- every row of `A` is a fixed linear combination of the values of `x` -/
theorem A_linear (o : Op K) (x y : Stencil.Field K) (c : K) (i j : Nat) :
    A o (fun a b => x a b + c * y a b) i j = A o x i j + c * A o y i j := A_add_smul o x y c i j

/-- `A x` at a grid node reads grid values only (`2 ≤ nr` so that row 0 may read row 1; angular indices
    are wrapped) -/
theorem A_reads_grid (o : Op K) (x x' : Stencil.Field K) (hnr : 2 ≤ o.nr) (hnt : 0 < o.nt)
    (h : ∀ a b, a < o.nr → b < o.nt → x a b = x' a b) (i j : Nat) (hi : i < o.nr) (hj : j < o.nt) :
    A o x i j = A o x' i j := A_congr_grid o x x' hnr hnt h i j hi hj

/-- **take_affine**: `take o f x = f - Σ_s Σ_t opEntry · x s t` at every grid node -/
theorem take_affine (o : Op K) (hnr : 2 ≤ o.nr) (hnt : 0 < o.nt) (f x : Stencil.Field K) (i j : Nat)
    (hi : i < o.nr) (hj : j < o.nt) :
    take o f x i j = f i j - ∑ s ∈ range o.nr, ∑ t ∈ range o.nt, opEntry o i j s t * x s t := by
  rw [take_eq_sub_A, A_expand o hnr hnt x i j hi hj]

/-! ## 2  the sparse LU solve produces a zero residual -/

/-- **solve_inverts**: if the CSR matrix carries the operator's entries (row-major numbering), all pivots
    are non-zero and the solve returns `xv`, then the returned field has zero residual for the right-hand
    side `b` at every grid node -/
theorem solve_inverts (o : Op K) (hnr : 2 ≤ o.nr) (hnt : 0 < o.nt) (tiny : K → Bool) (M : CSR K)
    (hrows : M.rows = o.nr * o.nt)
    (hM : ∀ i j s t, i < o.nr → j < o.nt → s < o.nr → t < o.nt →
      toDense M (i * o.nt + j) (s * o.nt + t) = opEntry o i j s t)
    (hp : ∀ r, r < M.rows → den ((factorRows M).2.getD r []) r ≠ 0)
    (b xv : List K) (hb : b.length = M.rows)
    (hs : solve tiny (factorRows M) b = some xv) :
    ∀ i j, i < o.nr → j < o.nt →
      take o (fun i j => vget b (i * o.nt + j)) (fun i j => vget xv (i * o.nt + j)) i j = 0 := by
  intro i j hi hj
  have hlen : xv.length = o.nr * o.nt := by rw [← hrows, ← hb]; exact solve_length tiny _ b xv hs
  have hmul : mulDense M xv = b := C16.lu_solve tiny M hp b xv hb hs
  have hrow : i * o.nt + j < M.rows := by rw [hrows]; exact idx_lt hi hj
  have h1 := vget_mulDense M xv (i * o.nt + j) hrow
  rw [hmul, hlen, sum_toDense_grid o M hM hi hj] at h1
  rw [take_affine o hnr hnt _ _ i j hi hj, h1, sub_self]

/-- … equivalently `A x = b` on the grid -/
theorem solve_inverts_A (o : Op K) (hnr : 2 ≤ o.nr) (hnt : 0 < o.nt) (tiny : K → Bool) (M : CSR K)
    (hrows : M.rows = o.nr * o.nt)
    (hM : ∀ i j s t, i < o.nr → j < o.nt → s < o.nr → t < o.nt →
      toDense M (i * o.nt + j) (s * o.nt + t) = opEntry o i j s t)
    (hp : ∀ r, r < M.rows → den ((factorRows M).2.getD r []) r ≠ 0)
    (b xv : List K) (hb : b.length = M.rows)
    (hs : solve tiny (factorRows M) b = some xv) :
    ∀ i j, i < o.nr → j < o.nt → A o (fun i j => vget xv (i * o.nt + j)) i j = vget b (i * o.nt + j) := by
  intro i j hi hj
  have := solve_inverts o hnr hnt tiny M hrows hM hp b xv hb hs i j hi hj
  rw [take_eq_sub_A] at this
  exact (sub_eq_zero.mp this).symm

/-! ## 3  zero residual determines the field -/

/-- **give_take_same**: if `A` is injective on grid fields, two fields with zero residual for the same
    right-hand side coincide on the grid -/
theorem give_take_same (o : Op K)
    (hinj : ∀ e : Stencil.Field K, (∀ i j, i < o.nr → j < o.nt → A o e i j = 0) →
      ∀ i j, i < o.nr → j < o.nt → e i j = 0)
    (f x y : Stencil.Field K)
    (hx : ∀ i j, i < o.nr → j < o.nt → take o f x i j = 0)
    (hy : ∀ i j, i < o.nr → j < o.nt → take o f y i j = 0) :
    ∀ i j, i < o.nr → j < o.nt → x i j = y i j := by
  intro i j hi hj
  have := hinj (fun a b => x a b - y a b)
    (fun a b ha hb => A_sub_of_take_eq ((hx a b ha hb).trans (hy a b ha hb).symm)) i j hi hj
  exact sub_eq_zero.mp this

/-- the scatter encoding agrees: a field whose `give`-residual vanishes is the same solution -/
theorem give_take_same_give (o : Op K) (hnr : 4 ≤ o.nr) (hnt : 2 ≤ o.nt) (heven : o.nt % 2 = 0)
    (hk : ∀ j, j < o.nt → o.k (ja o j) = o.k j)
    (hinj : ∀ e : Stencil.Field K, (∀ i j, i < o.nr → j < o.nt → A o e i j = 0) →
      ∀ i j, i < o.nr → j < o.nt → e i j = 0)
    (f x y : Stencil.Field K)
    (hx : ∀ i j, i < o.nr → j < o.nt → take o f x i j = 0)
    (hy : ∀ i j, i < o.nr → j < o.nt → give o f y i j = 0) :
    ∀ i j, i < o.nr → j < o.nt → x i j = y i j :=
  give_take_same o hinj f x y hx
    (fun i j hi hj => by rw [← C03.give_eq_take o hnr hnt heven hk f y i j hi hj]; exact hy i j hi hj)

end AnyField

section Ordered
variable {K : Type} [_root_.Field K] [LinearOrder K] [IsStrictOrderedRing K]

/-- Dirichlet inner boundary + elliptic data: `A` IS injective on grid fields (from `C05.pd_dirichlet`) -/
theorem A_injective (o : Op K) (hnr : 4 ≤ o.nr) (hnt : 2 ≤ o.nt) (heven : o.nt % 2 = 0)
    (hbc : o.bc = true) (he : Elliptic o) (e : Stencil.Field K)
    (hA : ∀ i j, i < o.nr → j < o.nt → A o e i j = 0) : ∀ i j, i < o.nr → j < o.nt → e i j = 0 :=
  A_injective_dirichlet o hnr hnt heven hbc he e hA

/-- hence the discrete solution is unique, and whatever `solve` returns is THE solution -/
theorem solution_unique (o : Op K) (hnr : 4 ≤ o.nr) (hnt : 2 ≤ o.nt) (heven : o.nt % 2 = 0)
    (hbc : o.bc = true) (he : Elliptic o) (f x y : Stencil.Field K)
    (hx : ∀ i j, i < o.nr → j < o.nt → take o f x i j = 0)
    (hy : ∀ i j, i < o.nr → j < o.nt → take o f y i j = 0) :
    ∀ i j, i < o.nr → j < o.nt → x i j = y i j :=
  give_take_same o (A_injective o hnr hnt heven hbc he) f x y hx hy

/-! ## 4  Dirichlet case: the pivot hypothesis of `solve_inverts` is a theorem -/

/-- Dirichlet inner boundary + elliptic data: every leading principal block of the direct solver's matrix
    (row-major numbering) is injective (`A_injective_on` with the node set `{(i, j) | i·nt + j ≤ k}`) -/
theorem leading_injective_dirichlet (o : Op K) (hnr : 4 ≤ o.nr) (hnt : 2 ≤ o.nt) (heven : o.nt % 2 = 0)
    (hbc : o.bc = true) (he : Elliptic o) (M : CSR K) (hrows : M.rows = o.nr * o.nt)
    (hM : ∀ i j s t, i < o.nr → j < o.nt → s < o.nr → t < o.nt →
      toDense M (i * o.nt + j) (s * o.nt + t) = opEntry o i j s t) :
    ∀ k, k < M.rows → ∀ x : ℕ → K,
      (∀ i, i ≤ k → ∑ m ∈ range (k + 1), toDense M i m * x m = 0) → ∀ m, m ≤ k → x m = 0 := by
  intro k hk x hx
  set x' : ℕ → K := fun q => if q ≤ k then x q else 0 with hx'
  have hgrid := A_injective_on o hnr hnt heven hbc he (fun i j => i * o.nt + j ≤ k)
    (fun i j => x' (i * o.nt + j))
    (fun i j _ _ hS => by simp only [hx']; rw [if_neg hS])
    (fun i j hi hj hS => by
      rw [A_expand o (by omega) (by omega) _ i j hi hj]
      rw [← sum_toDense_grid o M hM hi hj x', ← hx (i * o.nt + j) hS, sum_trunc (by omega)])
  intro m hm
  have hmlt : m < o.nt * o.nr := by rw [Nat.mul_comm]; omega
  have hdiv : m / o.nt < o.nr := Nat.div_lt_of_lt_mul hmlt
  have hmod : m % o.nt < o.nt := Nat.mod_lt _ (by omega)
  have := hgrid (m / o.nt) (m % o.nt) hdiv hmod
  rw [Nat.div_add_mod' m o.nt] at this
  simp only [hx', if_pos hm] at this
  exact this

/-- Dirichlet inner boundary + elliptic data: the matrix of the direct solver (row-major numbering) has no
    zero pivot — the elimination without pivoting of `sparseLUSolver.h` never divides by zero -/
theorem pivots_dirichlet (o : Op K) (hnr : 4 ≤ o.nr) (hnt : 2 ≤ o.nt) (heven : o.nt % 2 = 0)
    (hbc : o.bc = true) (he : Elliptic o) (M : CSR K) (hrows : M.rows = o.nr * o.nt)
    (hM : ∀ i j s t, i < o.nr → j < o.nt → s < o.nr → t < o.nt →
      toDense M (i * o.nt + j) (s * o.nt + t) = opEntry o i j s t) :
    ∀ r, r < M.rows → den ((factorRows M).2.getD r []) r ≠ 0 :=
  C16.pivots_of_leading_injective M (leading_injective_dirichlet o hnr hnt heven hbc he M hrows hM)

/-- … hence `solve_inverts` without the pivot hypothesis -/
theorem solve_inverts_dirichlet (o : Op K) (hnr : 4 ≤ o.nr) (hnt : 2 ≤ o.nt) (heven : o.nt % 2 = 0)
    (hbc : o.bc = true) (he : Elliptic o) (tiny : K → Bool) (M : CSR K) (hrows : M.rows = o.nr * o.nt)
    (hM : ∀ i j s t, i < o.nr → j < o.nt → s < o.nr → t < o.nt →
      toDense M (i * o.nt + j) (s * o.nt + t) = opEntry o i j s t)
    (b xv : List K) (hb : b.length = M.rows) (hs : solve tiny (factorRows M) b = some xv) :
    ∀ i j, i < o.nr → j < o.nt →
      take o (fun i j => vget b (i * o.nt + j)) (fun i j => vget xv (i * o.nt + j)) i j = 0 :=
  solve_inverts o (by omega) (by omega) tiny M hrows hM
    (pivots_dirichlet o hnr hnt heven hbc he M hrows hM) b xv hb hs

/-- … and the solve returns (no `std::exit`) as soon as no pivot passes the `tiny` test; what it returns is
    THE solution (`solution_unique`) -/
theorem solve_total_dirichlet (o : Op K) (hnr : 4 ≤ o.nr) (hnt : 2 ≤ o.nt) (heven : o.nt % 2 = 0)
    (hbc : o.bc = true) (he : Elliptic o) (tiny : K → Bool) (M : CSR K) (hrows : M.rows = o.nr * o.nt)
    (hM : ∀ i j s t, i < o.nr → j < o.nt → s < o.nr → t < o.nt →
      toDense M (i * o.nt + j) (s * o.nt + t) = opEntry o i j s t)
    (ht : ∀ r, r < M.rows → tiny (den ((factorRows M).2.getD r []) r) = false)
    (b : List K) (hb : b.length = M.rows) :
    ∃ xv, solve tiny (factorRows M) b = some xv ∧ ∀ i j, i < o.nr → j < o.nt →
      take o (fun i j => vget b (i * o.nt + j)) (fun i j => vget xv (i * o.nt + j)) i j = 0 := by
  obtain ⟨xv, hxv, _⟩ := C16.lu_solve_total tiny M
    (pivots_dirichlet o hnr hnt heven hbc he M hrows hM) ht b hb
  exact ⟨xv, hxv, solve_inverts_dirichlet o hnr hnt heven hbc he tiny M hrows hM b xv hb hxv⟩

end Ordered

/-! ## non-vacuity -/

/-- matrix entries of a concrete operator: the Dirichlet row is a unit row, an interior row is not -/
example : opEntry C05.exOpD 3 1 3 1 = 1 ∧ opEntry C05.exOpD 3 1 2 1 = 0 ∧
    opEntry C05.exOpD 1 1 1 1 ≠ 0 ∧ opEntry C05.exOpD 1 1 2 2 ≠ 0 := by
  refine ⟨by decide +kernel, by decide +kernel, by decide +kernel, by decide +kernel⟩

/-- `take_affine` at an across-the-origin node of `C03.exOp` -/
example : take C03.exOp (fun i j => (i : ℚ) - j) (fun i j => (i : ℚ) * j + 1) 0 2
    = (0 : ℚ) - 2 - ∑ s ∈ range 4, ∑ t ∈ range 4, opEntry C03.exOp 0 2 s t * ((s : ℚ) * t + 1) :=
  take_affine C03.exOp (by decide) (by decide) _ _ 0 2 (by decide) (by decide)

/-- `A_injective` at `C05.exOpD`: the injectivity hypothesis of `give_take_same` follows from ellipticity -/
example (he : Elliptic C05.exOpD) (e : Stencil.Field ℚ)
    (hA : ∀ i j, i < 4 → j < 4 → A C05.exOpD e i j = 0) : e 1 2 = 0 :=
  A_injective C05.exOpD (by decide) (by decide) (by decide) rfl he e hA 1 2 (by decide) (by decide)

theorem exOpD_elliptic : Elliptic C05.exOpD := C05.exOpD_elliptic

/-- the CSR matrix assembled from the entries of `C05.exOpD` (16 unknowns) carries them -/
theorem csrOf_exOpD_carries : (csrOf C05.exOpD).rows = 4 * 4 ∧
    ∀ i j s t, i < 4 → j < 4 → s < 4 → t < 4 →
      toDense (csrOf C05.exOpD) (i * 4 + j) (s * 4 + t) = opEntry C05.exOpD i j s t := by
  have h : (csrOf C05.exOpD).rows = 4 * 4 ∧
      (∀ i, i < 4 → ∀ j, j < 4 → ∀ s, s < 4 → ∀ t, t < 4 →
        toDense (csrOf C05.exOpD) (i * 4 + j) (s * 4 + t) = opEntry C05.exOpD i j s t) := by
    decide +kernel
  exact ⟨h.1, fun i j s t hi hj hs ht => h.2 i hi j hj s hs t ht⟩

/-- `pivots_dirichlet` / `solve_inverts_dirichlet` are not vacuous: for the assembled 16×16 system of
    `C05.exOpD` every hypothesis holds; the 16 pivots are non-zero BY THE THEOREM (not by evaluation), the
    solve returns, and the returned field has zero residual at all 16 nodes -/
example : (∀ r, r < 16 → den ((factorRows (csrOf C05.exOpD)).2.getD r []) r ≠ 0) ∧
    ∃ xv, solve (fun _ => false) (factorRows (csrOf C05.exOpD)) exB = some xv ∧
    ∀ i j, i < 4 → j < 4 →
      take C05.exOpD (fun i j => vget exB (i * 4 + j)) (fun i j => vget xv (i * 4 + j)) i j = 0 :=
  ⟨pivots_dirichlet C05.exOpD (by decide) (by decide) (by decide) rfl exOpD_elliptic
      (csrOf C05.exOpD) csrOf_exOpD_carries.1 csrOf_exOpD_carries.2,
    solve_total_dirichlet C05.exOpD (by decide) (by decide) (by decide) rfl exOpD_elliptic
      (fun _ => false) (csrOf C05.exOpD) csrOf_exOpD_carries.1 csrOf_exOpD_carries.2 (fun _ _ => rfl)
      exB rfl⟩

/-- end to end on that system: the solve returns, and the returned field has zero residual at all
    16 nodes -/
example : ∃ xv, solve (fun _ => false) (factorRows (csrOf C05.exOpD)) exB = some xv ∧
    ∀ i j, i < 4 → j < 4 →
      take C05.exOpD (fun i j => vget exB (i * 4 + j)) (fun i j => vget xv (i * 4 + j)) i j = 0 :=
  solve_total_dirichlet C05.exOpD (by decide) (by decide) (by decide) rfl exOpD_elliptic
    (fun _ => false) (csrOf C05.exOpD) csrOf_exOpD_carries.1 csrOf_exOpD_carries.2 (fun _ _ => rfl) exB rfl

end C04
