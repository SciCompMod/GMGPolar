import GMGProofs.Props.C10e
import GMGProofs.Props.C09s
import GMGProofs.Props.C10
/-!
# C13 at the level of the code-level models: what a second solve on a used object can depend on

`C13` proves reuse = fresh on the object model of the solver.  Here the same fact where the NUMBERS are made: over `Concrete.ops`
(and therefore over the give operators too, C10g / C09c) the start-up and every cycle read nothing that an earlier solve could have
left behind — the start vector is a function of the level right-hand sides only, a cycle of `(0, sol)`, `(0, rhs)` (and `(1, rhs)` when
extrapolated) only.  The start-up facts are the IR theorems `C09s.fmg_no_stale`, `C09s.nofmg_start` at the concrete operators, the
cycle facts read off `cycle_plain_eq`, `cycle_ex_eq`; stated separately because they are what the reuse property needs from the
numerical core.
-/
namespace C13c
open MGCycle Concrete

variable {α : Type} [Scalar α]

/-- the FMG start vector of the concrete model depends on the level right-hand sides only -/
theorem concrete_start_no_stale (H : Hier α) (c : Cfg) (fk : Kind) (fi : Nat) (ex fgs : Bool) (m m' : Mem (Option (Array α)))
    (h : ∀ l, m (l, Buf.rhs) = m' (l, Buf.rhs)) :
    start H c true fk fi ex fgs m (0, Buf.sol) = start H c true fk fi ex fgs m' (0, Buf.sol) :=
  C09s.fmg_no_stale (ops H) c fk fi ex fgs m m' h

/-- without FMG the start is the zero vector of level 0, whatever the memory holds -/
theorem concrete_start_zero (H : Hier α) (c : Cfg) (fk : Kind) (fi : Nat) (ex fgs : Bool) (m : Mem (Option (Array α))) :
    start H c false fk fi ex fgs m (0, Buf.sol) = (ops H).zero 0 :=
  C09s.nofmg_start (ops H) c fk fi ex fgs (c.levels - 1) m

/-- a plain concrete cycle depends on the iterate and the level-0 right-hand side only -/
theorem concrete_cycle_no_stale (H : Hier α) (c : Cfg) (k : Kind) (fgs : Bool) (m m' : Mem (Option (Array α)))
    (h0 : m (0, Buf.sol) = m' (0, Buf.sol)) (h1 : m (0, Buf.rhs) = m' (0, Buf.rhs)) :
    cycle H c k false fgs m (0, Buf.sol) = cycle H c k false fgs m' (0, Buf.sol) := by
  rw [cycle_plain_eq H c k fgs m rfl rfl, cycle_plain_eq H c k fgs m' rfl rfl, h0, h1]

/-- an implicitly extrapolated concrete cycle depends on the iterate and the right-hand sides of levels 0 and 1 only -/
theorem concrete_excycle_no_stale (H : Hier α) (c : Cfg) (k : Kind) (fgs : Bool) (m m' : Mem (Option (Array α)))
    (h0 : m (0, Buf.sol) = m' (0, Buf.sol)) (h1 : m (0, Buf.rhs) = m' (0, Buf.rhs)) (h2 : m (1, Buf.rhs) = m' (1, Buf.rhs)) :
    cycle H c k true fgs m (0, Buf.sol) = cycle H c k true fgs m' (0, Buf.sol) := by
  rw [cycle_ex_eq H c k fgs m rfl rfl rfl, cycle_ex_eq H c k fgs m' rfl rfl rfl, h0, h1, h2]

end C13c
