import GMGProofs.Lemmas.CycleFmg
import GMGProofs.Lemmas.CycleToy
/-!
# C09s — the FMG start-up (`initializeSolution`) is nested iteration and reads no stale data

Property theorems only.  Model: `MGCycle.initSolution`, `MGCycle.fmgLoop` (`GMGModel/Cycle.lean`), executed by
`MGCycle.exec` (`GMGModel/Solve.lean`).  Specification `fmgSpec`, `cycleSpec`, `exAt` in
`GMGProofs/Lemmas/Cycle{Spec,Fmg}.lean`; `cyc`, `excyc` are spelled out in `C10.cyc_unfold`, `C10.excyc_unfold`.

The start level is `levels - 1`, the coarsest.  `fmg_start_matters` shows what starting from `levels - 2` does to a
two-level hierarchy: the finest level is never written.
All statements: every `V`, every `Ops V`, every memory, every number of levels, every cycle kind, every `fi ≥ 0`.
-/
namespace C09s
open MGCycle

variable {V : Type}

/-! ## the specification, spelled out -/

theorem fmgSpec_bottom (o : Ops V) (c : Cfg) (fk : Kind) (fi : Nat) (ex fgs : Bool) (g : Nat → V) (s : V) :
    fmgSpec o c fk fi ex fgs g 0 s = s := rfl

/-- one step of nested iteration: interpolate `s` from level `cur+1` to `cur`, run `fi` cycles there, go on -/
theorem fmgSpec_step (o : Ops V) (c : Cfg) (fk : Kind) (fi : Nat) (ex fgs : Bool) (g : Nat → V) (cur : Nat) (s : V) :
    fmgSpec o c fk fi ex fgs g (cur + 1) s =
      fmgSpec o c fk fi ex fgs g cur
        (iter (cycleSpec o c fk (exAt ex cur) fgs g cur) fi (o.fmgInterp (cur + 1) s)) :=
  fmgSpec_succ o c fk fi ex fgs g cur s

/-- the cycle run on level `d`: the plain cycle with the level's right-hand side … -/
theorem cycleSpec_plain (o : Ops V) (c : Cfg) (k : Kind) (fgs : Bool) (g : Nat → V) (d : Nat) (u : V) :
    cycleSpec o c k false fgs g d u = cyc o c k (c.levels - 1 - d) d u (g d) := rfl

/-- … or, on level 0 with extrapolation, the implicitly extrapolated one -/
theorem cycleSpec_extrap (o : Ops V) (c : Cfg) (k : Kind) (fgs : Bool) (g : Nat → V) (d : Nat) (u : V) :
    cycleSpec o c k true fgs g d u = excyc o c k fgs u (g 0) (g 1) := rfl

theorem exAt_iff (ex : Bool) (cur : Nat) : exAt ex cur = true ↔ ex = true ∧ cur = 0 := MGCycle.exAt_iff

/-! ## refinement -/

/-- `(0,sol)` after the start-up is nested iteration from the coarse solve, the right-hand sides being the
    `(l,rhs)` of the initial memory; plain and extrapolated -/
theorem fmg_refines (o : Ops V) (c : Cfg) (fk : Kind) (fi : Nat) (ex fgs : Bool) (m : Mem V) :
    exec o (initSolution c true fk fi ex fgs (c.levels - 1)) m (0, .sol) =
      fmgSpec o c fk fi ex fgs (fun l => m (l, .rhs)) (c.levels - 1)
        (o.solve (c.levels - 1) (m (c.levels - 1, .rhs))) :=
  initSolution_val o c fk fi ex fgs m _ fun _ => rfl

/-- the right-hand sides survive the start-up -/
theorem fmg_keeps_rhs (o : Ops V) (c : Cfg) (fmg : Bool) (fk : Kind) (fi : Nat) (ex fgs : Bool) (start : Nat)
    (m : Mem V) (l : Nat) : exec o (initSolution c fmg fk fi ex fgs start) m (l, .rhs) = m (l, .rhs) :=
  initSolution_rhs o c fmg fk fi ex fgs start m l

/-! ## no stale data -/

theorem fmg_no_stale (o : Ops V) (c : Cfg) (fk : Kind) (fi : Nat) (ex fgs : Bool) (m m' : Mem V)
    (h : ∀ l, m (l, .rhs) = m' (l, .rhs)) :
    exec o (initSolution c true fk fi ex fgs (c.levels - 1)) m (0, .sol) =
      exec o (initSolution c true fk fi ex fgs (c.levels - 1)) m' (0, .sol) := by
  rw [initSolution_val o c fk fi ex fgs m _ h, initSolution_val o c fk fi ex fgs m' _ fun _ => rfl]

/-- without FMG the start is the zero vector -/
theorem nofmg_start (o : Ops V) (c : Cfg) (fk : Kind) (fi : Nat) (ex fgs : Bool) (start : Nat) (m : Mem V) :
    exec o (initSolution c false fk fi ex fgs start) m (0, .sol) = o.zero 0 :=
  initSolution_nofmg o c fk fi ex fgs start m

/-! ## two levels, no FMG cycles -/

theorem fmg_two_level (o : Ops V) (c : Cfg) (fk : Kind) (ex fgs : Bool) (m : Mem V) (hL : c.levels = 2) :
    exec o (initSolution c true fk 0 ex fgs (c.levels - 1)) m (0, .sol) =
      o.fmgInterp 1 (o.solve 1 (m (1, .rhs))) := by
  rw [initSolution_val o c fk 0 ex fgs m _ fun _ => rfl, hL]; rfl

/-! ## the start level matters: starting from `levels - 2` -/

/-- with start level `levels - 2` and two levels the program is the coarse solve only … -/
theorem fmg_start_matters :
    initSolution ⟨2, 1, 1⟩ true .V 0 false true (2 - 2) =
      [.copy (1, .sol) (1, .rhs), .directSolve 1 (1, .sol)] := rfl

/-- … no instruction writes `(0,sol)`, for any kind and any number of FMG cycles … -/
theorem fmg_old_start_writes (nu1 nu2 : Nat) (fk : Kind) (fi : Nat) (ex fgs : Bool) :
    ∀ i ∈ initSolution ⟨2, nu1, nu2⟩ true fk fi ex fgs (2 - 2), ((0, .sol) : Ref) ∉ writes i := by
  intro i hi
  simp [initSolution] at hi
  rcases hi with h | h <;> subst h <;> simp [writes]

/-- … so the solve started from whatever `(0,sol)` held before -/
theorem fmg_old_start_stale (o : Ops V) (nu1 nu2 : Nat) (fk : Kind) (fi : Nat) (ex fgs : Bool) (m : Mem V) :
    exec o (initSolution ⟨2, nu1, nu2⟩ true fk fi ex fgs (2 - 2)) m (0, .sol) = m (0, .sol) := by
  simp [initSolution, stepI, upd]

/-! ## non-vacuity -/

/-- three levels, one F-cycle per level, extrapolated on level 0: junk `5` or `-9` in the work vectors gives
    the same start -/
example : exec toyOps (initSolution ⟨3, 1, 1⟩ true .F 1 true false 2) (toyMem (fun l => l + 1) 5) (0, .sol) =
    exec toyOps (initSolution ⟨3, 1, 1⟩ true .F 1 true false 2) (toyMem (fun l => l + 1) (-9)) (0, .sol) :=
  fmg_no_stale toyOps ⟨3, 1, 1⟩ .F 1 true false _ _ (fun l => by simp [toyMem])

/-- the start does depend on the right-hand sides -/
example : exec toyOps (initSolution ⟨2, 1, 1⟩ true .V 0 false true 1) (toyMem (fun _ => 1) 5) (0, .sol) ≠
    exec toyOps (initSolution ⟨2, 1, 1⟩ true .V 0 false true 1) (toyMem (fun _ => 2) 5) (0, .sol) := by
  have h1 := fmg_two_level toyOps ⟨2, 1, 1⟩ .V false true (toyMem (fun _ => 1) 5) rfl
  have h2 := fmg_two_level toyOps ⟨2, 1, 1⟩ .V false true (toyMem (fun _ => 2) 5) rfl
  simp only [Nat.add_one_sub_one] at h1 h2
  rw [h1, h2]; decide

/-- started from `levels - 2`, the junk is the start -/
example : exec toyOps (initSolution ⟨2, 1, 1⟩ true .V 0 false true (2 - 2)) (toyMem (fun _ => 1) 5) (0, .sol) = 5 := by
  rw [fmg_old_start_stale]; rfl

end C09s
