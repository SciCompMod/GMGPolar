import GMGProofs.Lemmas.SmootherLemmas
import GMGProofs.Props.C03
import GMGProofs.Props.C05
/-!
# C07 — extrapolated smoothing: coarse nodes are kept, the other nodes are relaxed exactly

Model: `GMGModel/Smoother.lean` (`coarseNode`, `exDefect`).
`IsExSweep o nc f x y` (`GMGProofs/Lemmas/SmootherLemmas.lean`) says `exDefect … = 0` at every grid node.
Stated over an arbitrary field `K` (over a bare `Scalar` there are no axioms to conclude `y = x` from
`y - x = 0`; bitwise invariance of the coarse values in the implementation is checked by the
correspondence harness).
-/
namespace C07
open Stencil Smoother

variable {K : Type} [_root_.Field K]

/-- coarse nodes keep their value -/
theorem coarse_fixed (o : Op K) (nc : Nat) (f x y : Stencil.Field K) (h : IsExSweep o nc f x y)
    (i j : Nat) (hi : i < o.nr) (hj : j < o.nt) (hc : coarseNode i j = true) : y i j = x i j :=
  sub_eq_zero.mp (exDefect_of_coarse o nc f x y hc ▸ h i j hi hj)

/-- the relaxed nodes satisfy the ordinary sweep equation -/
theorem relaxed_defect (o : Op K) (nc : Nat) (f x y : Stencil.Field K) (i j : Nat)
    (hc : coarseNode i j = false) : exDefect o nc f x y i j = defect o nc f x y i j :=
  exDefect_of_fine o nc f x y hc

/-- a field with zero residual at all non-coarse nodes is a fixed point of the extrapolated sweep -/
theorem ex_fixed_point (o : Op K) (nc : Nat) (f u : Stencil.Field K)
    (hu : ∀ i j, i < o.nr → j < o.nt → coarseNode i j = false → take o f u i j = 0) :
    IsExSweep o nc f u u := by
  intro i j hi hj
  unfold exDefect
  split
  · exact sub_self _
  · rename_i hc
    rw [Smoother.mix_self]
    exact hu i j hi hj (by simpa using hc)

/-- … and conversely -/
theorem ex_fixed_point_iff (o : Op K) (nc : Nat) (f u : Stencil.Field K) :
    IsExSweep o nc f u u ↔ ∀ i j, i < o.nr → j < o.nt → coarseNode i j = false → take o f u i j = 0 := by
  constructor
  · intro h i j hi hj hc
    have := h i j hi hj
    rwa [exDefect_of_fine o nc f u u hc, defect, Smoother.mix_self] at this
  · exact ex_fixed_point o nc f u

/-- a relaxed node of phase `p` satisfies its row equation for the iterate after
    phase `p` -/
theorem ex_phase_colour (o : Op K) (nc : Nat) (f x y : Stencil.Field K) (h : IsExSweep o nc f x y)
    (p i j : Nat) (hi : i < o.nr) (hj : j < o.nt) (hp : phase nc i j = p) (hc : coarseNode i j = false) :
    take o f (mix nc p x y) i j = 0 := by
  have := h i j hi hj
  rwa [exDefect_of_fine o nc f x y hc, defect, hp] at this

/-- the residual of the NEW iterate vanishes at the relaxed nodes of the white radial lines;
    every node of a white radial line (`j` odd) is relaxed -/
theorem ex_last_colour (o : Op K) (nc : Nat) (f x y : Stencil.Field K) (h : IsExSweep o nc f x y)
    (i j : Nat) (hi : i < o.nr) (hj : j < o.nt) (hrad : nc ≤ i) (hodd : j % 2 = 1) :
    take o f y i j = 0 := by
  have hc : coarseNode i j = false := by simp [coarseNode, hodd]
  have := ex_phase_colour o nc f x y h 4 i j hi hj (phase_white_radial hrad hodd) hc
  rwa [Smoother.mix_four] at this

/-- the relaxed nodes are exactly those with an odd index -/
theorem ex_relaxed_count (i j : Nat) : coarseNode i j = false ↔ i % 2 = 1 ∨ j % 2 = 1 :=
  coarseNode_eq_false_iff i j

/-- on an even circle the relaxed nodes are the odd angular positions; on an odd circle every node -/
theorem ex_relaxed_circle (i j : Nat) :
    (i % 2 = 0 → (coarseNode i j = false ↔ j % 2 = 1)) ∧ (i % 2 = 1 → coarseNode i j = false) := by
  constructor
  · intro hi; rw [ex_relaxed_count]; omega
  · intro hi; rw [ex_relaxed_count]; omega

/-- on an even radial line the relaxed nodes are the odd radial positions; on an odd line every node -/
theorem ex_relaxed_radial (i j : Nat) :
    (j % 2 = 0 → (coarseNode i j = false ↔ i % 2 = 1)) ∧ (j % 2 = 1 → coarseNode i j = false) := by
  constructor
  · intro hj; rw [ex_relaxed_count]; omega
  · intro hj; rw [ex_relaxed_count]; omega

/-- on the outer boundary the Dirichlet values are set only at the relaxed nodes; at its coarse nodes the old value
    is kept (so the incoming iterate must already carry the boundary data there) -/
theorem ex_dirichlet_set_outer (o : Op K) (nc : Nat) (hnr : 2 ≤ o.nr) (f x y : Stencil.Field K)
    (h : IsExSweep o nc f x y) (j : Nat) (hj : j < o.nt) :
    y (o.nr - 1) j = if coarseNode (o.nr - 1) j then x (o.nr - 1) j else f (o.nr - 1) j := by
  have := h (o.nr - 1) j (by omega) hj
  unfold exDefect at this
  split
  · rename_i hc; rw [if_pos hc] at this; exact sub_eq_zero.mp this
  · rename_i hc
    rw [if_neg hc, C03.dirichlet_rows_outer o hnr, mix_of_le (le_refl _)] at this
    exact (sub_eq_zero.mp this).symm

/-! ## instances -/

/-- `IsExSweep` is satisfiable for ANY pair `x`, `y` that agree on the coarse nodes -/
example (o : Op ℚ) (nc : Nat) (x y : Stencil.Field ℚ) (hxy : ∀ i j, coarseNode i j = true → y i j = x i j) :
    IsExSweep o nc (fun i j => A o (mix nc (phase nc i j) x y) i j) x y := by
  intro i j _ _
  unfold exDefect
  split
  · rename_i hc; rw [hxy i j hc]; ring
  · rw [take_eq_sub_A]; ring

/-- a fixed point: `C05.exX` with `f := A exX` on the Dirichlet operator `C05.exOpD` -/
example : IsExSweep C05.exOpD 2 (A C05.exOpD C05.exX) C05.exX C05.exX := by
  refine ex_fixed_point _ _ _ _ (fun i j _ _ _ => ?_)
  rw [take_eq_sub_A]; ring

example : coarseNode 2 4 = true ∧ coarseNode 2 3 = false ∧ coarseNode 1 4 = false := by decide

end C07
