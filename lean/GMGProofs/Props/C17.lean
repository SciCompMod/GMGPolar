import GMGProofs.Lemmas.GridLemmas
/-!
# C17 — grid node numbering is a bijection consistent with geometry and periodicity

Model: `GMGModel/Grid.lean` (transcribes `polargrid.inl`, `polargrid.cpp`).  All statements hold for every grid shape that the constructors produce (`Grid.Valid`: `0 < nt < 2^31`
since the code stores it in an `int`, `nc ≤ nr`, the power-of-two flag as computed); there is no other bound on `nr`, `nt`, `nc`.
-/
namespace C17
open Grid

/-- `wrapThetaIndex` is the mathematical residue, on both code paths. -/
theorem wrap_spec (g : Grid) (hv : g.Valid) (x : Int) : g.wrap x = x % (g.nt : Int) := by
  unfold wrap
  by_cases hp : g.pow2 = true
  · simp only [hp, if_true]
    obtain ⟨k, hk⟩ := hv.nt_two_pow hp
    have hk32 : k ≤ 32 := by
      have h1 := hv.nt_small
      rw [hk] at h1
      have : k < 31 := (Nat.pow_lt_pow_iff_right (by decide)).mp h1
      omega
    rw [hk, and32_pow2 x k hk32]; simp
  · simp only [hp]
    exact tmod_wrap x g.nt (by have := hv.nt_pos; omega)

theorem wrap_range (g : Grid) (hv : g.Valid) (x : Int) : 0 ≤ g.wrap x ∧ g.wrap x < g.nt := by
  rw [wrap_spec g hv]
  have : (0 : Int) < g.nt := by have := hv.nt_pos; omega
  exact ⟨Int.emod_nonneg x (by omega), Int.emod_lt_of_pos x this⟩

/-- periodicity for any integer number of turns -/
theorem wrap_periodic (g : Grid) (hv : g.Valid) (x m : Int) : g.wrap (x + m * g.nt) = g.wrap x := by
  rw [wrap_spec g hv, wrap_spec g hv, Int.add_mul_emod_self_right]

theorem wrap_id (g : Grid) (hv : g.Valid) (j : Nat) (hj : j < g.nt) : g.wrap j = j := by
  rw [wrap_spec g hv]; exact Int.emod_eq_of_lt (by omega) (by omega)

/-- `index` of an unwrapped angular index is `fastIndex` of its residue -/
theorem index_eq_fast (g : Grid) (hv : g.Valid) (i : Nat) (x : Int) :
    g.index i x = g.fastIndex i (x % (g.nt : Int)).toNat := by
  unfold index; rw [wrap_spec g hv]

theorem index_periodic (g : Grid) (hv : g.Valid) (i : Nat) (x m : Int) :
    g.index i (x + m * g.nt) = g.index i x := by
  unfold index; rw [wrap_periodic g hv]

/-- the optimised and the reference index functions agree -/
theorem fast_eq_ref (g : Grid) (i j : Nat) (hv : g.Valid) : g.fastIndex i j = g.refIndex i j := by
  unfold fastIndex refIndex
  split
  · rfl
  · have := hv.nc_le; omega

theorem and_mask (g : Grid) (hv : g.Valid) (hp : g.pow2 = true) (n : Nat) : n &&& (g.nt - 1) = n % g.nt := by
  obtain ⟨k, hk⟩ := hv.nt_two_pow hp
  rw [hk, Nat.and_two_pow_sub_one_eq_mod]

/-- the optimised and the reference inverse agree -/
theorem multi_eq_ref (g : Grid) (hv : g.Valid) (n : Nat) : g.multiIndex n = g.refMultiIndex n := by
  unfold multiIndex refMultiIndex
  by_cases hp : g.pow2 = true
  · simp only [hp, if_true, and_mask g hv hp]
  · simp only [hp]; rfl

theorem circ_lt (g : Grid) (i j : Nat) (hi : i < g.nc) (hj : j < g.nt) : j + g.nt * i < g.ncirc := by
  unfold ncirc; rw [Nat.mul_comm g.nc]; exact pair_lt hj hi

/-- (i, j) ↦ node ↦ (i, j) -/
theorem multi_index (g : Grid) (hv : g.Valid) (i j : Nat) (hi : i < g.nr) (hj : j < g.nt) :
    g.multiIndex (g.fastIndex i j) = (i, j) := by
  rw [multi_eq_ref g hv]
  unfold refMultiIndex fastIndex
  have hnc := hv.nc_le
  by_cases h : i < g.nc
  · rw [if_pos h, if_pos (by unfold ncirc; rw [Nat.mul_comm g.nc]; exact pair_lt hj h), pair_div i hj, pair_mod i hj]
  · have hl : i - g.nc < g.len := by unfold len; omega
    rw [if_neg h, show g.ncirc + i - g.nc + g.len * j = g.ncirc + (i - g.nc + g.len * j) by omega,
      if_neg (by omega), Nat.add_sub_cancel_left, pair_mod j hl, pair_div j hl]
    congr 1; omega

/-- the image of the index map is inside `0 .. N-1` -/
theorem index_lt (g : Grid) (hv : g.Valid) (i j : Nat) (hi : i < g.nr) (hj : j < g.nt) :
    g.fastIndex i j < g.numNodes := by
  have hnc := hv.nc_le
  rw [numNodes_eq hnc]
  unfold fastIndex
  by_cases h : i < g.nc
  · have := pair_lt hj h
    rw [if_pos h, ncirc, Nat.mul_comm g.nc]; omega
  · have := pair_lt (show i - g.nc < g.len by unfold len; omega) hj
    rw [if_neg h]; omega

/-- node ↦ (i, j) ↦ node, with both components in range: the map is onto `0 .. N-1` -/
theorem index_multi (g : Grid) (hv : g.Valid) (n : Nat) (hn : n < g.numNodes) :
    (g.multiIndex n).1 < g.nr ∧ (g.multiIndex n).2 < g.nt ∧
    g.fastIndex (g.multiIndex n).1 (g.multiIndex n).2 = n := by
  rw [multi_eq_ref g hv]
  unfold refMultiIndex fastIndex
  have hnc := hv.nc_le
  by_cases h : n < g.ncirc
  · obtain ⟨h1, h2, h3⟩ := unpair (m := g.nt) (n := g.nc) (by rw [Nat.mul_comm]; exact h)
    simp only [h, if_true, h2]
    exact ⟨by omega, h1, h3⟩
  · rw [numNodes_eq hnc] at hn
    obtain ⟨h1, h2, h3⟩ := unpair (m := g.len) (n := g.nt) (k := n - g.ncirc) (by omega)
    simp only [h, if_false, show ¬ (g.nc + (n - g.ncirc) % g.len < g.nc) by omega]
    exact ⟨by unfold len at h1 ⊢; omega, h2, by omega⟩

/-- injectivity, as a corollary of the left inverse -/
theorem index_injective (g : Grid) (hv : g.Valid) (i j i' j' : Nat) (hi : i < g.nr) (hj : j < g.nt)
    (hi' : i' < g.nr) (hj' : j' < g.nt) (h : g.fastIndex i j = g.fastIndex i' j') : (i, j) = (i', j') := by
  rw [← multi_index g hv i j hi hj, ← multi_index g hv i' j' hi' hj', h]

/-- the split partitions the nodes exactly: node numbers below `ncirc` are the circle nodes -/
theorem split_partition (g : Grid) (hv : g.Valid) (n : Nat) (hn : n < g.numNodes) :
    (n < g.ncirc ↔ (g.multiIndex n).1 < g.nc) ∧ g.ncirc + g.nrad = g.numNodes ∧ g.nc + g.len = g.nr := by
  have hnt := hv.nt_pos
  have hnc := hv.nc_le
  refine ⟨?_, ?_, by unfold len; omega⟩
  · rw [multi_eq_ref g hv]; unfold refMultiIndex
    by_cases h : n < g.ncirc
    · simp only [h, if_true, true_iff]
      exact (Nat.div_lt_iff_lt_mul hnt).mpr h
    · simp only [h, if_false, false_iff]; omega
  · exact (numNodes_eq hnc).symm

/-! ### neighbour queries -/

theorem jm1_spec (g : Grid) (hv : g.Valid) (j : Nat) (hj : j < g.nt) :
    (g.jm1 j : Int) = ((j : Int) - 1) % g.nt := by
  unfold jm1
  have := hv.nt_pos
  split
  · rw [← Int.add_emod_right, Int.emod_eq_of_lt (by omega) (by omega)]; omega
  · rw [Int.emod_eq_of_lt (by omega) (by omega)]; omega

theorem jp1_spec (g : Grid) (hv : g.Valid) (j : Nat) (hj : j < g.nt) :
    (g.jp1 j : Int) = ((j : Int) + 1) % g.nt := by
  unfold jp1
  have := hv.nt_pos
  split
  · rw [show (j : Int) + 1 = g.nt by omega, Int.emod_self]; omega
  · rw [Int.emod_eq_of_lt (by omega) (by omega)]; omega

theorem idxOrNone_lo (g : Grid) (i j : Nat) (hi : i < g.nr) :
    g.idxOrNone ((i : Int) - 1) j = if i = 0 then (-1 : Int) else ((g.refIndex (i - 1) j : Nat) : Int) := by
  unfold idxOrNone
  by_cases h : i = 0
  · subst h; simp
  · rw [if_neg (by omega), if_neg h, show ((i : Int) - 1).toNat = i - 1 by omega]

theorem idxOrNone_hi (g : Grid) (i j : Nat) (hi : i < g.nr) :
    g.idxOrNone ((i : Int) + 1) j = if i + 1 = g.nr then (-1 : Int) else ((g.refIndex (i + 1) j : Nat) : Int) := by
  unfold idxOrNone
  by_cases h : i + 1 = g.nr
  · rw [if_pos (by omega), if_pos h]
  · rw [if_neg (by omega), if_neg h, show ((i : Int) + 1).toNat = i + 1 by omega]

/-- adjacent and diagonal neighbours are the nodes `(i ± 1, j ± 1 mod nt)`, with `-1` exactly at the
    radial boundaries (`jm1`/`jp1` are the periodic predecessor/successor by `jm1_spec`/`jp1_spec`) -/
theorem neighbours_spec (g : Grid) (i j : Nat) (hi : i < g.nr) :
    g.adjacent i j = (if i = 0 then (-1 : Int) else ((g.refIndex (i - 1) j : Nat) : Int),
                      if i + 1 = g.nr then (-1 : Int) else ((g.refIndex (i + 1) j : Nat) : Int),
                      ((g.refIndex i (g.jm1 j) : Nat) : Int), ((g.refIndex i (g.jp1 j) : Nat) : Int)) ∧
    g.diagonal i j = (if i = 0 then (-1 : Int) else ((g.refIndex (i - 1) (g.jm1 j) : Nat) : Int),
                      if i + 1 = g.nr then (-1 : Int) else ((g.refIndex (i + 1) (g.jm1 j) : Nat) : Int),
                      if i = 0 then (-1 : Int) else ((g.refIndex (i - 1) (g.jp1 j) : Nat) : Int),
                      if i + 1 = g.nr then (-1 : Int) else ((g.refIndex (i + 1) (g.jp1 j) : Nat) : Int)) := by
  unfold adjacent diagonal
  simp only [idxOrNone_lo g i _ hi, idxOrNone_hi g i _ hi, and_self]

/-! ### coarsening (`coarseningGrid`): every second node in each direction, both boundaries included -/

/-- odd `nr`: coarse index `I` is fine index `2I`; the last coarse node is the last fine node -/
theorem coarsen_spec (g : Grid) (hodd : g.nr % 2 = 1) (heven : g.nt % 2 = 0) :
    (∀ I, I < g.coarseNr → 2 * I < g.nr) ∧ 2 * (g.coarseNr - 1) = g.nr - 1 ∧
    (∀ J, J ≤ g.coarseNt → 2 * J ≤ g.nt) ∧ 2 * g.coarseNt = g.nt := by
  unfold coarseNr coarseNt
  refine ⟨fun I h => by omega, by omega, fun J h => by omega, by omega⟩

def iterN (f : Nat → Nat) : Nat → Nat → Nat
  | 0, x => x
  | k + 1, x => iterN f k (f x)

/-- `k` coarsenings (`n ↦ (n + 1) / 2`, the map of `Grid.coarseNr`) of `nr = 2^k * m + 1` radial nodes leave `m + 1`; the
    index map of coarse node `I` is `2^k * I`; boundaries stay boundaries. -/
theorem coarsen_chain (m : Nat) : ∀ (k : Nat) (nr : Nat), nr = 2 ^ k * m + 1 →
    (iterN (fun n => (n + 1) / 2) k nr = m + 1) ∧
    (∀ I, I < m + 1 → 2 ^ k * I < nr) ∧ 2 ^ k * m = nr - 1
  | 0, nr, h => by simp at h; subst h; simp [iterN]
  | k + 1, nr, h => by
      have e : (nr + 1) / 2 = 2 ^ k * m + 1 := by
        rw [h, Nat.pow_succ]; have : 2 ^ k * 2 * m = 2 * (2 ^ k * m) := by rw [Nat.mul_comm (2 ^ k) 2, Nat.mul_assoc]
        omega
      obtain ⟨a, b, c⟩ := coarsen_chain m k ((nr + 1) / 2) e
      refine ⟨by simpa [iterN] using a, ?_, by omega⟩
      intro I hI
      have := Nat.mul_le_mul_left (2 ^ (k + 1)) (Nat.le_of_lt_succ hI)
      omega

/-! ### the circle/radial split -/
open Split

theorem autoLoop_range (crit : Nat → Bool) (nr : Nat) : ∀ fuel i, 2 ≤ i →
    autoLoop crit nr i fuel = 2 ∨ (i ≤ autoLoop crit nr i fuel ∧ autoLoop crit nr i fuel + 2 < nr)
  | 0, i, _ => by simp [autoLoop]
  | fuel + 1, i, hi => by
      unfold autoLoop
      by_cases h1 : i + 2 < nr
      · simp only [h1, if_true]
        by_cases h2 : crit i = true
        · simp only [h2, if_true]; right; omega
        · rw [if_neg h2]
          rcases autoLoop_range crit nr fuel (i + 1) (by omega) with h | ⟨ha, hb⟩
          · left; exact h
          · right; exact ⟨by omega, hb⟩
      · simp only [h1, if_false]; left; trivial

/-- the automatic split is the first circle `i ∈ [2, nr-3]` at which the criterion holds -/
theorem autoLoop_first (crit : Nat → Bool) (nr : Nat) : ∀ fuel i, nr ≤ i + fuel →
    (∀ k, i ≤ k → k + 2 < nr → crit k = false) ∧ autoLoop crit nr i fuel = 2 ∨
    (∃ k, i ≤ k ∧ k + 2 < nr ∧ crit k = true ∧ (∀ k', i ≤ k' → k' < k → crit k' = false) ∧
      autoLoop crit nr i fuel = k)
  | 0, i, h => by left; exact ⟨fun k h1 h2 => by omega, by simp [autoLoop]⟩
  | fuel + 1, i, h => by
      unfold autoLoop
      by_cases h1 : i + 2 < nr
      · simp only [h1, if_true]
        by_cases h2 : crit i = true
        · simp only [h2, if_true]; right
          exact ⟨i, Nat.le_refl _, h1, h2, fun k' a b => by omega, rfl⟩
        · rw [if_neg h2]
          have h2' : crit i = false := by simpa using h2
          rcases autoLoop_first crit nr fuel (i + 1) (by omega) with ⟨ha, hb⟩ | ⟨k, a, b, c, d, e⟩
          · left; refine ⟨fun k hk hk2 => ?_, hb⟩
            rcases Nat.eq_or_lt_of_le hk with rfl | hlt
            · exact h2'
            · exact ha k hlt hk2
          · right; refine ⟨k, by omega, b, c, fun k' a' b' => ?_, e⟩
            rcases Nat.eq_or_lt_of_le a' with rfl | hlt
            · exact h2'
            · exact d k' hlt b'
      · simp only [h1, if_false]; left
        exact ⟨fun k a b => by omega, trivial⟩

/-- automatic split: what the smoothers assume (at least two circles and three radial nodes per line,
    three circles as soon as `nr > 5`), for any outcome of the floating-point criterion -/
theorem splitAuto_bounds (crit : Nat → Bool) (nr : Nat) (h5 : 5 ≤ nr) :
    2 ≤ autoNc crit nr ∧ autoNc crit nr + 3 ≤ nr ∧ (5 < nr → 3 ≤ autoNc crit nr) := by
  unfold autoNc
  dsimp only
  rcases autoLoop_first crit nr nr 2 (by omega) with ⟨_, h⟩ | ⟨k, _, _, _, _, h⟩
  · rw [h]; split <;> omega
  · rw [h]; split <;> omega

/-- explicit split: `lower_bound` on radii for which "`< s`" is downward closed along the array (true for every
    sorted array) returns `nc` with exactly the first `nc` radii below `s` -/
theorem lowerBound_spec {α : Type} (lt : α → α → Bool) (s : α) : ∀ (radii : List α),
    List.Pairwise (fun a b => lt b s = true → lt a s = true) radii →
    lowerBound lt radii s ≤ radii.length ∧
    ∀ k (hk : k < radii.length), (k < lowerBound lt radii s ↔ lt radii[k] s = true)
  | [], _ => by simp [lowerBound]
  | r :: rs, hp => by
      rw [List.pairwise_cons] at hp
      obtain ⟨h1, h2⟩ := hp
      obtain ⟨ihl, ih⟩ := lowerBound_spec lt s rs h2
      unfold lowerBound
      by_cases hr : lt r s = true
      · simp only [hr, if_true]
        refine ⟨by simp; omega, ?_⟩
        intro k hk
        cases k with
        | zero => simp [hr]; omega
        | succ k =>
            have hk' : k < rs.length := by simpa using hk
            simp only [List.getElem_cons_succ]
            rw [← ih k hk']; omega
      · rw [if_neg hr]
        refine ⟨by simp, ?_⟩
        intro k hk
        cases k with
        | zero => simp [hr]
        | succ k =>
            have hk' : k < rs.length := by simpa using hk
            simp only [List.getElem_cons_succ]
            constructor
            · intro h; omega
            · intro h; exact absurd (h1 _ (List.getElem_mem hk') h) hr

/-- `explicitNc`: 0 when `s` is below the first radius; otherwise the `lower_bound` position, which is `nr`
    when every radius is below `s` (the code's "only circular indexing" branch) -/
theorem splitExplicit_spec {α : Type} (lt : α → α → Bool) (s r0 : α) (rs : List α)
    (hp : List.Pairwise (fun a b => lt b s = true → lt a s = true) (r0 :: rs)) :
    (lt s r0 = true → explicitNc lt (r0 :: rs) s = 0) ∧
    (lt s r0 = false → explicitNc lt (r0 :: rs) s = lowerBound lt (r0 :: rs) s ∧
      explicitNc lt (r0 :: rs) s ≤ (r0 :: rs).length ∧
      (∀ k (hk : k < (r0 :: rs).length), (k < explicitNc lt (r0 :: rs) s ↔ lt (r0 :: rs)[k] s = true)) ∧
      ((∀ k (hk : k < (r0 :: rs).length), lt (r0 :: rs)[k] s = true) →
        explicitNc lt (r0 :: rs) s = (r0 :: rs).length)) := by
  obtain ⟨hl, hs⟩ := lowerBound_spec lt s (r0 :: rs) hp
  unfold explicitNc
  refine ⟨fun h => by simp [h], fun h => ?_⟩
  simp only [h]
  refine ⟨by simp, hl, hs, fun hall => ?_⟩
  have hlast := (hs rs.length (by simp)).mpr (hall rs.length (by simp))
  simp only [List.length_cons] at hl hlast ⊢
  simp at hlast ⊢
  omega

end C17
