import GMGProofs.Lemmas.CycleExact
import GMGProofs.Lemmas.CycleToy
/-!
# C10 — each multigrid cycle is a consistent correction scheme

Property theorems only.  Model: `GMGModel/Cycle.lean` (the instruction lists produced by
`multigrid_{V,W,F}_Cycle` and `implicitlyExtrapolatedMultigrid_{V,W,F}_Cycle` with their rotation of the
work vectors) and `GMGModel/Solve.lean` (`exec`, abstract operators `Ops V`).  The specification
(`iter`, `cyc`, `excyc`, `cycleSpec`, `ExactData`, `ZeroData`, `writes`) lives in
`GMGProofs/Lemmas/Cycle{Exec,Spec,Exact}.lean`; `cyc_unfold`, `excyc_unfold` below spell it out.

All statements hold for every vector type `V`, every operator family `o : Ops V` (no linearity, nothing
about the scratch value a smoother leaves behind), every memory, all `ν1 ν2 ≥ 0`, all three cycle kinds
and every number of levels.
-/
namespace C10
open MGCycle

variable {V : Type}

/-! ## the specification, spelled out -/

/-- the textbook recursion: `ν1` smoothings, residual, restriction, coarse solve or recursive cycle(s) from
    the zero vector (V: one, W: two, F: an F- then a V-cycle), prolongation, correction, `ν2` smoothings -/
theorem cyc_unfold (o : Ops V) (c : Cfg) (k : Kind) (fuel d : Nat) (u f : V) :
    cyc o c k (fuel + 1) d u f =
      (let u1 := iter (fun v => o.smooth d v f) c.nu1 u
       let g := o.restrict d (o.resid d f u1)
       let z := o.zero (d + 1)
       let e :=
         if d + 1 = c.levels - 1 then o.solve (d + 1) g
         else match k with
           | .V => cyc o c .V fuel (d + 1) z g
           | .W => cyc o c .W fuel (d + 1) (cyc o c .W fuel (d + 1) z g) g
           | .F => cyc o c .V fuel (d + 1) (cyc o c .F fuel (d + 1) z g) g
       iter (fun v => o.smooth d v f) c.nu2 (o.add u1 (o.prolong (d + 1) e))) := by
  cases k <;> rfl

theorem cyc_no_fuel (o : Ops V) (c : Cfg) (k : Kind) (d : Nat) (u f : V) : cyc o c k 0 d u f = u := by simp

/-- the implicitly extrapolated cycle on level 0 -/
theorem excyc_unfold (o : Ops V) (c : Cfg) (k : Kind) (fgs : Bool) (u f f1 : V) :
    excyc o c k fgs u f f1 =
      (let sm := fun v => if fgs then o.smooth 0 v f else o.exSmooth 0 v f
       let u1 := iter sm c.nu1 u
       let g := o.lin43 (o.exRestrict 0 (o.resid 0 f u1)) (o.resid 1 f1 (o.inject 0 u1))
       let z := o.zero 1
       let e :=
         if 1 = c.levels - 1 then o.solve 1 g
         else match k with
           | .V => cyc o c .V (c.levels - 2) 1 z g
           | .W => cyc o c .W (c.levels - 2) 1 (cyc o c .W (c.levels - 2) 1 z g) g
           | .F => cyc o c .V (c.levels - 2) 1 (cyc o c .F (c.levels - 2) 1 z g) g
       iter sm c.nu2 (o.add u1 (o.exProlong 1 e))) := by
  cases k <;> rfl

/-! ## the buffer-rotating programs refine the recursion; frame -/

/-- `multigrid_{V,W,F}_Cycle` on depth `d` with solution `x`, right-hand side `rhs`, scratch `tmp` (three
    distinct vectors of level `d`): the new `x` is the textbook cycle applied to the old `x` and `rhs`; every
    other vector of levels `≤ d` except `tmp`, and every right-hand side of every level, is unchanged.
    (The hypotheses `fuel = c.levels - 1 - d`, `d + 1 ≤ c.levels - 1` of the solver's calls are not needed.) -/
theorem plain_refines (o : Ops V) (c : Cfg) (k : Kind) (fuel d : Nat) (x rhs tmp : Ref) (m : Mem V)
    (hx : x.1 = d) (hr : rhs.1 = d) (ht : tmp.1 = d) (hxr : x ≠ rhs) (hxt : x ≠ tmp) (hrt : rhs ≠ tmp) :
    exec o (plain c k fuel d x rhs tmp) m x = cyc o c k fuel d (m x) (m rhs) ∧
    (∀ r : Ref, r.1 ≤ d ∨ r.2 = Buf.rhs → r ≠ x → r ≠ tmp → exec o (plain c k fuel d x rhs tmp) m r = m r) :=
  ⟨plain_val o c fuel k d x rhs tmp m hx hr ht hxr hxt hrt,
   fun _ h h1 h2 => exec_frame_scope o (plain_writes c fuel k d x rhs tmp) m h1 h2 h⟩

/-- in particular the right-hand side the cycle was called with is intact -/
theorem plain_keeps_rhs (o : Ops V) (c : Cfg) (k : Kind) (fuel d : Nat) (x rhs tmp : Ref) (m : Mem V)
    (hr : rhs.1 = d) (hxr : x ≠ rhs) (hrt : rhs ≠ tmp) :
    exec o (plain c k fuel d x rhs tmp) m rhs = m rhs :=
  exec_frame_scope o (plain_writes c fuel k d x rhs tmp) m hxr.symm hrt (Or.inl (Nat.le_of_eq hr))

/-- the top-level call of `solve()` -/
theorem cycle_refines (o : Ops V) (c : Cfg) (k : Kind) (fgs : Bool) (m : Mem V) :
    exec o (cycleAt c k false fgs 0) m (0, .sol) = cyc o c k (c.levels - 1) 0 (m (0, .sol)) (m (0, .rhs)) :=
  exec_cycleAt_plain o c k fgs m rfl rfl

/-! ## no stale data -/

/-- the result does not depend on what `tmp` or any deeper-level vector held before the call -/
theorem stale_indep (o : Ops V) (c : Cfg) (k : Kind) (fuel d : Nat) (x rhs tmp : Ref) (m m' : Mem V)
    (hx : x.1 = d) (hr : rhs.1 = d) (ht : tmp.1 = d) (hxr : x ≠ rhs) (hxt : x ≠ tmp) (hrt : rhs ≠ tmp)
    (h1 : m x = m' x) (h2 : m rhs = m' rhs) :
    exec o (plain c k fuel d x rhs tmp) m x = exec o (plain c k fuel d x rhs tmp) m' x := by
  rw [plain_val o c fuel k d x rhs tmp m hx hr ht hxr hxt hrt,
    plain_val o c fuel k d x rhs tmp m' hx hr ht hxr hxt hrt, h1, h2]

/-! ## the implicitly extrapolated cycle -/

/-- new `(0,sol)` = the extrapolated cycle of the old `(0,sol)`, `(0,rhs)`, `(1,rhs)`; the level-0 vectors
    other than `sol`, `res` and all right-hand sides (in particular `(1,rhs)`, which is read) are unchanged -/
theorem extrap_refines (o : Ops V) (c : Cfg) (k : Kind) (fgs : Bool) (m : Mem V) :
    exec o (extrap c k fgs 0 (0, .sol) (0, .rhs) (0, .res)) m (0, .sol) =
      excyc o c k fgs (m (0, .sol)) (m (0, .rhs)) (m (1, .rhs)) ∧
    (∀ r : Ref, r.1 = 0 ∨ r.2 = Buf.rhs → r ≠ (0, .sol) → r ≠ (0, .res) →
      exec o (extrap c k fgs 0 (0, .sol) (0, .rhs) (0, .res)) m r = m r) :=
  ⟨extrap_val o c k fgs m, fun _ h h1 h2 =>
    exec_frame_scope o (extrap_writes c k fgs 0 _ _ _) m h1 h2 (h.imp Nat.le_of_eq id)⟩

theorem extrap_stale_indep (o : Ops V) (c : Cfg) (k : Kind) (fgs : Bool) (m m' : Mem V)
    (h0 : m (0, .sol) = m' (0, .sol)) (h1 : m (0, .rhs) = m' (0, .rhs)) (h2 : m (1, .rhs) = m' (1, .rhs)) :
    exec o (extrap c k fgs 0 (0, .sol) (0, .rhs) (0, .res)) m (0, .sol) =
      exec o (extrap c k fgs 0 (0, .sol) (0, .rhs) (0, .res)) m' (0, .sol) := by
  rw [extrap_val, extrap_val, h0, h1, h2]

/-! ## two levels, no smoothing: the coarse-grid correction -/

theorem two_level_nosm (o : Ops V) (c : Cfg) (k : Kind) (fgs : Bool) (m : Mem V)
    (hL : c.levels = 2) (h1 : c.nu1 = 0) (h2 : c.nu2 = 0) :
    exec o (cycleAt c k false fgs 0) m (0, .sol) =
      o.add (m (0, .sol)) (o.prolong 1 (o.solve 1 (o.restrict 0 (o.resid 0 (m (0, .rhs)) (m (0, .sol)))))) := by
  rw [cycle_refines, hL, cyc_succ, h1, h2]
  simp [coarseOrSolve, hL]

theorem two_level_nosm_extrap (o : Ops V) (c : Cfg) (k : Kind) (fgs : Bool) (m : Mem V)
    (hL : c.levels = 2) (h1 : c.nu1 = 0) (h2 : c.nu2 = 0) :
    exec o (cycleAt c k true fgs 0) m (0, .sol) =
      o.add (m (0, .sol)) (o.exProlong 1 (o.solve 1
        (o.lin43 (o.exRestrict 0 (o.resid 0 (m (0, .rhs)) (m (0, .sol))))
                 (o.resid 1 (m (1, .rhs)) (o.inject 0 (m (0, .sol))))))) := by
  rw [cycleAt_val o c k true fgs 0 (fun _ => rfl)]
  simp [cycleSpec, excyc, h1, h2, coarseOrSolve, hL]

/-! ## an exact solution is a fixed point -/

/-- `ExactData o c d u f`: the smoother fixes `u`, the restricted residual of `u` is the coarse zero vector,
    adding the prolongated coarse zero changes nothing, and on the coarser levels (zero iterate, zero
    right-hand side) is mapped to zero (`ZeroData`).  Then every cycle returns `u`. -/
theorem exact_fixed (o : Ops V) (c : Cfg) (k : Kind) (fuel d : Nat) (u f : V) (hL : d + 1 ≤ c.levels - 1)
    (E : ExactData o c d u f) : cyc o c k fuel d u f = u :=
  cyc_exact o c fuel k d u f hL E

/-- on every coarser level the cycle started from zero with zero right-hand side returns zero -/
theorem zero_fixed (o : Ops V) (c : Cfg) (d0 : Nat) (z : ZeroData o c d0) (k : Kind) (fuel d : Nat)
    (hd : d0 ≤ d) (hL : d + 1 ≤ c.levels - 1) : cyc o c k fuel d (o.zero d) (o.zero d) = o.zero d :=
  cyc_zero_zero o c d0 z fuel k d hd hL

/-- the factor-by-factor hypotheses imply `ZeroData` -/
theorem zeroData_of_factors (o : Ops V) (c : Cfg) (d0 : Nat)
    (h1 : ∀ l, o.smooth l (o.zero l) (o.zero l) = o.zero l)
    (h2 : ∀ l, o.resid l (o.zero l) (o.zero l) = o.zero l)
    (h3 : ∀ l, o.restrict l (o.zero l) = o.zero (l + 1))
    (h4 : ∀ l, o.solve l (o.zero l) = o.zero l)
    (h5 : ∀ l, o.prolong (l + 1) (o.zero (l + 1)) = o.zero l)
    (h6 : ∀ l, o.add (o.zero l) (o.zero l) = o.zero l) : ZeroData o c d0 :=
  ZeroData.of_factors o c d0 h1 h2 h3 h4 h5 h6

/-- the program: a cycle of `solve()` leaves an exact `(0,sol)` alone -/
theorem exact_fixed_exec (o : Ops V) (c : Cfg) (k : Kind) (fgs : Bool) (m : Mem V) (hL : 1 ≤ c.levels - 1)
    (E : ExactData o c 0 (m (0, .sol)) (m (0, .rhs))) :
    exec o (cycleAt c k false fgs 0) m (0, .sol) = m (0, .sol) := by
  rw [cycle_refines]; exact cyc_exact o c _ k 0 _ _ hL E

theorem exact_fixed_extrap (o : Ops V) (c : Cfg) (k : Kind) (fgs : Bool) (m : Mem V) (hL : 1 ≤ c.levels - 1)
    (E : ExExactData o c fgs (m (0, .sol)) (m (0, .rhs)) (m (1, .rhs))) :
    exec o (cycleAt c k true fgs 0) m (0, .sol) = m (0, .sol) := by
  rw [cycleAt_val o c k true fgs 0 (fun _ => rfl)]
  simpa [cycleSpec] using excyc_exact o c k fgs _ _ _ hL E

/-! ## no cycle writes a right-hand side -/

theorem rhs_untouched (c : Cfg) (k : Kind) (ex fgs : Bool) :
    ∀ i ∈ cycleAt c k ex fgs 0, ∀ l : Nat, ((l, .rhs) : Ref) ∉ writes i :=
  fun i hi _ hw => (cycleAt_writes c k ex fgs 0 i hi _ hw).ne_rhs (by decide) (by decide) rfl

theorem rhs_untouched_exec (o : Ops V) (c : Cfg) (k : Kind) (ex fgs : Bool) (m : Mem V) (l : Nat) :
    exec o (cycleAt c k ex fgs 0) m (l, .rhs) = m (l, .rhs) :=
  cycleAt_rhs o c k ex fgs 0 m l

/-! ## instances -/

/-- the hypotheses of `plain_refines` are met by the solver's own call … -/
example (c : Cfg) (k : Kind) (m : Mem Int) :
    exec toyOps (plain c k (c.levels - 1) 0 (0, .sol) (0, .rhs) (0, .res)) m (0, .sol) =
      cyc toyOps c k (c.levels - 1) 0 (m (0, .sol)) (m (0, .rhs)) :=
  (plain_refines toyOps c k _ 0 _ _ _ m rfl rfl rfl (by decide) (by decide) (by decide)).1

/-- … and by the rotated triple of a recursive call -/
example (c : Cfg) (k : Kind) (d : Nat) (m : Mem Int) :
    exec toyOps (plain c k 2 (d+1) (d+1, .res) (d+1, .err) (d+1, .sol)) m (d+1, .err) = m (d+1, .err) :=
  plain_keeps_rhs toyOps c k 2 (d+1) _ _ _ m rfl (by simp) (by simp)

/-- program and specification are not trivially equal: a concrete W(1,1)-cycle on 4 levels -/
example : exec toyOps (cycleAt ⟨4, 1, 1⟩ .W false true 0) (toyMem (fun l => l + 1) 5) (0, .sol) =
    cyc toyOps ⟨4, 1, 1⟩ .W 3 0 5 1 ∧
    cyc toyOps ⟨4, 1, 1⟩ .W 3 0 5 1 ≠ 5 := by
  refine ⟨by simpa [toyMem] using cycle_refines toyOps ⟨4, 1, 1⟩ .W true (toyMem (fun l => l + 1) 5), by decide⟩

/-- `ExactData` is inhabited (identity operator, exact smoother) and not by every pair -/
example : ExactData idOps ⟨3, 2, 2⟩ 0 5 5 :=
  ⟨rfl, by decide, by decide, ZeroData.of_factors _ _ _ (fun _ => rfl) (fun _ => rfl) (fun _ => rfl) (fun _ => rfl)
    (fun _ => rfl) (fun _ => rfl)⟩

example : ¬ ExactData idOps ⟨3, 2, 2⟩ 0 4 5 := fun E => absurd E.smooth_fix (by decide)

example : ExExactData idOps ⟨3, 2, 2⟩ false 5 5 5 :=
  ⟨by decide, by decide, by decide, ZeroData.of_factors _ _ _ (fun _ => rfl) (fun _ => rfl) (fun _ => rfl) (fun _ => rfl)
    (fun _ => rfl) (fun _ => rfl)⟩

/-- a wrong iterate is changed by the cycle (the fixed-point theorem is not an artefact of a trivial spec) -/
example : cyc idOps ⟨3, 0, 0⟩ .V 2 0 4 5 = 5 := by decide

end C10
