import GMGProofs.Lemmas.GridGenLevels
import GMGProofs.Lemmas.GridGenGenerate
import GMGProofs.Lemmas.GridGenAniso
/-!
# C18 — grid generation: uniform and anisotropic radial division, refinement, level choice

Model: `GMGModel/GridGen.lean` (transcribes `polargrid.cpp`
`constructRadialDivisions` / `refineGrid` / `divideVector` / `checkParameters`, the whole of
`anisotropic_division.cpp`, and `setup.cpp` `chooseNumberOfLevels`).  Radii are exact rationals.
All statements are for unbounded parameters (any `nrExp`, `aniso`, `div`, any rational radii).

`StrictInc l` is `List.Pairwise (· < ·) l`; `Midpoints l` says every odd entry of `l` is the mean of its two
neighbours; `coarsenR l n` / `coarsenT l n` iterate `n ↦ (n+1)/2` / `n ↦ n/2`; `An.*` are the named stages of
`anisoDivision` (`An.anisoDivision_eq` shows the decomposition is definitional).
-/
namespace C18
open GridGen GridGenL

/-! ## 1. uniform division -/

/-- `anisotropic_factor == 0`: `2^(nrExp-1) + 1` strictly increasing radii from exactly `R0` to exactly `Rmax` -/
theorem uniform_ok (R0 Rmax : Rat) (nrExp : Int) (h1 : 1 ≤ nrExp) (hR : R0 < Rmax) :
    ∃ t, uniformTemp R0 Rmax nrExp = .ok t ∧ t.length = 2 ^ (nrExp.toNat - 1) + 1 ∧ StrictInc t
      ∧ t.head? = some R0 ∧ t.getLast? = some Rmax := by
  have hN : (0 : Rat) < ((2 ^ (nrExp.toNat - 1) : Nat) : Rat) := by positivity
  refine ⟨_, uniformTemp_eq R0 Rmax nrExp h1, by simp, ap_strictInc _ _ _ (div_pos (by linarith) hN),
    (ap_ends _ _ _).1, ?_⟩
  rw [(ap_ends _ _ _).2]
  congr 1; field_simp; ring

/-- with `nrExp < 1` the C++ computes `pow(2, nr_exp - 1) + 1` nodes from a non-positive exponent: flagged -/
theorem uniform_small_exp (R0 Rmax : Rat) (nrExp : Int) (h : nrExp < 1) :
    ∃ w, uniformTemp R0 Rmax nrExp = .ub w := by
  unfold uniformTemp; rw [if_pos h]; exact ⟨_, rfl⟩

/-! ## 2. midpoint refinement -/

theorem midpoint_length (t : List Rat) : (midpointRefine t).length = 2 * t.length - 1 :=
  midpointRefine_length t

theorem midpoint_length_odd (t : List Rat) (ht : 1 ≤ t.length) : (midpointRefine t).length % 2 = 1 := by
  rw [midpointRefine_length]; omega

theorem midpoint_strictInc (t : List Rat) (ht : StrictInc t) : StrictInc (midpointRefine t) :=
  midpointRefine_strictInc t ht

/-- the even entries are the entries of `t` -/
theorem midpoint_even (t : List Rat) (k : Nat) (hk : k < t.length) :
    (midpointRefine t).getD (2 * k) 0 = t.getD k 0 := midpointRefine_even t k hk

/-- every odd entry is the midpoint of its neighbours -/
theorem midpoints (t : List Rat) (i : Nat) (hi : i % 2 = 1) (hlen : i + 1 < (midpointRefine t).length) :
    (midpointRefine t).getD i 0 = ((midpointRefine t).getD (i - 1) 0 + (midpointRefine t).getD (i + 1) 0) / 2 :=
  midpointRefine_midpoints t i hi hlen

theorem midpoint_endpoints (t : List Rat) (ht : 1 ≤ t.length) :
    (midpointRefine t).head? = t.head? ∧ (midpointRefine t).getLast? = t.getLast? :=
  midpointRefine_ends t ht

/-! ## 3. `divideVector` -/

theorem divide_length (v : List Rat) (d : Nat) (hv : 1 ≤ v.length) :
    (divideVector v d).length = (v.length - 1) * 2 ^ d + 1 := divideVector_length v d hv

theorem divide_strictInc (v : List Rat) (d : Nat) (hv : StrictInc v) : StrictInc (divideVector v d) :=
  divideVector_strictInc v d hv

theorem divide_endpoints (v : List Rat) (d : Nat) (hv : 1 ≤ v.length) :
    (divideVector v d).head? = v.head? ∧ (divideVector v d).getLast? = v.getLast? :=
  divideVector_ends v d hv

/-- nesting: the coarse nodes survive at stride `2^d`, and one more halving only adds nodes in between -/
theorem nested_divide (v : List Rat) (d : Nat) (hv : 1 ≤ v.length) :
    (∀ i, i < v.length → (divideVector v d).getD (2 ^ d * i) 0 = v.getD i 0)
    ∧ (∀ k, k < (divideVector v d).length →
        (divideVector v (d + 1)).getD (2 * k) 0 = (divideVector v d).getD k 0) := by
  refine ⟨fun i hi => divideVector_coarse v d i hi, fun k hk => ?_⟩
  rw [divideVector_length _ _ hv] at hk
  have hp := Nat.two_pow_pos d
  rw [divideVector_getD v d k hv (by omega), divideVector_getD v (d + 1) (2 * k) hv (by rw [pow_succ, ← Nat.mul_assoc]; omega), pow_succ,
    dv_even v _ _ hp]

/-- each halving bisects: odd entries of the `(d+1)`-fold division are midpoints of their neighbours -/
theorem divide_midpoints (v : List Rat) (d i : Nat) (hi : i % 2 = 1)
    (hlen : i + 1 < (divideVector v (d + 1)).length) :
    (divideVector v (d + 1)).getD i 0
      = ((divideVector v (d + 1)).getD (i - 1) 0 + (divideVector v (d + 1)).getD (i + 1) 0) / 2 :=
  divideVector_midpoints v d i hi hlen

/-- closed form: node `i * 2^d + j` is the `j`-th of `2^d` equal parts of `[v[i], v[i+1]]` -/
theorem divide_uniform (v : List Rat) (d i j : Nat) (hi : i + 1 < v.length) (hj : j ≤ 2 ^ d) :
    (divideVector v d).getD (i * 2 ^ d + j) 0
      = v.getD i 0 + (j : Rat) * (v.getD (i + 1) 0 - v.getD i 0) / ((2 ^ d : Nat) : Rat) := by
  have hp := Nat.two_pow_pos d
  have hle : i * 2 ^ d + j ≤ (v.length - 1) * 2 ^ d := by
    calc i * 2 ^ d + j ≤ i * 2 ^ d + 2 ^ d := by omega
      _ = (i + 1) * 2 ^ d := by rw [Nat.succ_mul]
      _ ≤ (v.length - 1) * 2 ^ d := Nat.mul_le_mul_right _ (by omega)
  rw [divideVector_getD v d _ (by omega) hle, dv_split v _ i j hp hj]

/-! ## 4. number of levels -/

theorem levels_admissible (nr nt : Nat) (maxLevels : Int) (L : Nat) (h : chooseLevels nr nt maxLevels = .ok L) :
    2 ≤ L ∧ (∀ l, l + 1 < L → coarsenR l nr % 2 = 1 ∧ coarsenT l nt % 4 = 0)
      ∧ 5 ≤ coarsenR (L - 1) nr ∧ 4 ≤ coarsenT (L - 1) nt := by
  obtain ⟨h2, hr, ht⟩ := chooseLevels_ok h
  have hR := radialMax_spec nr nr L hr
  have hT := angularMax_spec nt nt L ht
  refine ⟨h2, fun l hl => ⟨(hR l hl).1, (hT l hl).1⟩, ?_, ?_⟩
  · have := (hR (L - 2) (by omega)).2
    rwa [show L - 2 + 1 = L - 1 by omega] at this
  · have := (hT (L - 2) (by omega)).2
    rwa [show L - 2 + 1 = L - 1 by omega] at this

/-- `maxLevels > 0` caps the result -/
theorem levels_capped (nr nt : Nat) (maxLevels : Int) (L : Nat) (h : chooseLevels nr nt maxLevels = .ok L)
    (hm : 0 < maxLevels) : (L : Int) ≤ maxLevels := by
  obtain ⟨_, rfl⟩ := chooseLevels_ok_iff.mp h
  rw [if_pos hm]
  omega

theorem levels_reject (nr nt : Nat) (maxLevels : Int) :
    (∃ L, chooseLevels nr nt maxLevels = .ok L) ∨ (∃ m, chooseLevels nr nt maxLevels = .throw m) :=
  (chooseLevels_noUB nr nt maxLevels).cases

theorem levels_never_ub (nr nt : Nat) (maxLevels : Int) (w : String) : chooseLevels nr nt maxLevels ≠ .ub w :=
  chooseLevels_noUB nr nt maxLevels w

/-! ## 5. the parametric constructor -/

/-- uniform branch: accepted, with the exact geometry -/
theorem generate_uniform_ok (g : GenIn) (ha : g.aniso = 0) (h1 : 1 ≤ g.nrExp) (h0 : 0 < g.R0) (hR : g.R0 < g.Rmax)
    (hnt : g.ntExp ≠ 0 ∨ g.div ≠ 0) :
    ∃ radii nt, generate g = .ok (radii, nt) ∧ StrictInc radii ∧ radii.head? = some g.R0
      ∧ radii.getLast? = some g.Rmax ∧ radii.length = 2 ^ g.nrExp.toNat * 2 ^ g.div + 1 ∧ radii.length % 2 = 1
      ∧ Midpoints radii ∧ (2 ≤ g.ntExp ∨ g.ntExp < 0 → nt % 4 = 0) := by
  obtain ⟨t, ht, hlen, hinc, hhead, hlast⟩ := uniform_ok g.R0 g.Rmax g.nrExp h1 hR
  have hp := Nat.two_pow_pos (g.nrExp.toNat - 1)
  have hl2 : 2 ≤ t.length := by omega
  have hends := radiiOf_ends g t (by omega)
  have hs := radiiOf_strictInc g t hinc
  have hnt2 := two_le_ntOf g t hl2 hnt
  have hpow : 2 ^ g.nrExp.toNat = 2 * 2 ^ (g.nrExp.toNat - 1) := by rw [← Nat.pow_succ']; congr 1; omega
  have hl : (radiiOf g t).length = 2 ^ g.nrExp.toNat * 2 ^ g.div + 1 := by
    rw [radiiOf_length g t (by omega), hlen, hpow]
    congr 2
  have hg : generate g = .ok (radiiOf g t, ntOf g t) :=
    generate_ok_iff.mpr ⟨t, by unfold tempOf; rw [if_pos ha, ht], finish_eq_ok_iff.mpr
      ⟨rfl, by have := Nat.mul_pos (Nat.two_pow_pos g.nrExp.toNat) (Nat.two_pow_pos g.div); omega,
        hs.pos (hends.1.trans hhead) h0, hs, hnt2, ntOf_even hnt2⟩⟩
  obtain ⟨_, hodd, hmid, h4⟩ := generate_ok_spec hg
  exact ⟨_, _, hg, hs, hends.1.trans hhead, hends.2.trans hlast, hl, hodd, hmid, h4⟩

/-- `nt % 4 = 0` as a statement about any accepted uniform grid -/
theorem accept_uniform (g : GenIn) (ha : g.aniso = 0) (h1 : 1 ≤ g.nrExp) (hR : g.R0 < g.Rmax)
    (radii : List Rat) (nt : Nat) (h : generate g = .ok (radii, nt)) (hnt : 2 ≤ g.ntExp ∨ g.ntExp < 0) :
    nt % 4 = 0 ∧ radii.length % 2 = 1 ∧ Midpoints radii :=
  have ⟨_, hodd, hmid, h4⟩ := generate_ok_spec h
  ⟨h4 hnt, hodd, hmid⟩

/-! ## 6. the anisotropic routine stays in bounds -/

/-- window arithmetic: the number of refined entries is a power of two `≥ 2`, `log2` never sees a
non-positive number, and `0 ≤ se`, `ee = se + nRef ≤ nr` -/
theorem window_in_range (a : AnisoIn) (hA : 1 ≤ a.aniso)
    (hpow : (2 : Int) ^ a.aniso.toNat < (2 : Int) ^ a.nrExp.toNat) (hP : 0 ≤ An.P a) :
    ∃ b, 1 ≤ b ∧ An.nRefO a = .ok ((2 : Int) ^ b) ∧ 0 ≤ An.se a ((2 : Int) ^ b)
      ∧ An.se a ((2 : Int) ^ b) + (2 : Int) ^ b ≤ An.nr a :=
  An.window a (by unfold An.A; omega) hpow hP

/-- the centre index is clamped into the array -/
theorem centre_in_range (a : AnisoIn) (hP : 0 ≤ An.P a) (hnr : 1 ≤ An.nr a) :
    0 ≤ An.fl a ∧ An.fl a ≤ An.nr a - 1 := An.fl_bounds a hP hnr

/-- one refinement pass over a set of `m` equally spaced radii: the iterator never passes the end, exactly
`m - 1` new radii are inserted (no merging), and the kept set has exactly `count` entries again equally spaced -/
theorem pass_in_range (half s c : Rat) (keep : Bool) (st et m : Nat) (rset : List Rat)
    (hh : 0 < half) (hs : Lat c (2 * half) s) (hst : st ≤ et) (het : et + 1 ≤ m)
    (hlat : ∀ y ∈ rset, Lat c (2 * half) y) :
    ∃ rs', refinePass half keep (st : Int) (et : Int) (ap s (2 * half) m) (m : Int) rset
        = .ok (rs', ap (s + (st : Rat) * (2 * half)) half (2 * keptN keep st et (m - 1)),
            ((2 * keptN keep st et (m - 1) : Nat) : Int))
      ∧ rs'.length = rset.length + (m - 1) ∧ ∀ y ∈ rs', Lat c half y :=
  refinePass_spec keep hh hs hst het hlat

/-- `nr + |r_set|` is never a multiple of 8 when `aniso ≥ 1`: `std::advance` gets a count `≥ 0` -/
theorem advance_nonneg (A n b : Nat) (hA : 1 ≤ A) (hn : A < n) (len : Nat)
    (hlen : (b = 1 ∧ len = 1) ∨ (2 ≤ b ∧ len = A * (2 ^ b - 1))) :
    (((if A % 2 = 1 then (2 : Int) ^ n - (2 : Int) ^ A + 1 else (2 : Int) ^ n - (2 : Int) ^ A) + 1)
      + (len : Int)) % 8 ≠ 0 :=
  An.nr2_mod8 A n b hA hn _ rfl len hlen

/-- **inbounds**: for `R0 < R` and a non-zero anisotropy exponent the routine never performs an out-of-range
read or write, never dereferences a past-the-end iterator, never calls `std::advance` with a negative count and
never takes `log2` of a non-positive number: the outcome is a value or an exception. -/
theorem inbounds (a : AnisoIn) (hR : a.R0 < a.R) (hA : a.aniso ≠ 0) :
    (∃ t, anisoDivision a = .ok t) ∨ (∃ m, anisoDivision a = .throw m) :=
  (An.noUB a hR hA).cases

theorem inbounds_never_ub (a : AnisoIn) (hR : a.R0 < a.R) (hA : a.aniso ≠ 0) (w : String) :
    anisoDivision a ≠ .ub w :=
  An.noUB a hR hA w

open An in
/-- the hypothesis `aniso ≠ 0` of `inbounds` cannot be dropped: with exponent 0 and `nrExp ≥ 3` the set `r_set`
is empty and `nr = 2^nrExp` is a multiple of 8, so the routine executes `std::advance(r_set.begin(), -1)`.
(`generate` never calls the routine with `aniso = 0`.) -/
theorem aniso_zero_ub (a : AnisoIn) (hR : a.R0 < a.R) (hr : a.R0 ≤ a.refr ∧ a.refr ≤ a.R) (hA : a.aniso = 0)
    (hn : 3 ≤ a.nrExp) : anisoDivision a = .ub "std::advance(r_set.begin(), -1)" := by
  have hP := (P_mem_iff a hR).mpr hr
  have hA' : A a = 0 := by unfold A; omega
  obtain ⟨q, hq⟩ : ∃ q, a.nrExp.toNat = q + 3 := ⟨a.nrExp.toNat - 3, by omega⟩
  have hp8 : (2 : Int) ^ a.nrExp.toNat = 8 * (2 : Int) ^ q := by rw [hq, pow_add]; ring
  have hX : (0 : Int) < (2 : Int) ^ q := by positivity
  have hnE : nEqui a = (2 : Int) ^ a.nrExp.toNat - 1 := by unfold nEqui; rw [hA']; simp
  have hnr : nr a = (2 : Int) ^ a.nrExp.toNat := by unfold nr; rw [hnE]; ring
  have hn1 : 1 ≤ nEqui a := by omega
  have hfl := fl_bounds a hP.1 (by omega)
  have hO : nRefO a = .ok 1 := by
    unfold nRefO; rw [hA', if_neg (by norm_num; omega)]; rfl
  have hse : se a 1 = fl a := by rw [se_eq]; omega
  rw [anisoDivision_eq, if_neg (fun h => h.2 hP), if_neg (by rw [hA, hp8]; norm_num; omega), hO, ok_bind]
  unfold body
  rw [r2_eq a hn1, hse, show (1 : Int).toNat = 1 from rfl,
    readFold_nil a.R0 (ud a) (nr a).toNat _ 1 (ud_pos a hn1 hR) hfl.1 (by omega), ok_bind, hA']
  show tail2 a 1 [] = _
  unfold tail2
  rw [if_pos]
  simp only [List.length_nil, Int.natCast_zero, Int.add_zero]
  omega

/-- whatever `generate` accepts has passed `checkParameters` -/
theorem generate_ok_shape (g : GenIn) (radii : List Rat) (nt : Nat) (h : generate g = .ok (radii, nt)) :
    2 ≤ radii.length ∧ (∀ r ∈ radii, 0 < r) ∧ StrictInc radii ∧ 2 ≤ nt ∧ nt % 2 = 0 :=
  (generate_ok_spec h).1

/-- every admissible input with `aniso ≥ 1` runs to completion -/
theorem aniso_ok (a : AnisoIn) (hR : a.R0 < a.R) (hr : a.R0 ≤ a.refr ∧ a.refr ≤ a.R) (hA : 1 ≤ a.aniso)
    (hpow : (2 : Int) ^ a.aniso.toNat < (2 : Int) ^ a.nrExp.toNat) : ∃ t, anisoDivision a = .ok t :=
  An.aniso_ok a hR hr hA hpow

/-- the parametric constructor never reaches undefined behaviour (either branch) -/
theorem generate_never_ub (g : GenIn) (hR : g.R0 < g.Rmax) (h1 : g.aniso = 0 → 1 ≤ g.nrExp) (w : String) :
    generate g ≠ .ub w := by
  refine generate_noUB ?_ w
  unfold tempOf
  split
  · rw [uniformTemp_eq _ _ _ (h1 ‹_›)]; exact .ok _
  · exact An.noUB _ hR ‹_›

theorem generate_never_ub_uniform (g : GenIn) (ha : g.aniso = 0) (h1 : 1 ≤ g.nrExp) (w : String) :
    generate g ≠ .ub w := by
  refine generate_noUB ?_ w
  rw [tempOf, if_pos ha, uniformTemp_eq _ _ _ h1]
  exact .ok _

/-! ## 7. rejected inputs -/

theorem rejects_outside (a : AnisoIn) (hR : a.R0 < a.R) (h : a.refr < a.R0 ∨ a.R < a.refr) :
    anisoDivision a = .throw "refinement radius outside [R0, R]" := An.reject_outside a hR h

theorem rejects_large_aniso (a : AnisoIn)
    (h : a.aniso < 0 ∨ a.nrExp < 0 ∨ (2 : Int) ^ a.nrExp.toNat ≤ (2 : Int) ^ a.aniso.toNat) :
    ∃ m, anisoDivision a = .throw m := An.reject_large a h

/-! ## non-vacuity -/

example : ∃ t, uniformTemp (1 / 10) (13 / 10) 4 = .ok t ∧ t.length = 9 ∧ StrictInc t
    ∧ t.head? = some (1 / 10) ∧ t.getLast? = some (13 / 10) := by
  simpa using uniform_ok (1 / 10) (13 / 10) 4 (by decide) (by norm_num)

example : ∃ radii nt, generate ⟨1 / 10, 13 / 10, 4, -1, 1 / 2, 0, 1⟩ = .ok (radii, nt) ∧ radii.length = 33 := by
  obtain ⟨radii, nt, h, _, _, _, hl, _⟩ :=
    generate_uniform_ok ⟨1 / 10, 13 / 10, 4, -1, 1 / 2, 0, 1⟩ rfl (by decide) (by norm_num) (by norm_num)
      (Or.inl (by decide))
  exact ⟨radii, nt, h, by simpa using hl⟩

example : ∃ t, anisoDivision ⟨1 / 10, 13 / 10, 4, 1 / 2, 2⟩ = .ok t :=
  An.aniso_ok _ (by norm_num) (by norm_num) (by decide) (by decide)

/-- the shrunken-window path (refinement centre at the outer boundary) is exercised and in range -/
example : ∃ t, anisoDivision ⟨1 / 10, 13 / 10, 6, 13 / 10, 3⟩ = .ok t :=
  An.aniso_ok _ (by norm_num) (by norm_num) (by decide) (by decide)

example : anisoDivision ⟨1 / 10, 13 / 10, 4, 1 / 2, 0⟩ = .ub "std::advance(r_set.begin(), -1)" :=
  aniso_zero_ub _ (by norm_num) (by norm_num) rfl (by decide)

example : anisoDivision ⟨1 / 10, 13 / 10, 4, 2, 2⟩ = .throw "refinement radius outside [R0, R]" :=
  rejects_outside _ (by norm_num) (Or.inr (by norm_num))

example : ∃ m, anisoDivision ⟨1 / 10, 13 / 10, 3, 1 / 2, 3⟩ = .throw m :=
  rejects_large_aniso _ (Or.inr (Or.inr (by decide)))

/-- `chooseLevels 33 64 (-1)`: `33 → 17 → 9 → 5`, `64 → 32 → 16 → 8`: four levels -/
example : chooseLevels 33 64 (-1) = .ok 4 := rfl

example : ∃ m, chooseLevels 7 64 (-1) = .throw m := ⟨_, rfl⟩

end C18
