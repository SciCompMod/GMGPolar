import GMGProofs.Props.C10e
import GMGProofs.Props.C09c
/-!
# C10 for the implicitly extrapolated cycle over the code-level models: totality and translation invariance

`C10e` proves totality and translation invariance for the plain concrete cycle.  Here the same for the implicitly extrapolated cycle
(level-0 smoother `SmootherCode.sweep` when `fgs`, `ExSmootherCode.sweep` otherwise; extrapolated transfers; the 4/3, −1/3 combination
of the two residuals).  Translation: shifting the iterate by `w`, the level-0 right-hand side by `A₀ w` and the level-1 right-hand side
by `A₁ (inject w)` shifts the result by `w` — the error propagation of the extrapolated cycle does not depend on the solution either.
`hshape`: the injection of the shifted iterate reads an ARRAY of the size of level 0, so either level 1 has (at most) every second node
of level 0 (what `setup()` builds), or `w` is no longer than that array; otherwise `hAw1` speaks about entries of `w` the code never adds.
Property theorems and their instances on `C10d.exH3`; helper lemmas in `GMGProofs/Lemmas/ConcreteCyc.lean` (abstract operators),
`ConcreteOps.lean`, `ConcreteShift.lean`.
-/
namespace C10f
open MGCycle Concrete Stencil C10d

section AnyField
variable {K : Type} [_root_.Field K]

/-- **the extrapolated concrete cycle is total** (either level-0 smoother, any depth, V/W/F, any smoothing counts): the hypotheses of
    `C10e.concrete_cycle_total_bc`, and the level-1 right-hand side present (any size; the level-0 one any size as well).  No order on
    the field, no ellipticity, no size conditions on the grids. -/
theorem concrete_excycle_total (H : Hier K) (L : Nat) (hL : 2 ≤ L) (k : Kind) (nu1 nu2 : Nat) (fgs : Bool) (u f f1 : Array K)
    (hbc : ∀ l, l + 1 < L → (lvl H l).op.bc = true) (ht1 : H.tiny 1 = false)
    (M : SparseLU.CSR K) (hM : DirectCode.assemble H.tables (lvl H (L - 1)).op = some M)
    (ht : ∀ r, r < M.rows → H.tiny (SparseLU.den ((SparseLU.factorRows M).2.getD r []) r) = false)
    (hu : u.size = (lvl H 0).op.nr * (lvl H 0).op.nt)
    (m : Mem (Option (Array K))) (hm : m (0, Buf.sol) = some u) (hr : m (0, Buf.rhs) = some f) (hr1 : m (1, Buf.rhs) = some f1) :
    ∃ y, cycle H ⟨L, nu1, nu2⟩ k true fgs m (0, Buf.sol) = some y ∧ y.size = (lvl H 0).op.nr * (lvl H 0).op.nt := by
  rw [cycle_ex_eq H _ k fgs m hm hr hr1]
  exact excyc_inv (opsInvL H L nu1 nu2 hbc ht1 ⟨M, hM, ht⟩) (exOpsInvU H L fgs (hbc 0 (by omega)) ht1)
    (show 1 ≤ L - 1 by omega) k ⟨u, rfl, hu⟩ ⟨f, rfl, fun h => by omega⟩ ⟨f1, rfl⟩

end AnyField

section Ordered
variable {K : Type} [_root_.Field K] [LinearOrder K] [IsStrictOrderedRing K]

/-- **translation invariance of the extrapolated concrete cycle**, strongest form: only level 0 has to be an admissible smoothing
    level (uniqueness of the sweep equations), the other smoothing levels need the Dirichlet inner boundary (totality); level 1
    Dirichlet or with two radial nodes (the grid congruence of its residual) -/
theorem concrete_excycle_translate_bc (H : Hier K) (L : Nat) (hL : 2 ≤ L) (k : Kind) (nu1 nu2 : Nat) (fgs : Bool)
    (u f f1 w g g1 : Array K)
    (h0 : LevelOK (lvl H 0)) (hbc : ∀ l, l + 1 < L → (lvl H l).op.bc = true)
    (hodd : fgs = false → (lvl H 0).op.nr % 2 = 1) (ht1 : H.tiny 1 = false)
    (h01 : (lvl H 1).op.bc = true ∨ 2 ≤ (lvl H 1).op.nr)
    (hshape : (2 * (lvl H 1).op.nr ≤ (lvl H 0).op.nr + 1 ∧ 2 * (lvl H 1).op.nt ≤ (lvl H 0).op.nt) ∨
      w.size ≤ (lvl H 0).op.nr * (lvl H 0).op.nt)
    (M : SparseLU.CSR K) (hM : DirectCode.assemble H.tables (lvl H (L - 1)).op = some M)
    (ht : ∀ r, r < M.rows → H.tiny (SparseLU.den ((SparseLU.factorRows M).2.getD r []) r) = false)
    (hu : u.size = (lvl H 0).op.nr * (lvl H 0).op.nt) (hf : (lvl H 0).op.nr * (lvl H 0).op.nt ≤ f.size)
    (hf1 : (lvl H 1).op.nr * (lvl H 1).op.nt ≤ f1.size)
    (hAw : ∀ i j, i < (lvl H 0).op.nr → j < (lvl H 0).op.nt →
      take (lvl H 0).op (SmootherCode.fld (lvl H 0).op.nt g) (SmootherCode.fld (lvl H 0).op.nt w) i j = 0)
    (hAw1 : ∀ i j, i < (lvl H 1).op.nr → j < (lvl H 1).op.nt →
      take (lvl H 1).op (SmootherCode.fld (lvl H 1).op.nt g1) (Interp.inject (SmootherCode.fld (lvl H 0).op.nt w)) i j = 0)
    (m m' : Mem (Option (Array K)))
    (hm : m (0, Buf.sol) = some u) (hr : m (0, Buf.rhs) = some f) (hr1 : m (1, Buf.rhs) = some f1)
    (hm' : m' (0, Buf.sol) = some (Array.ofFn (n := u.size) fun p => u[p] + w.getD p.val 0))
    (hr' : m' (0, Buf.rhs) = some (Array.ofFn (n := f.size) fun p => f[p] + g.getD p.val 0))
    (hr1' : m' (1, Buf.rhs) = some (Array.ofFn (n := f1.size) fun p => f1[p] + g1.getD p.val 0)) :
    ∃ y, y.size = (lvl H 0).op.nr * (lvl H 0).op.nt ∧
      cycle H ⟨L, nu1, nu2⟩ k true fgs m (0, Buf.sol) = some y ∧
      cycle H ⟨L, nu1, nu2⟩ k true fgs m' (0, Buf.sol) = some (Array.ofFn (n := y.size) fun p => y[p] + w.getD p.val 0) := by
  have hinj : ∀ p q, p < (lvl H 1).op.nr → q < (lvl H 1).op.nt →
      2 * p * (lvl H 0).op.nt + 2 * q < (lvl H 0).op.nr * (lvl H 0).op.nt ∨
        w.getD (2 * p * (lvl H 0).op.nt + 2 * q) 0 = 0 := by
    intro p q hp hq
    rcases hshape with ⟨h1, h2⟩ | hw
    · exact Or.inl (idx_lt (by omega) (by omega))
    · by_cases hlt : 2 * p * (lvl H 0).op.nt + 2 * q < (lvl H 0).op.nr * (lvl H 0).op.nt
      · exact Or.inl hlt
      · refine Or.inr ?_
        rw [Array.getD_eq_getD_getElem?, Array.getElem?_eq_none (by omega)]
        rfl
  obtain ⟨y, h1, h2, h3⟩ := excyc_translate H L nu1 nu2 hL k fgs h0.hyp hodd hbc ht1 h01 ⟨M, hM, ht⟩ f g f1 g1 w hf hf1 hinj
    hAw hAw1 (some u) (some (addArr u w)) ⟨u, rfl, hu, rfl⟩
  exact ⟨y, h2, (cycle_ex_eq H _ k fgs m hm hr hr1).trans h1, (cycle_ex_eq H _ k fgs m' hm' hr' hr1').trans h3⟩

/-- **translation invariance of the extrapolated concrete cycle** (the hypotheses of `C10d.concrete_exact_fixed_extrap(_fgs)` on the
    hierarchy): if `A₀ w = g` and `A₁ (inject w) = g₁` (stated as `take … = 0`), the cycle on `(u, f, f₁)` returns some `y` of the size
    of level 0 and the cycle on `(u + w, f + g, f₁ + g₁)` returns `y + w`; either level-0 smoother (`nr` odd for the extrapolated one) -/
theorem concrete_excycle_translate (H : Hier K) (L : Nat) (hL : 2 ≤ L) (k : Kind) (nu1 nu2 : Nat) (fgs : Bool)
    (u f f1 w g g1 : Array K)
    (hlev : ∀ l, l + 1 < L → LevelOK (lvl H l)) (hodd : fgs = false → (lvl H 0).op.nr % 2 = 1) (ht1 : H.tiny 1 = false)
    (hnr1 : L = 2 → (lvl H 1).op.bc = true ∨ 2 ≤ (lvl H 1).op.nr)
    (hshape : (2 * (lvl H 1).op.nr ≤ (lvl H 0).op.nr + 1 ∧ 2 * (lvl H 1).op.nt ≤ (lvl H 0).op.nt) ∨
      w.size ≤ (lvl H 0).op.nr * (lvl H 0).op.nt)
    (M : SparseLU.CSR K) (hM : DirectCode.assemble H.tables (lvl H (L - 1)).op = some M)
    (ht : ∀ r, r < M.rows → H.tiny (SparseLU.den ((SparseLU.factorRows M).2.getD r []) r) = false)
    (hu : u.size = (lvl H 0).op.nr * (lvl H 0).op.nt) (hf : (lvl H 0).op.nr * (lvl H 0).op.nt ≤ f.size)
    (hf1 : (lvl H 1).op.nr * (lvl H 1).op.nt ≤ f1.size)
    (hAw : ∀ i j, i < (lvl H 0).op.nr → j < (lvl H 0).op.nt →
      take (lvl H 0).op (SmootherCode.fld (lvl H 0).op.nt g) (SmootherCode.fld (lvl H 0).op.nt w) i j = 0)
    (hAw1 : ∀ i j, i < (lvl H 1).op.nr → j < (lvl H 1).op.nt →
      take (lvl H 1).op (SmootherCode.fld (lvl H 1).op.nt g1) (Interp.inject (SmootherCode.fld (lvl H 0).op.nt w)) i j = 0)
    (m m' : Mem (Option (Array K)))
    (hm : m (0, Buf.sol) = some u) (hr : m (0, Buf.rhs) = some f) (hr1 : m (1, Buf.rhs) = some f1)
    (hm' : m' (0, Buf.sol) = some (Array.ofFn (n := u.size) fun p => u[p] + w.getD p.val 0))
    (hr' : m' (0, Buf.rhs) = some (Array.ofFn (n := f.size) fun p => f[p] + g.getD p.val 0))
    (hr1' : m' (1, Buf.rhs) = some (Array.ofFn (n := f1.size) fun p => f1[p] + g1.getD p.val 0)) :
    ∃ y, y.size = (lvl H 0).op.nr * (lvl H 0).op.nt ∧
      cycle H ⟨L, nu1, nu2⟩ k true fgs m (0, Buf.sol) = some y ∧
      cycle H ⟨L, nu1, nu2⟩ k true fgs m' (0, Buf.sol) = some (Array.ofFn (n := y.size) fun p => y[p] + w.getD p.val 0) := by
  exact concrete_excycle_translate_bc H L hL k nu1 nu2 fgs u f f1 w g g1 (hlev 0 (by omega)) (fun l h => (hlev l h).bc) hodd ht1
    (lvl1_bc_or_nr H (fun l h => (hlev l h).bc) hnr1 hL) hshape M hM ht hu hf hf1 hAw hAw1 m m' hm hr hr1 hm' hr' hr1'

end Ordered

/-! ## non-vacuity -/

/-- `concrete_excycle_total` on the three-level hierarchy `C10d.exH3` (13 × 16 → 7 × 8 → 4 × 4): EVERY iterate of the right size, EVERY
    pair of right-hand sides, any kind, any smoothing counts, either level-0 smoother -/
example (k : Kind) (nu1 nu2 : Nat) (fgs : Bool) (u f f1 : Array ℚ) (hu : u.size = 13 * 16) (m : Mem (Option (Array ℚ)))
    (hm : m (0, Buf.sol) = some u) (hr : m (0, Buf.rhs) = some f) (hr1 : m (1, Buf.rhs) = some f1) :
    ∃ y, cycle exH3 ⟨3, nu1, nu2⟩ k true fgs m (0, Buf.sol) = some y ∧ y.size = 13 * 16 := by
  obtain ⟨M, hM, ht⟩ := C10c.exL1_coarse
  exact concrete_excycle_total exH3 3 (by decide) k nu1 nu2 fgs u f f1 (fun l hl => (exH3_levels l hl).bc) C10c.exTiny_one M hM
    ht hu m hm hr hr1

/-- `concrete_excycle_translate` on `C10d.exH3`: shift by the non-zero field `C10d.exU` with `g := A₀ exU = C10d.exF`,
    `g₁ := A₁ (inject exU) = C10d.exF1`; every iterate of the right size, all right-hand sides covering their grids, either level-0
    smoother (`nr = 13` is odd; level 1 is 7 × 8 = every second node of 13 × 16) -/
example (k : Kind) (nu1 nu2 : Nat) (fgs : Bool) (u f f1 : Array ℚ) (hu : u.size = 13 * 16) (hf : 13 * 16 ≤ f.size)
    (hf1 : 7 * 8 ≤ f1.size) (m m' : Mem (Option (Array ℚ)))
    (hm : m (0, Buf.sol) = some u) (hr : m (0, Buf.rhs) = some f) (hr1 : m (1, Buf.rhs) = some f1)
    (hm' : m' (0, Buf.sol) = some (Array.ofFn (n := u.size) fun p => u[p] + exU.getD p.val 0))
    (hr' : m' (0, Buf.rhs) = some (Array.ofFn (n := f.size) fun p => f[p] + exF.getD p.val 0))
    (hr1' : m' (1, Buf.rhs) = some (Array.ofFn (n := f1.size) fun p => f1[p] + exF1.getD p.val 0)) :
    ∃ y, y.size = 13 * 16 ∧ cycle exH3 ⟨3, nu1, nu2⟩ k true fgs m (0, Buf.sol) = some y ∧
      cycle exH3 ⟨3, nu1, nu2⟩ k true fgs m' (0, Buf.sol) =
        some (Array.ofFn (n := y.size) fun p => y[p] + exU.getD p.val 0) ∧ exU[10]? = some (-29 : ℚ) := by
  obtain ⟨M, hM, ht⟩ := C10c.exL1_coarse
  obtain ⟨y, h1, h2, h3⟩ := concrete_excycle_translate exH3 3 (by decide) k nu1 nu2 fgs u f f1 exU exF exF1 exH3_levels
    (fun _ => by decide) C10c.exTiny_one (fun h => absurd h (by decide)) (Or.inl ⟨by decide, by decide⟩) M hM ht hu hf hf1
    exU_sol exU_sol1 m m' hm hr hr1 hm' hr' hr1'
  exact ⟨y, h1, h2, h3, by decide +kernel⟩

end C10f
