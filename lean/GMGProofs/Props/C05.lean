import GMGProofs.Lemmas.StencilLemmas6
import GMGProofs.Props.C03
import Mathlib.Algebra.Order.Field.Rat
import Mathlib.Tactic.NormNum
/-!
# C05 — symmetry and energy of the discrete operator

Property theorems and the example operators `exOpD`, `exOpA` with their fields `exX`, `exXA`.  With `A o x := -(take o 0 x)` (so `take o f x = f - A x`), `V0 o` the fields
vanishing on the Dirichlet nodes, `inner o` the grid inner product, `Bn o x y i j` the pairing of the
updates of node `(i, j)` with `y` at their targets, `Bform` its closed form on `V0`, and `Elliptic o` the
positivity data (`h, k, arr, att > 0`, `art² ≤ 4·arr·att`, `beta, det ≥ 0` on the grid) — all defined in
`GMGProofs/Lemmas/StencilLemmas{4,5,6}.lean`.
-/
namespace C05
open Stencil Finset

section AnyField
variable {K : Type} [_root_.Field K]

/-- `A` is the operator of the gather form: `take o f x = f - A x` at every node -/
theorem take_eq_rhs_sub_A (o : Op K) (f x : Stencil.Field K) (i j : Nat) :
    take o f x i j = f i j - A o x i j := take_eq_sub_A o f x i j

/-- the scatter form is the energy decomposition: `⟨A x, y⟩ = Σ_s Bn_s(x, y)` for ALL fields `x, y` -/
theorem inner_eq_sum_nodal (o : Op K) (hnr : 4 ≤ o.nr) (hnt : 2 ≤ o.nt) (heven : o.nt % 2 = 0)
    (hk : o.bc = false → ∀ j, j < o.nt → o.k (ja o j) = o.k j) (x y : Stencil.Field K) :
    inner o (A o x) y = ∑ i ∈ range o.nr, ∑ j ∈ range o.nt, Bn o x y i j :=
  inner_A_eq_sum_Bn o hnr hnt heven hk x y

/-- on `V0` every nodal bilinear form has the closed form `Bform` … -/
theorem nodal_closed_form (o : Op K) (hnr : 4 ≤ o.nr) (x y : Stencil.Field K) (hx : V0 o x) (hy : V0 o y)
    (i j : Nat) (hi : i < o.nr) : Bn o x y i j = Bform o x y i j :=
  Bn_eq_Bform o x y hnr hx hy i j hi

/-- … which is symmetric (both boundary modes, no hypothesis at all) -/
theorem nodal_symm (o : Op K) (x y : Stencil.Field K) (i j : Nat) :
    Bform o x y i j = Bform o y x i j := Bform_symm o x y i j

/-- **symmetry** of the operator on `V0`, both inner-boundary modes -/
theorem symm (o : Op K) (hnr : 4 ≤ o.nr) (hnt : 2 ≤ o.nt) (heven : o.nt % 2 = 0)
    (hk : o.bc = false → ∀ j, j < o.nt → o.k (ja o j) = o.k j)
    (x y : Stencil.Field K) (hx : V0 o x) (hy : V0 o y) :
    inner o (A o x) y = inner o x (A o y) :=
  A_symm o hnr hnt heven hk x y hx hy

/-- **energy split**: `⟨A x, x⟩ = Σ_s q_s(x)` with the nodal energies `q_s(x) = Bform_s(x, x)` -/
theorem energy_split (o : Op K) (hnr : 4 ≤ o.nr) (hnt : 2 ≤ o.nt) (heven : o.nt % 2 = 0)
    (hk : o.bc = false → ∀ j, j < o.nt → o.k (ja o j) = o.k j)
    (x : Stencil.Field K) (hx : V0 o x) :
    inner o (A o x) x = ∑ i ∈ range o.nr, ∑ j ∈ range o.nt, Bform o x x i j :=
  inner_A_eq_sum_Bform o hnr hnt heven hk x x hx hx

end AnyField

section Ordered
variable {K : Type} [_root_.Field K] [LinearOrder K] [IsStrictOrderedRing K]

/-- DESIGN.md Appendix E4: a binary quadratic form with non-positive discriminant and positive leading coefficient -/
theorem form_nonneg (a b c X Y : K) (ha : 0 < a) (hd : b^2 ≤ 4*a*c) :
    0 ≤ a*X^2 + b*X*Y + c*Y^2 := Stencil.form_nonneg a b c X Y ha hd

/-- DESIGN.md Appendix E4: four-quadrant identity of the nodal energy on a non-uniform grid -/
theorem node_energy_split (arr att art h1 h2 k1 k2 dl dr db dt : K)
    (p1 : 0 < h1) (p2 : 0 < h2) (q1 : 0 < k1) (q2 : 0 < k2) :
    arr*(((k1+k2)/2)/h1*dl^2 + ((k1+k2)/2)/h2*dr^2) + att*(((h1+h2)/2)/k1*db^2 + ((h1+h2)/2)/k2*dt^2)
      + (1/2)*art*(dr - dl)*(dt - db)
    = (1/2) * ( (arr*(k2*dr)^2 + art*(k2*dr)*(h2*dt) + att*(h2*dt)^2)/(h2*k2)
              + (arr*(k1*dr)^2 + art*(k1*dr)*(-(h2*db)) + att*(h2*db)^2)/(h2*k1)
              + (arr*(k2*dl)^2 + art*(-(k2*dl))*(h1*dt) + att*(h1*dt)^2)/(h1*k2)
              + (arr*(k1*dl)^2 + art*(k1*dl)*(h1*db) + att*(h1*db)^2)/(h1*k1) ) :=
  Stencil.node_energy_split arr att art h1 h2 k1 k2 dl dr db dt p1 p2 q1 q2

/-- the nodal energy of a 9-point node IS the mass term plus the E4 energy in the four differences (a rearrangement: the
    positivity hypotheses play no part) -/
theorem nodal_energy_eq (o : Op K) (x : Stencil.Field K) (i j : Nat) (h1 xL : K) (p1 : 0 < h1)
    (p2 : 0 < o.h i) (q1 : 0 < o.k (jm o j)) (q2 : 0 < o.k j) :
    Bfull o x x i j h1 xL xL =
      (1/4) * (h1 + o.h i) * (o.k (jm o j) + o.k j) * o.beta i * o.det i j * (x i j * x i j)
      + (o.arr i j * (((o.k (jm o j) + o.k j)/2)/h1*(xL - x i j)^2
            + ((o.k (jm o j) + o.k j)/2)/o.h i*(x (i+1) j - x i j)^2)
        + o.att i j * (((h1 + o.h i)/2)/o.k (jm o j)*(x i (jm o j) - x i j)^2
            + ((h1 + o.h i)/2)/o.k j*(x i (jp o j) - x i j)^2)
        + (1/2)*o.art i j*((x (i+1) j - x i j) - (xL - x i j))*((x i (jp o j) - x i j) - (x i (jm o j) - x i j))) := by
  unfold Bfull
  rw [half_eq, quarter_eq]
  ring

/-- every nodal energy is non-negative (Dirichlet inner boundary) -/
theorem nodal_energy_nonneg (o : Op K) (x : Stencil.Field K) (hnr : 4 ≤ o.nr) (hnt : 0 < o.nt)
    (hbc : o.bc = true) (he : Elliptic o) (i j : Nat) (hi : i < o.nr) (hj : j < o.nt) :
    0 ≤ Bform o x x i j := Bform_nonneg o x hnr hnt hbc he i j hi hj

/-- **positive semi-definiteness**, Dirichlet inner boundary -/
theorem psd_dirichlet (o : Op K) (hnr : 4 ≤ o.nr) (hnt : 2 ≤ o.nt) (heven : o.nt % 2 = 0)
    (hbc : o.bc = true) (he : Elliptic o) (x : Stencil.Field K) (hx : V0 o x) :
    0 ≤ inner o (A o x) x := A_psd_dirichlet o x hnr hnt heven hbc he hx

/-- **positive definiteness**, Dirichlet inner boundary (non-strict ellipticity `art² ≤ 4·arr·att`
    suffices: the energy vanishes row by row from the outer boundary inwards) -/
theorem pd_dirichlet (o : Op K) (hnr : 4 ≤ o.nr) (hnt : 2 ≤ o.nt) (heven : o.nt % 2 = 0)
    (hbc : o.bc = true) (he : Elliptic o) (x : Stencil.Field K) (hx : V0 o x)
    (hne : ∃ i j, i < o.nr ∧ j < o.nt ∧ x i j ≠ 0) :
    0 < inner o (A o x) x := A_pd_dirichlet o x hnr hnt heven hbc he hx hne

end Ordered

/-! ## non-vacuity -/

/-- a Dirichlet-mode operator with non-uniform spacings and a genuinely mixed coefficient -/
def exOpD : Op ℚ :=
  { nr := 4, nt := 4, bc := true, r0 := 1 / 10, h := fun i => 1 + i, k := fun j => 1 + j,
    arr := fun i j => 1 + i + j, att := fun i j => 2 + i * j, art := fun _ _ => 1,
    det := fun i _ => 1 + i, beta := fun i => i }

/-- a non-zero element of `V0` -/
def exX : Stencil.Field ℚ := fun i j => if i = 1 ∧ j = 2 then 1 else if i = 2 then 3 else 0

theorem exOpD_elliptic : Elliptic exOpD where
  h_pos := fun i _ => by simp only [exOpD]; positivity
  k_pos := fun j _ => by simp only [exOpD]; positivity
  arr_pos := fun i j _ _ => by simp only [exOpD]; positivity
  att_pos := fun i j _ _ => by simp only [exOpD]; positivity
  art_le := fun i j _ _ => by
    simp only [exOpD]
    have hi : (0 : ℚ) ≤ i := Nat.cast_nonneg i
    have hj : (0 : ℚ) ≤ j := Nat.cast_nonneg j
    nlinarith [mul_nonneg hi hj, mul_nonneg (mul_nonneg hi hj) hi, mul_nonneg (mul_nonneg hi hj) hj]
  beta_nonneg := fun i _ => by simp only [exOpD]; positivity
  det_nonneg := fun i j _ _ => by simp only [exOpD]; positivity

example : Elliptic exOpD := exOpD_elliptic

example : 4 ≤ exOpD.nr ∧ 2 ≤ exOpD.nt ∧ exOpD.nt % 2 = 0 ∧ exOpD.bc = true ∧ V0 exOpD exX ∧
    (∃ i j, i < exOpD.nr ∧ j < exOpD.nt ∧ exX i j ≠ 0) := by
  refine ⟨by decide, by decide, by decide, rfl, ⟨fun j => ?_, fun _ j => ?_⟩, 1, 2, by decide, by decide, ?_⟩
  · simp [exX, exOpD]
  · simp [exX]
  · simp [exX]

/-- the energy of `exX` evaluated exactly: strictly positive, as `pd_dirichlet` predicts -/
example : 0 < inner exOpD (A exOpD exX) exX := by decide +kernel

/-- `symm` is not vacuous across the origin either: `C03.exOp` (`bc = false`, antipodally symmetric `k`)
    and two fields of `V0` that do not vanish at the origin row -/
example : V0 C03.exOp (fun i j => if i = 3 then 0 else 1 + (i : ℚ) + j) ∧
    inner C03.exOp (A C03.exOp (fun i j => if i = 3 then 0 else 1 + (i : ℚ) + j))
        (fun i j => if i = 3 then 0 else (j : ℚ) * j)
      = inner C03.exOp (fun i j => if i = 3 then 0 else 1 + (i : ℚ) + j)
        (A C03.exOp (fun i j => if i = 3 then 0 else (j : ℚ) * j)) := by
  refine ⟨⟨fun j => by simp [C03.exOp], fun h => by simp [C03.exOp] at h⟩, ?_⟩
  decide +kernel

/-! ## a limit of the result: across the origin the operator is symmetric but NOT positive semi-definite
under the pointwise hypotheses `Elliptic` alone (the mixed terms towards the antipode are dropped in
`takeOrigin` / `fillLAcross`, so the origin nodes' energies are not sums of quadrant forms) -/

/-- `bc = false`, uniform `k` (hence antipodally symmetric), `arr = att = 1`, strictly elliptic
    `art² ≤ 1 < 4`, but `art` varies along the innermost circle; one long radial step before the outer
    boundary makes the decay to the Dirichlet value cheap -/
def exOpA : Op ℚ :=
  { nr := 4, nt := 4, bc := false, r0 := 1 / 2, h := fun i => if i = 2 then 1000 else 1, k := fun _ => 1,
    arr := fun _ _ => 1, att := fun _ _ => 1, art := fun i j => if i = 0 ∧ j = 0 then 1 else 0,
    det := fun _ _ => 1, beta := fun _ => 0 }

def exXA : Stencil.Field ℚ := fun i j =>
  if i ≤ 1 then (if j = 1 then 49 / 50 else if j = 3 then 51 / 50 else 1) else if i = 2 then 1 else 0

theorem exOpA_elliptic : Elliptic exOpA where
  h_pos := fun i _ => by simp only [exOpA]; split <;> norm_num
  k_pos := fun j _ => by simp only [exOpA]; norm_num
  arr_pos := fun i j _ _ => by simp only [exOpA]; norm_num
  att_pos := fun i j _ _ => by simp only [exOpA]; norm_num
  art_le := fun i j _ _ => by simp only [exOpA]; split <;> norm_num
  beta_nonneg := fun i _ => by simp only [exOpA]; norm_num
  det_nonneg := fun i j _ _ => by simp only [exOpA]; norm_num

/-- every hypothesis of `symm` and of `psd_dirichlet` except `bc = true` holds, and the energy is `-1/1250` -/
theorem psd_across_fails :
    4 ≤ exOpA.nr ∧ 2 ≤ exOpA.nt ∧ exOpA.nt % 2 = 0 ∧ exOpA.bc = false ∧
    (∀ j, j < exOpA.nt → exOpA.k (ja exOpA j) = exOpA.k j) ∧ Elliptic exOpA ∧ V0 exOpA exXA ∧
    inner exOpA (A exOpA exXA) exXA = -1 / 1250 := by
  refine ⟨by decide, by decide, by decide, rfl, fun _ _ => rfl, exOpA_elliptic,
    ⟨fun j => by simp [exOpA, exXA], fun h => by simp [exOpA] at h⟩, by decide +kernel⟩

end C05
