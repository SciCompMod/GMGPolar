import GMGModel.DirectCode
import Generated.Stencils
import GMGProofs.Props.C04
import GMGProofs.Lemmas.DirectCode3
/-!
# C04 (code level) — the CSR matrix `DirectSolverTakeCustomLU::buildSolverMatrix` assembles IS the operator

Model: `GMGModel/DirectCode.lean` (per-node stores in code order through the offset tables, zero-initialised rows of the
allocated size), instantiated with the tables `tools/stencil_extract.py` regenerates from
`include/DirectSolver/DirectSolverTakeCustomLU/directSolverTakeCustomLU.h` (`Generated/Stencils.lean`).
This discharges the hypothesis `hM` of `C04.solve_inverts` / `pivots_dirichlet` for the code-level matrix.
Holds the extracted tables `genTables` and the property theorems; helper lemmas in `GMGProofs/Lemmas/DirectCode*.lean`.
-/
namespace C04c
open Stencil Direct SparseLU DirectCode

/-- the offset tables of the header, as regenerated on every check -/
def genTables : Tables :=
  ⟨Stencils.Gen.DirectTake_stencil_interior, Stencils.Gen.DirectTake_stencil_across_origin, Stencils.Gen.DirectTake_stencil_DB,
   Stencils.Gen.DirectTake_stencil_next_inner_DB, Stencils.Gen.DirectTake_stencil_next_outer_DB⟩

/-- the regenerated tables have the values the lemmas of `GMGProofs/Lemmas/DirectCode2.lean` are stated for
    (a change of the header breaks this `rfl`) -/
theorem genTables_good : GoodTables genTables := ⟨rfl, rfl, rfl, rfl, rfl⟩

section AnyField
variable {K : Type} [_root_.Field K]

/-- with the header's tables no store of the assembly leaves its row (no `-1` offset is used, none exceeds the allocated
    row size), for every grid with at least four radial nodes -/
theorem assemble_in_bounds (o : Op K) (hnr : 4 ≤ o.nr) : ∃ M, assemble genTables o = some M :=
  ⟨_, assemble_eq genTables o genTables_good hnr⟩

/-- a table with a missing position DOES produce an out-of-bounds store (the model can see the defect class) -/
theorem assemble_out_of_bounds_detected :
    assemble (α := ℚ) { genTables with interior := [7, 4, 8, 1, 0, 2, 5, 3, -1] }
      ⟨5, 4, true, 1, fun _ => 1, fun _ => 1, fun _ _ => 1, fun _ _ => 1, fun _ _ => 0, fun _ _ => 1, fun _ => 0⟩ = none := by
  rw [assemble, Option.map_eq_none_iff]
  decide +kernel

theorem assemble_rows (o : Op K) (M : CSR K) (h : assemble genTables o = some M) : M.rows = o.nr * o.nt := by
  unfold assemble at h
  obtain ⟨rs, _, rfl⟩ := Option.map_eq_some_iff.mp h
  rfl

/-- **the assembled matrix carries exactly the operator's entries** (row-major numbering) -/
theorem assemble_entries (o : Op K) (hnr : 4 ≤ o.nr) (hnt : 4 ≤ o.nt) (heven : o.nt % 2 = 0)
    (M : CSR K) (h : assemble genTables o = some M) :
    ∀ i j s t, i < o.nr → j < o.nt → s < o.nr → t < o.nt →
      toDense M (i * o.nt + j) (s * o.nt + t) = opEntry o i j s t := by
  intro i j s t hi hj _ ht
  rw [assemble_eq genTables o genTables_good hnr] at h
  obtain rfl := Option.some.inj h
  have hlen : i * o.nt + j < (rowList o).length := by rw [rowList_length]; exact idx_lt hi hj
  have hrow := rowList_getD o hi hj
  rw [toDense_csrRows _ _ _ _ hlen
    (by rw [hrow]
        exact uniq_nodeRow o _ (writes_nodes o hnt heven hi hj).1 (writes_nodes o hnt heven hi hj).2),
    hrow]
  exact row_entries o hnt heven hi hj ht

/-- code-level form of `C04.solve_inverts`: what the modelled `DirectSolverTakeCustomLU` returns has zero residual -/
theorem code_solve_inverts (o : Op K) (hnr : 4 ≤ o.nr) (hnt : 4 ≤ o.nt) (heven : o.nt % 2 = 0) (tiny : K → Bool)
    (M : CSR K) (hM : assemble genTables o = some M)
    (hp : ∀ r, r < M.rows → den ((factorRows M).2.getD r []) r ≠ 0)
    (b xv : List K) (hb : b.length = o.nr * o.nt)
    (hs : DirectCode.solve genTables o tiny b = some (some xv)) :
    ∀ i j, i < o.nr → j < o.nt →
      take o (fun i j => vget b (i * o.nt + j)) (fun i j => vget xv (i * o.nt + j)) i j = 0 := by
  have hrows := assemble_rows o M hM
  unfold DirectCode.solve at hs
  rw [hM] at hs
  have hs' : SparseLU.solve tiny (factorRows M) b = some xv := Option.some.inj hs
  exact C04.solve_inverts o (by omega) (by omega) tiny M hrows (assemble_entries o hnr hnt heven M hM) hp b xv
    (by rw [hrows]; exact hb) hs'

end AnyField

section Ordered
variable {K : Type} [_root_.Field K] [LinearOrder K] [IsStrictOrderedRing K]

/-- Dirichlet inner boundary, elliptic data: no pivot hypothesis — the code-level solve either takes the `tiny` exit or
    returns the solution of the discrete system -/
theorem code_solve_inverts_dirichlet (o : Op K) (hnr : 4 ≤ o.nr) (hnt : 4 ≤ o.nt) (heven : o.nt % 2 = 0)
    (hbc : o.bc = true) (he : Elliptic o) (tiny : K → Bool) (b xv : List K) (hb : b.length = o.nr * o.nt)
    (hs : DirectCode.solve genTables o tiny b = some (some xv)) :
    ∀ i j, i < o.nr → j < o.nt →
      take o (fun i j => vget b (i * o.nt + j)) (fun i j => vget xv (i * o.nt + j)) i j = 0 := by
  obtain ⟨M, hM⟩ := assemble_in_bounds o hnr
  have hrows := assemble_rows o M hM
  unfold DirectCode.solve at hs
  rw [hM] at hs
  have hs' : SparseLU.solve tiny (factorRows M) b = some xv := Option.some.inj hs
  exact C04.solve_inverts_dirichlet o hnr (by omega) heven hbc he tiny M hrows
    (assemble_entries o hnr hnt heven M hM) b xv (by rw [hrows]; exact hb) hs'

end Ordered
end C04c
