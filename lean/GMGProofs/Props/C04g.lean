import GMGModel.DirectGiveCode
import Generated.Stencils
import GMGProofs.Props.C04c
import GMGProofs.Lemmas.DirectGiveRows
/-!
# C04 (code level, give) — the CSR matrix `DirectSolverGiveCustomLU::buildSolverMatrix` assembles IS the operator

Model: `GMGModel/DirectGiveCode.lean` (every node scatters accumulating stores `row_nz_entry(row, offset) += val` into its own
row and the rows of its neighbours, the offset looked up in the stencil table of the ROW's radial index; zero-initialised rows
of the allocated sizes; sequential order circle sections then radial sections, `nc = numberSmootherCircles()`), instantiated
with the tables `tools/stencil_extract.py` regenerates from
`include/DirectSolver/DirectSolverGiveCustomLU/directSolverGiveCustomLU.h` (`Generated/Stencils.lean`, `DirectGive_*`).

The statements hold for EVERY `nc`; over a field the assembled rows are the same for every order of the stores
(`DirectGiveCode.run_perm`), in particular for the 3-coloured parallel order.  Holds the extracted tables `genTablesGive` and the
property theorems; helper lemmas in `GMGProofs/Lemmas/DirectGive{Stores,Node,Rows}.lean`.
-/
namespace C04g
open Stencil Direct SparseLU DirectCode

/-- the offset tables of the give header, as regenerated on every check -/
def genTablesGive : Tables :=
  ⟨Stencils.Gen.DirectGive_stencil_interior, Stencils.Gen.DirectGive_stencil_across_origin, Stencils.Gen.DirectGive_stencil_DB,
   Stencils.Gen.DirectGive_stencil_next_inner_DB, Stencils.Gen.DirectGive_stencil_next_outer_DB⟩

/-- the regenerated tables have the values the lemmas are stated for (a change of the header breaks this `rfl`) -/
theorem genTablesGive_good : GoodTables genTablesGive := ⟨rfl, rfl, rfl, rfl, rfl⟩

section AnyField
variable {K : Type} [_root_.Field K]

/-- with the header's tables no store of the scatter assembly leaves its row — neither a row that does not exist, nor a
    `-1` offset, nor an offset beyond the allocated row size — for every grid with at least four radial nodes
    (any `nt`, any inner boundary condition, any `nc`) -/
theorem assemble_in_bounds (o : Op K) (hnr : 4 ≤ o.nr) (nc : Nat) :
    ∃ M, DirectGiveCode.assemble genTablesGive o nc = some M := by
  obtain ⟨rsf, h, _⟩ := DirectGiveCode.run_init genTablesGive o genTablesGive_good hnr _ fun u hu =>
    (DirectGiveCode.allUpdates_ok o hnr nc u hu).1
  unfold DirectGiveCode.assemble
  rw [DirectGiveCode.rows_eq_run genTablesGive o nc _ (DirectGiveCode.initRows_eq o hnr), h]
  exact ⟨_, rfl⟩

/-- `4 ≤ nr` is sharp: with three radial nodes the node next to the inner boundary gives to the outer Dirichlet row, whose
    table has no `Left` offset (`getStencil` asserts `nr >= 4`; in a release build the store goes through offset `-1`) -/
theorem assemble_out_of_bounds_nr3 :
    DirectGiveCode.assemble (α := ℚ) genTablesGive
      ⟨3, 4, true, 1, fun _ => 1, fun _ => 1, fun _ _ => 1, fun _ _ => 1, fun _ _ => 0, fun _ _ => 1, fun _ => 0⟩ 1 = none := by
  rw [DirectGiveCode.assemble, Option.map_eq_none_iff]
  decide +kernel

/-- a table with a missing position DOES produce an out-of-bounds store (the model can see the defect class) -/
theorem assemble_out_of_bounds_detected :
    DirectGiveCode.assemble (α := ℚ) { genTablesGive with interior := [7, 4, 8, 1, 0, 2, 5, 3, -1] }
      ⟨5, 4, true, 1, fun _ => 1, fun _ => 1, fun _ _ => 1, fun _ _ => 1, fun _ _ => 0, fun _ _ => 1, fun _ => 0⟩ 2 = none := by
  rw [DirectGiveCode.assemble, Option.map_eq_none_iff]
  decide +kernel

theorem assemble_rows (o : Op K) (nc : Nat) (M : CSR K) (h : DirectGiveCode.assemble genTablesGive o nc = some M) :
    M.rows = o.nr * o.nt := by
  unfold DirectGiveCode.assemble at h
  obtain ⟨rs, _, rfl⟩ := Option.map_eq_some_iff.mp h
  rfl

/-- **the matrix assembled by the scatter code carries exactly the operator's entries** (row-major numbering).
    Across the origin (`DirBC_Interior = false`) the angular spacing must be antipodally symmetric, as in `C03.give_eq_take`
    (`hk_needed` below: without it the assembled matrix is NOT the operator's) -/
theorem give_assemble_entries (o : Op K) (hnr : 4 ≤ o.nr) (hnt : 4 ≤ o.nt) (heven : o.nt % 2 = 0)
    (hk : o.bc = false → ∀ j, j < o.nt → o.k (ja o j) = o.k j) (nc : Nat)
    (M : CSR K) (h : DirectGiveCode.assemble genTablesGive o nc = some M) :
    ∀ i j s t, i < o.nr → j < o.nt → s < o.nr → t < o.nt →
      toDense M (i * o.nt + j) (s * o.nt + t) = opEntry o i j s t := by
  intro i j s t hi hj _ ht
  exact DirectGiveCode.give_entries genTablesGive o genTablesGive_good hnr hnt heven hk nc M h hi hj ht

/-- Dirichlet inner boundary: no condition on the angular spacing -/
theorem give_assemble_entries_dirichlet (o : Op K) (hnr : 4 ≤ o.nr) (hnt : 4 ≤ o.nt) (heven : o.nt % 2 = 0)
    (hbc : o.bc = true) (nc : Nat) (M : CSR K) (h : DirectGiveCode.assemble genTablesGive o nc = some M) :
    ∀ i j s t, i < o.nr → j < o.nt → s < o.nr → t < o.nt →
      toDense M (i * o.nt + j) (s * o.nt + t) = opEntry o i j s t :=
  give_assemble_entries o hnr hnt heven (fun h' => by rw [hbc] at h'; cases h') nc M h

/-- the result does not depend on the sequential order parameter `nc` (for any other order of the `+=` see
    `DirectGiveCode.run_perm`) -/
theorem assemble_order_independent (o : Op K) (hnr : 4 ≤ o.nr) (hnt : 4 ≤ o.nt) (heven : o.nt % 2 = 0)
    (hk : o.bc = false → ∀ j, j < o.nt → o.k (ja o j) = o.k j) (nc nc' : Nat) (M M' : CSR K)
    (h : DirectGiveCode.assemble genTablesGive o nc = some M) (h' : DirectGiveCode.assemble genTablesGive o nc' = some M') :
    ∀ i j s t, i < o.nr → j < o.nt → s < o.nr → t < o.nt →
      toDense M (i * o.nt + j) (s * o.nt + t) = toDense M' (i * o.nt + j) (s * o.nt + t) := by
  intro i j s t hi hj hs ht
  rw [give_assemble_entries o hnr hnt heven hk nc M h i j s t hi hj hs ht,
    give_assemble_entries o hnr hnt heven hk nc' M' h' i j s t hi hj hs ht]

/-- **give and take assemble the same matrix**, entry by entry -/
theorem give_take_same_matrix (o : Op K) (hnr : 4 ≤ o.nr) (hnt : 4 ≤ o.nt) (heven : o.nt % 2 = 0)
    (hk : o.bc = false → ∀ j, j < o.nt → o.k (ja o j) = o.k j) (nc : Nat) (Mg Mt : CSR K)
    (hg : DirectGiveCode.assemble genTablesGive o nc = some Mg) (ht : DirectCode.assemble C04c.genTables o = some Mt) :
    ∀ i j s t, i < o.nr → j < o.nt → s < o.nr → t < o.nt →
      toDense Mg (i * o.nt + j) (s * o.nt + t) = toDense Mt (i * o.nt + j) (s * o.nt + t) := by
  intro i j s t hi hj hs ht'
  rw [give_assemble_entries o hnr hnt heven hk nc Mg hg i j s t hi hj hs ht',
    C04c.assemble_entries o hnr hnt heven Mt ht i j s t hi hj hs ht']

/-- … and the same sparsity pattern in the same storage order: slot by slot both strategies store the same column index
    (no hypothesis on the spacings: this is about `row_nz_index` only) -/
theorem give_take_same_pattern (o : Op K) (hnr : 4 ≤ o.nr) (heven : o.bc = false → o.nt % 2 = 0) (nc : Nat)
    (rg rt : List (List (Nat × K))) (hg : DirectGiveCode.rows genTablesGive o nc = some rg)
    (ht : DirectCode.rows C04c.genTables o = some rt) :
    ∀ i j, i < o.nr → j < o.nt →
      (rg.getD (i * o.nt + j) []).map (·.1) = (rt.getD (i * o.nt + j) []).map (·.1) := by
  intro i j hi hj
  rw [DirectGiveCode.rows_closed genTablesGive o genTablesGive_good hnr heven nc] at hg
  rw [DirectCode.rows_eq C04c.genTables o C04c.genTables_good hnr] at ht
  obtain rfl := Option.some.inj hg
  obtain rfl := Option.some.inj ht
  rw [DirectGiveCode.finalRows_getD genTablesGive o nc hi hj, DirectCode.rowList_getD o hi hj, List.map_map]
  have := DirectGiveCode.slotCols_eq o hi j
  unfold nodeRow
  rw [List.map_map]
  unfold nodes at this
  rw [List.map_map] at this
  exact this

/-- code-level form of `C04.solve_inverts` for the give solver: what the modelled `DirectSolverGiveCustomLU` returns has
    zero residual -/
theorem code_solve_inverts (o : Op K) (hnr : 4 ≤ o.nr) (hnt : 4 ≤ o.nt) (heven : o.nt % 2 = 0)
    (hk : o.bc = false → ∀ j, j < o.nt → o.k (ja o j) = o.k j) (nc : Nat) (tiny : K → Bool)
    (M : CSR K) (hM : DirectGiveCode.assemble genTablesGive o nc = some M)
    (hp : ∀ r, r < M.rows → den ((factorRows M).2.getD r []) r ≠ 0)
    (b xv : List K) (hb : b.length = o.nr * o.nt)
    (hs : DirectGiveCode.solve genTablesGive o nc tiny b = some (some xv)) :
    ∀ i j, i < o.nr → j < o.nt →
      take o (fun i j => vget b (i * o.nt + j)) (fun i j => vget xv (i * o.nt + j)) i j = 0 := by
  have hrows := assemble_rows o nc M hM
  unfold DirectGiveCode.solve at hs
  rw [hM] at hs
  have hs' : SparseLU.solve tiny (factorRows M) b = some xv := Option.some.inj hs
  exact C04.solve_inverts o (by omega) (by omega) tiny M hrows (give_assemble_entries o hnr hnt heven hk nc M hM) hp b xv
    (by rw [hrows]; exact hb) hs'

end AnyField

section Ordered
variable {K : Type} [_root_.Field K] [LinearOrder K] [IsStrictOrderedRing K]

/-- Dirichlet inner boundary, elliptic data: no pivot hypothesis, no condition on the angular spacing — the code-level give
    solve either takes the `tiny` exit or returns the solution of the discrete system -/
theorem code_solve_inverts_dirichlet (o : Op K) (hnr : 4 ≤ o.nr) (hnt : 4 ≤ o.nt) (heven : o.nt % 2 = 0)
    (hbc : o.bc = true) (he : Elliptic o) (nc : Nat) (tiny : K → Bool) (b xv : List K) (hb : b.length = o.nr * o.nt)
    (hs : DirectGiveCode.solve genTablesGive o nc tiny b = some (some xv)) :
    ∀ i j, i < o.nr → j < o.nt →
      take o (fun i j => vget b (i * o.nt + j)) (fun i j => vget xv (i * o.nt + j)) i j = 0 := by
  obtain ⟨M, hM⟩ := assemble_in_bounds o hnr nc
  have hrows := assemble_rows o nc M hM
  unfold DirectGiveCode.solve at hs
  rw [hM] at hs
  have hs' : SparseLU.solve tiny (factorRows M) b = some xv := Option.some.inj hs
  exact C04.solve_inverts_dirichlet o hnr (by omega) heven hbc he tiny M hrows
    (give_assemble_entries_dirichlet o hnr hnt heven hbc nc M hM) b xv (by rw [hrows]; exact hb) hs'

/-- both code-level solvers return the same field (Dirichlet inner boundary, elliptic data) -/
theorem give_take_same_solution (o : Op K) (hnr : 4 ≤ o.nr) (hnt : 4 ≤ o.nt) (heven : o.nt % 2 = 0)
    (hbc : o.bc = true) (he : Elliptic o) (nc : Nat) (tiny : K → Bool) (b xg xt : List K) (hb : b.length = o.nr * o.nt)
    (hg : DirectGiveCode.solve genTablesGive o nc tiny b = some (some xg))
    (ht : DirectCode.solve C04c.genTables o tiny b = some (some xt)) :
    ∀ i j, i < o.nr → j < o.nt → vget xg (i * o.nt + j) = vget xt (i * o.nt + j) :=
  C04.solution_unique o hnr (by omega) heven hbc he (fun i j => vget b (i * o.nt + j))
    (fun i j => vget xg (i * o.nt + j)) (fun i j => vget xt (i * o.nt + j))
    (code_solve_inverts_dirichlet o hnr hnt heven hbc he nc tiny b xg hb hg)
    (C04c.code_solve_inverts_dirichlet o hnr hnt heven hbc he tiny b xt hb ht)

end Ordered

/-! ## sharpness and non-vacuity -/

/-- the antipodal symmetry of the angular spacing is needed across the origin: on `C03.badOp` (all other hypotheses of
    `give_assemble_entries` hold) the scatter assembly succeeds but its entry `(0,0),(0,0)` is not the operator's -/
theorem hk_needed :
    4 ≤ C03.badOp.nr ∧ 4 ≤ C03.badOp.nt ∧ C03.badOp.nt % 2 = 0 ∧ C03.badOp.bc = false ∧
    ∃ M, DirectGiveCode.assemble genTablesGive C03.badOp 2 = some M ∧
      toDense M (0 * C03.badOp.nt + 0) (0 * C03.badOp.nt + 0) ≠ opEntry C03.badOp 0 0 0 0 := by
  refine ⟨by decide, by decide, by decide, rfl, ?_⟩
  obtain ⟨M, hM⟩ := assemble_in_bounds C03.badOp (by decide) 2
  refine ⟨M, hM, ?_⟩
  rw [DirectGiveCode.toDense_give genTablesGive C03.badOp genTablesGive_good (by decide) (by decide) (by decide) 2 M hM
    (i := 0) (j := 0) (by decide) (by decide)]
  decide +kernel

/-- the hypotheses of `give_assemble_entries` are satisfiable across the origin with a non-constant angular spacing
    (`C03.exOp`), and the theorem then gives all 256 entries -/
example : ∃ M, DirectGiveCode.assemble genTablesGive C03.exOp 2 = some M ∧
    ∀ i j s t, i < 4 → j < 4 → s < 4 → t < 4 → toDense M (i * 4 + j) (s * 4 + t) = opEntry C03.exOp i j s t := by
  obtain ⟨M, hM⟩ := assemble_in_bounds C03.exOp (by decide) 2
  refine ⟨M, hM, give_assemble_entries C03.exOp (by decide) (by decide) (by decide) ?_ 2 M hM⟩
  intro _ j hj
  have : j < 4 := hj
  rcases (by omega : j = 0 ∨ j = 1 ∨ j = 2 ∨ j = 3) with rfl | rfl | rfl | rfl <;> simp [C03.exOp, ja]

end C04g
