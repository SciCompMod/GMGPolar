import GMGProofs.Props.C10h
import GMGProofs.Props.C10f
import GMGProofs.Props.C09c
import GMGProofs.Props.C10i
/-!
# Totality and translation invariance for every hierarchy `setup()` builds

`C10h` derives the size hypotheses of the fixed-point and give = take theorems from the theorems about level selection and the
automatic split (C17, C18).  Here the same is done for the remaining whole-cycle theorems: totality (`C10e`, `C10f`) and translation
invariance (`C10e`, `C10f`), plain and implicitly extrapolated.  For the extrapolated translation theorem three more hypotheses
are derived: the odd `nr` of level 0 (extrapolated smoother), the side condition on level 1 and the shape relation between level 1 and
level 0 (`hshape`) are all consequences of `BuiltBy`.  What remains is about the DATA only (boundary mode, ellipticity, coarse pivots).
Property theorems and their instances on `C10h.exH` and `C10i.exH`.
-/
namespace C10j
open MGCycle Concrete Stencil GridGen GridGenL Grid C10h

section AnyField
variable {K : Type} [_root_.Field K]

/-- `C10e.concrete_cycle_total_bc` for built hierarchies: `2 ≤ L` is derived from the accepted level count -/
theorem concrete_cycle_total_built (H : Hier K) (nr nt : Nat) (maxLevels : Int) (L : Nat) (crit : Nat → Nat → Bool)
    (h : chooseLevels nr nt maxLevels = .ok L) (hb : BuiltBy H nr nt crit L)
    (k : Kind) (nu1 nu2 : Nat) (fgs : Bool) (u f : Array K)
    (hbc : ∀ l, l + 1 < L → (lvl H l).op.bc = true) (ht1 : H.tiny 1 = false)
    (M : SparseLU.CSR K) (hM : DirectCode.assemble H.tables (lvl H (L - 1)).op = some M)
    (ht : ∀ r, r < M.rows → H.tiny (SparseLU.den ((SparseLU.factorRows M).2.getD r []) r) = false)
    (hu : u.size = coarsenR 0 nr * coarsenT 0 nt)
    (m : Mem (Option (Array K))) (hm : m (0, Buf.sol) = some u) (hr : m (0, Buf.rhs) = some f) :
    ∃ y, cycle H ⟨L, nu1, nu2⟩ k false fgs m (0, Buf.sol) = some y ∧ y.size = coarsenR 0 nr * coarsenT 0 nt := by
  have h2 := (built_sizes H nr nt maxLevels L crit h hb).1
  rw [← hb.shapeR 0 (by omega), ← hb.shapeT 0 (by omega)] at hu ⊢
  exact C10e.concrete_cycle_total_bc H L h2 k nu1 nu2 fgs u f hbc ht1 M hM ht hu m hm hr

/-- `C10f.concrete_excycle_total` for built hierarchies -/
theorem concrete_excycle_total_built (H : Hier K) (nr nt : Nat) (maxLevels : Int) (L : Nat) (crit : Nat → Nat → Bool)
    (h : chooseLevels nr nt maxLevels = .ok L) (hb : BuiltBy H nr nt crit L)
    (k : Kind) (nu1 nu2 : Nat) (fgs : Bool) (u f f1 : Array K)
    (hbc : ∀ l, l + 1 < L → (lvl H l).op.bc = true) (ht1 : H.tiny 1 = false)
    (M : SparseLU.CSR K) (hM : DirectCode.assemble H.tables (lvl H (L - 1)).op = some M)
    (ht : ∀ r, r < M.rows → H.tiny (SparseLU.den ((SparseLU.factorRows M).2.getD r []) r) = false)
    (hu : u.size = coarsenR 0 nr * coarsenT 0 nt)
    (m : Mem (Option (Array K))) (hm : m (0, Buf.sol) = some u) (hr : m (0, Buf.rhs) = some f) (hr1 : m (1, Buf.rhs) = some f1) :
    ∃ y, cycle H ⟨L, nu1, nu2⟩ k true fgs m (0, Buf.sol) = some y ∧ y.size = coarsenR 0 nr * coarsenT 0 nt := by
  have h2 := (built_sizes H nr nt maxLevels L crit h hb).1
  rw [← hb.shapeR 0 (by omega), ← hb.shapeT 0 (by omega)] at hu ⊢
  exact C10f.concrete_excycle_total H L h2 k nu1 nu2 fgs u f f1 hbc ht1 M hM ht hu m hm hr hr1

/-- `C09c.concrete_start_total` for built hierarchies: the FMG start-up (any FMG cycle kind and count, plain or extrapolated) returns
    a start vector of the size the coarsening chain gives level 0 -/
theorem concrete_start_total_built (H : Hier K) (nr nt : Nat) (maxLevels : Int) (L : Nat) (crit : Nat → Nat → Bool)
    (h : chooseLevels nr nt maxLevels = .ok L) (hb : BuiltBy H nr nt crit L)
    (fk : Kind) (fi nu1 nu2 : Nat) (ex fgs : Bool)
    (hbc : ∀ l, l + 1 < L → (lvl H l).op.bc = true) (ht1 : H.tiny 1 = false)
    (M : SparseLU.CSR K) (hM : DirectCode.assemble H.tables (lvl H (L - 1)).op = some M)
    (ht : ∀ r, r < M.rows → H.tiny (SparseLU.den ((SparseLU.factorRows M).2.getD r []) r) = false)
    (m : Mem (Option (Array K)))
    (hrhs : ∀ l, l < L → (l + 1 < L → 0 < fi) → ∃ f, m (l, Buf.rhs) = some f) :
    ∃ y, start H ⟨L, nu1, nu2⟩ true fk fi ex fgs m (0, Buf.sol) = some y ∧ y.size = coarsenR 0 nr * coarsenT 0 nt := by
  have h2 := (built_sizes H nr nt maxLevels L crit h hb).1
  rw [← hb.shapeR 0 (by omega), ← hb.shapeT 0 (by omega)]
  exact C09c.concrete_start_total H L h2 fk fi nu1 nu2 ex fgs hbc ht1 M hM ht m hrhs

/-- `C09c.give_start_eq_take_start` for built hierarchies: the start-up of the give strategy equals the one of the take strategy
    (with or without FMG, plain or extrapolated, ANY initial memory) — sizes and the admissibility of the extrapolated give smoother
    derived; only the antipodal symmetry of the angular spacing (across the origin) remains a hypothesis -/
theorem give_start_eq_take_start_built (H : Hier K) (G : GiveTables) (hG : G.direct = C04g.genTablesGive)
    (hGe : G.exSmoother = C07g.genTables)
    (htab : H.tables = C04c.genTables) (nr nt : Nat) (maxLevels : Int) (L : Nat) (crit : Nat → Nat → Bool)
    (h : chooseLevels nr nt maxLevels = .ok L) (hb : BuiltBy H nr nt crit L)
    (hk : ∀ l, l < L → (lvl H l).op.bc = false → ∀ j, j < (lvl H l).op.nt → (lvl H l).op.k (ja (lvl H l).op j) = (lvl H l).op.k j)
    (fmg : Bool) (fk : Kind) (fi nu1 nu2 : Nat) (ex fgs : Bool) (m : Mem (Option (Array K))) :
    exec (opsGive H G) (initSolution ⟨L, nu1, nu2⟩ fmg fk fi ex fgs (L - 1)) m (0, Buf.sol) =
      start H ⟨L, nu1, nu2⟩ fmg fk fi ex fgs m (0, Buf.sol) := by
  obtain ⟨hlev, hcoarse, hex⟩ := giveOK_of_built h hb hk
  exact C09c.give_start_eq_take_start H G hG htab L fmg fk fi nu1 nu2 ex fgs hlev hcoarse (fun _ _ _ => hGe ▸ hex) m

/-- the hierarchy `Build.hier` makes from level grids of the coarsening chain (Dirichlet inner boundary) is `BuiltBy`, and every
    level carries the Dirichlet flag — no hypothesis on the input functions -/
theorem setup_built (E : Cache.Env K) (grids : List (Cache.GridData K)) (cc cg : Bool) (tiny : K → Bool)
    (nr nt : Nat) (maxLevels : Int) (L : Nat) (crit : Nat → Nat → Bool)
    (hsel : chooseLevels nr nt maxLevels = .ok L) (hlen : grids.length = L)
    (hchain : List.IsChain C03c.Nested grids)
    (hshape : ∀ l (hl : l < grids.length), (grids[l]).g.nr = coarsenR l nr ∧ (grids[l]).g.nt = coarsenT l nt ∧
      (grids[l]).g.nc = Split.autoNc (crit l) (coarsenR l nr)) :
    BuiltBy (Build.hier E grids true cc cg tiny C04c.genTables) nr nt crit L ∧
    ∀ l, l < L → (lvl (Build.hier E grids true cc cg tiny C04c.genTables) l).op.bc = true := by
  have _ := hsel  -- not used: the shapes of the grids suffice
  exact Build.hier_builtBy E grids true cc cg tiny C04c.genTables hchain hlen hshape

/-- **end to end, totality**: inputs → hierarchy → the plain and the implicitly extrapolated concrete cycle return a vector of
    `nr · nt` entries for EVERY iterate of that size and every right-hand side — nothing is assumed about the input functions
    (no ellipticity, no sign): the exit branch of the sparse LU and out-of-bounds stores are excluded by the shapes alone, the
    `tiny` test on the coarse pivots (finding F7 of DESIGN.md: an absolute `1e-12` test that ends in `std::exit`) stays a hypothesis -/
theorem concrete_cycles_total_setup (E : Cache.Env K) (grids : List (Cache.GridData K)) (cc cg : Bool) (tiny : K → Bool)
    (nr nt : Nat) (maxLevels : Int) (L : Nat) (crit : Nat → Nat → Bool)
    (hsel : chooseLevels nr nt maxLevels = .ok L) (hlen : grids.length = L)
    (hchain : List.IsChain C03c.Nested grids)
    (hshape : ∀ l (hl : l < grids.length), (grids[l]).g.nr = coarsenR l nr ∧ (grids[l]).g.nt = coarsenT l nt ∧
      (grids[l]).g.nc = Split.autoNc (crit l) (coarsenR l nr))
    (k : Kind) (nu1 nu2 : Nat) (fgs : Bool) (u f f1 : Array K) (ht1 : tiny 1 = false)
    (M : SparseLU.CSR K)
    (hM : DirectCode.assemble C04c.genTables (lvl (Build.hier E grids true cc cg tiny C04c.genTables) (L - 1)).op = some M)
    (ht : ∀ r, r < M.rows → tiny (SparseLU.den ((SparseLU.factorRows M).2.getD r []) r) = false)
    (hu : u.size = coarsenR 0 nr * coarsenT 0 nt)
    (m : Mem (Option (Array K))) (hm : m (0, Buf.sol) = some u) (hr : m (0, Buf.rhs) = some f) (hr1 : m (1, Buf.rhs) = some f1) :
    (∃ y, cycle (Build.hier E grids true cc cg tiny C04c.genTables) ⟨L, nu1, nu2⟩ k false fgs m (0, Buf.sol) = some y ∧
      y.size = coarsenR 0 nr * coarsenT 0 nt) ∧
    (∃ y, cycle (Build.hier E grids true cc cg tiny C04c.genTables) ⟨L, nu1, nu2⟩ k true fgs m (0, Buf.sol) = some y ∧
      y.size = coarsenR 0 nr * coarsenT 0 nt) := by
  obtain ⟨hb, hbc⟩ := setup_built E grids cc cg tiny nr nt maxLevels L crit hsel hlen hchain hshape
  exact ⟨concrete_cycle_total_built _ nr nt maxLevels L crit hsel hb k nu1 nu2 fgs u f (fun l hl => hbc l (by omega)) ht1 M hM ht
      hu m hm hr,
    concrete_excycle_total_built _ nr nt maxLevels L crit hsel hb k nu1 nu2 fgs u f f1 (fun l hl => hbc l (by omega)) ht1 M hM ht
      hu m hm hr hr1⟩

end AnyField

section Ordered
variable {K : Type} [_root_.Field K] [LinearOrder K] [IsStrictOrderedRing K]

/-- `C10e.concrete_cycle_translate_bc` for built hierarchies: sizes derived, data hypotheses (Dirichlet inner boundary on the
    smoothing levels, elliptic coefficients on level 0) remain -/
theorem concrete_cycle_translate_built (H : Hier K) (nr nt : Nat) (maxLevels : Int) (L : Nat) (crit : Nat → Nat → Bool)
    (h : chooseLevels nr nt maxLevels = .ok L) (hb : BuiltBy H nr nt crit L)
    (hbc : ∀ l, l + 1 < L → (lvl H l).op.bc = true) (hell : Elliptic (lvl H 0).op)
    (k : Kind) (nu1 nu2 : Nat) (fgs : Bool) (u f w g : Array K) (ht1 : H.tiny 1 = false)
    (M : SparseLU.CSR K) (hM : DirectCode.assemble H.tables (lvl H (L - 1)).op = some M)
    (ht : ∀ r, r < M.rows → H.tiny (SparseLU.den ((SparseLU.factorRows M).2.getD r []) r) = false)
    (hu : u.size = (lvl H 0).op.nr * (lvl H 0).op.nt) (hf : (lvl H 0).op.nr * (lvl H 0).op.nt ≤ f.size)
    (hAw : ∀ i j, i < (lvl H 0).op.nr → j < (lvl H 0).op.nt →
      take (lvl H 0).op (SmootherCode.fld (lvl H 0).op.nt g) (SmootherCode.fld (lvl H 0).op.nt w) i j = 0)
    (m m' : Mem (Option (Array K)))
    (hm : m (0, Buf.sol) = some u) (hr : m (0, Buf.rhs) = some f)
    (hm' : m' (0, Buf.sol) = some (Array.ofFn (n := u.size) fun p => u[p] + w.getD p.val 0))
    (hr' : m' (0, Buf.rhs) = some (Array.ofFn (n := f.size) fun p => f[p] + g.getD p.val 0)) :
    ∃ y, y.size = (lvl H 0).op.nr * (lvl H 0).op.nt ∧
      cycle H ⟨L, nu1, nu2⟩ k false fgs m (0, Buf.sol) = some y ∧
      cycle H ⟨L, nu1, nu2⟩ k false fgs m' (0, Buf.sol) = some (Array.ofFn (n := y.size) fun p => y[p] + w.getD p.val 0) := by
  have h2 := (chain_sizes h).1
  exact C10e.concrete_cycle_translate_bc H L h2 k nu1 nu2 fgs u f w g (levelOK_of_built h hb (by omega) (hbc 0 (by omega)) hell)
    hbc ht1 M hM ht hu hf hAw m m' hm hr hm' hr'

/-- `C10f.concrete_excycle_translate_bc` for built hierarchies: besides the sizes, the odd `nr` of level 0, the side condition on
    level 1 and the shape relation between levels 0 and 1 are derived from `BuiltBy` -/
theorem concrete_excycle_translate_built (H : Hier K) (nr nt : Nat) (maxLevels : Int) (L : Nat) (crit : Nat → Nat → Bool)
    (h : chooseLevels nr nt maxLevels = .ok L) (hb : BuiltBy H nr nt crit L)
    (hbc : ∀ l, l + 1 < L → (lvl H l).op.bc = true) (hell : Elliptic (lvl H 0).op)
    (k : Kind) (nu1 nu2 : Nat) (fgs : Bool) (u f f1 w g g1 : Array K) (ht1 : H.tiny 1 = false)
    (M : SparseLU.CSR K) (hM : DirectCode.assemble H.tables (lvl H (L - 1)).op = some M)
    (ht : ∀ r, r < M.rows → H.tiny (SparseLU.den ((SparseLU.factorRows M).2.getD r []) r) = false)
    (hu : u.size = (lvl H 0).op.nr * (lvl H 0).op.nt) (hf : (lvl H 0).op.nr * (lvl H 0).op.nt ≤ f.size)
    (hf1 : (lvl H 1).op.nr * (lvl H 1).op.nt ≤ f1.size)
    (hAw : ∀ i j, i < (lvl H 0).op.nr → j < (lvl H 0).op.nt →
      take (lvl H 0).op (SmootherCode.fld (lvl H 0).op.nt g) (SmootherCode.fld (lvl H 0).op.nt w) i j = 0)
    (hAw1 : ∀ i j, i < (lvl H 1).op.nr → j < (lvl H 1).op.nt →
      take (lvl H 1).op (SmootherCode.fld (lvl H 1).op.nt g1) (Interp.inject (SmootherCode.fld (lvl H 0).op.nt w)) i j = 0)
    (m m' : Mem (Option (Array K)))
    (hm : m (0, Buf.sol) = some u) (hr : m (0, Buf.rhs) = some f) (hr1 : m (1, Buf.rhs) = some f1)
    (hm' : m' (0, Buf.sol) = some (Array.ofFn (n := u.size) fun p => u[p] + w.getD p.val 0))
    (hr' : m' (0, Buf.rhs) = some (Array.ofFn (n := f.size) fun p => f[p] + g.getD p.val 0))
    (hr1' : m' (1, Buf.rhs) = some (Array.ofFn (n := f1.size) fun p => f1[p] + g1.getD p.val 0)) :
    ∃ y, y.size = (lvl H 0).op.nr * (lvl H 0).op.nt ∧
      cycle H ⟨L, nu1, nu2⟩ k true fgs m (0, Buf.sol) = some y ∧
      cycle H ⟨L, nu1, nu2⟩ k true fgs m' (0, Buf.sol) = some (Array.ofFn (n := y.size) fun p => y[p] + w.getD p.val 0) := by
  obtain ⟨h2, hs, -, -, -, hch⟩ := built_sizes H nr nt maxLevels L crit h hb
  have eR : (lvl H 1).op.nr = ((lvl H 0).op.nr + 1) / 2 := (hch 0 (by omega)).1
  have eT : (lvl H 1).op.nt = (lvl H 0).op.nt / 2 := (hch 0 (by omega)).2
  have odd := (hs 0 (by omega)).2.2.1
  exact C10f.concrete_excycle_translate_bc H L h2 k nu1 nu2 fgs u f f1 w g g1
    (levelOK_of_built h hb (by omega) (hbc 0 (by omega)) hell) hbc (fun _ => odd) ht1 (Or.inr (built_nr1 h hb))
    (Or.inl ⟨by omega, by omega⟩) M hM ht hu hf hf1 hAw hAw1 m m' hm hr hr1 hm' hr' hr1'

/-- **end to end, implicitly extrapolated**: inputs → hierarchy → fixed point of the extrapolated cycle (either level-0 smoother).
    The hypotheses of `C10i.concrete_exact_fixed_setup`, plus the level-1 right-hand side `f1` for which the injection of `u` solves
    the level-1 system (what the implicit extrapolation presupposes) -/
theorem concrete_exact_fixed_extrap_setup (E : Cache.Env K) (grids : List (Cache.GridData K)) (cc cg : Bool) (tiny : K → Bool)
    (nr nt : Nat) (maxLevels : Int) (L : Nat) (crit : Nat → Nat → Bool)
    (hsel : chooseLevels nr nt maxLevels = .ok L) (hlen : grids.length = L)
    (hchain : List.IsChain C03c.Nested grids)
    (hshape : ∀ l (hl : l < grids.length), (grids[l]).g.nr = coarsenR l nr ∧ (grids[l]).g.nt = coarsenT l nt ∧
      (grids[l]).g.nc = Split.autoNc (crit l) (coarsenR l nr))
    (hin : ∀ G ∈ grids, C10i.InputsOK E G)
    (k : Kind) (nu1 nu2 : Nat) (fgs : Bool) (u f f1 : Array K) (ht1 : tiny 1 = false)
    (M : SparseLU.CSR K)
    (hM : DirectCode.assemble C04c.genTables (lvl (Build.hier E grids true cc cg tiny C04c.genTables) (L - 1)).op = some M)
    (ht : ∀ r, r < M.rows → tiny (SparseLU.den ((SparseLU.factorRows M).2.getD r []) r) = false)
    (hu : u.size = nr * nt)
    (hsol : ∀ i j, i < nr → j < nt →
      take (lvl (Build.hier E grids true cc cg tiny C04c.genTables) 0).op (SmootherCode.fld nt f) (SmootherCode.fld nt u) i j = 0)
    (hsol1 : ∀ i j, i < coarsenR 1 nr → j < coarsenT 1 nt →
      take (lvl (Build.hier E grids true cc cg tiny C04c.genTables) 1).op (SmootherCode.fld (coarsenT 1 nt) f1)
        (Interp.inject (SmootherCode.fld nt u)) i j = 0)
    (m : Mem (Option (Array K))) (hm : m (0, Buf.sol) = some u) (hr : m (0, Buf.rhs) = some f)
    (hr1 : m (1, Buf.rhs) = some f1) :
    cycle (Build.hier E grids true cc cg tiny C04c.genTables) ⟨L, nu1, nu2⟩ k true fgs m (0, Buf.sol) = some u := by
  obtain ⟨hb, hbc⟩ := setup_built E grids cc cg tiny nr nt maxLevels L crit hsel hlen hchain hshape
  have hL2 : 2 ≤ L := (chain_sizes hsel).1
  have hnr0 : (lvl (Build.hier E grids true cc cg tiny C04c.genTables) 0).op.nr = nr := hb.shapeR 0 (by omega)
  have hnt0 : (lvl (Build.hier E grids true cc cg tiny C04c.genTables) 0).op.nt = nt := hb.shapeT 0 (by omega)
  refine C10h.concrete_exact_fixed_extrap_built _ nr nt maxLevels L crit hsel hb
    (fun l h => ⟨hbc l (by omega), C10i.hier_elliptic E grids true cc cg tiny _ hchain l (by omega) (hin _ (List.getElem_mem _))⟩)
    k nu1 nu2 fgs u f f1 ht1 M hM ht ?_ ?_ ?_ m hm hr hr1
  · rw [hnr0, hnt0]; exact hu
  · rw [hnr0, hnt0]; exact hsol
  · rw [hb.shapeR 1 (by omega), hb.shapeT 1 (by omega), hnt0]; exact hsol1

/-- **end to end, translation invariance**: inputs → hierarchy → the error propagation of the plain concrete cycle does not depend
    on the solution; only the FINEST grid's input functions have to be admissible (`C10i.InputsOK` on level 0) -/
theorem concrete_cycle_translate_setup (E : Cache.Env K) (grids : List (Cache.GridData K)) (cc cg : Bool) (tiny : K → Bool)
    (nr nt : Nat) (maxLevels : Int) (L : Nat) (crit : Nat → Nat → Bool)
    (hsel : chooseLevels nr nt maxLevels = .ok L) (hlen : grids.length = L)
    (hchain : List.IsChain C03c.Nested grids)
    (hshape : ∀ l (hl : l < grids.length), (grids[l]).g.nr = coarsenR l nr ∧ (grids[l]).g.nt = coarsenT l nt ∧
      (grids[l]).g.nc = Split.autoNc (crit l) (coarsenR l nr))
    (hin0 : ∀ G, grids[0]? = some G → C10i.InputsOK E G)
    (k : Kind) (nu1 nu2 : Nat) (fgs : Bool) (u f w g : Array K) (ht1 : tiny 1 = false)
    (M : SparseLU.CSR K)
    (hM : DirectCode.assemble C04c.genTables (lvl (Build.hier E grids true cc cg tiny C04c.genTables) (L - 1)).op = some M)
    (ht : ∀ r, r < M.rows → tiny (SparseLU.den ((SparseLU.factorRows M).2.getD r []) r) = false)
    (hu : u.size = (lvl (Build.hier E grids true cc cg tiny C04c.genTables) 0).op.nr *
      (lvl (Build.hier E grids true cc cg tiny C04c.genTables) 0).op.nt)
    (hf : (lvl (Build.hier E grids true cc cg tiny C04c.genTables) 0).op.nr *
      (lvl (Build.hier E grids true cc cg tiny C04c.genTables) 0).op.nt ≤ f.size)
    (hAw : ∀ i j, i < (lvl (Build.hier E grids true cc cg tiny C04c.genTables) 0).op.nr →
      j < (lvl (Build.hier E grids true cc cg tiny C04c.genTables) 0).op.nt →
      take (lvl (Build.hier E grids true cc cg tiny C04c.genTables) 0).op
        (SmootherCode.fld (lvl (Build.hier E grids true cc cg tiny C04c.genTables) 0).op.nt g)
        (SmootherCode.fld (lvl (Build.hier E grids true cc cg tiny C04c.genTables) 0).op.nt w) i j = 0)
    (m m' : Mem (Option (Array K)))
    (hm : m (0, Buf.sol) = some u) (hr : m (0, Buf.rhs) = some f)
    (hm' : m' (0, Buf.sol) = some (Array.ofFn (n := u.size) fun p => u[p] + w.getD p.val 0))
    (hr' : m' (0, Buf.rhs) = some (Array.ofFn (n := f.size) fun p => f[p] + g.getD p.val 0)) :
    ∃ y, y.size = (lvl (Build.hier E grids true cc cg tiny C04c.genTables) 0).op.nr *
        (lvl (Build.hier E grids true cc cg tiny C04c.genTables) 0).op.nt ∧
      cycle (Build.hier E grids true cc cg tiny C04c.genTables) ⟨L, nu1, nu2⟩ k false fgs m (0, Buf.sol) = some y ∧
      cycle (Build.hier E grids true cc cg tiny C04c.genTables) ⟨L, nu1, nu2⟩ k false fgs m' (0, Buf.sol) =
        some (Array.ofFn (n := y.size) fun p => y[p] + w.getD p.val 0) := by
  obtain ⟨hb, hbc⟩ := setup_built E grids cc cg tiny nr nt maxLevels L crit hsel hlen hchain hshape
  have hL2 : 2 ≤ L := (chain_sizes hsel).1
  have h0 : 0 < grids.length := by omega
  have hell := C10i.hier_elliptic E grids true cc cg tiny C04c.genTables hchain 0 h0 (hin0 _ (List.getElem?_eq_getElem h0))
  exact concrete_cycle_translate_built _ nr nt maxLevels L crit hsel hb (fun l hl => hbc l (by omega)) hell k nu1 nu2 fgs u f w g
    ht1 M hM ht hu hf hAw m m' hm hr hm' hr'

end Ordered

/-! ## non-vacuity: the four-level hierarchy `C10h.exH` (33 × 64 → 17 × 32 → 9 × 16 → 5 × 8) built by the chain -/

theorem exH_ht (M : SparseLU.CSR ℚ) (hM : DirectCode.assemble C04c.genTables (exOp 5 8) = some M) :
    ∀ r, r < M.rows → exH.tiny (SparseLU.den ((SparseLU.factorRows M).2.getD r []) r) = false :=
  pivots_not_tiny _ _ _ exH_pivots M hM

/-- both totality theorems apply to EVERY iterate of the right size and EVERY right-hand sides, any kind, any smoothing counts -/
example (k : Kind) (nu1 nu2 : Nat) (fgs : Bool) (u f f1 : Array ℚ) (hu : u.size = 33 * 64) (m : Mem (Option (Array ℚ)))
    (hm : m (0, Buf.sol) = some u) (hr : m (0, Buf.rhs) = some f) (hr1 : m (1, Buf.rhs) = some f1) :
    (∃ y, cycle exH ⟨4, nu1, nu2⟩ k false fgs m (0, Buf.sol) = some y ∧ y.size = 33 * 64) ∧
    (∃ y, cycle exH ⟨4, nu1, nu2⟩ k true fgs m (0, Buf.sol) = some y ∧ y.size = 33 * 64) := by
  obtain ⟨M, hM⟩ := C04c.assemble_in_bounds (exOp 5 8) (by decide)
  exact ⟨concrete_cycle_total_built exH 33 64 (-1) 4 exCrit rfl exH_built k nu1 nu2 fgs u f
      (fun l hl => (exH_data l hl).1) C10c.exTiny_one M hM (exH_ht M hM) hu m hm hr,
    concrete_excycle_total_built exH 33 64 (-1) 4 exCrit rfl exH_built k nu1 nu2 fgs u f f1
      (fun l hl => (exH_data l hl).1) C10c.exTiny_one M hM (exH_ht M hM) hu m hm hr hr1⟩

/-- the plain translation theorem applies with the zero shift (`w = g = ∅`, read with default 0): all its hypotheses hold jointly -/
example (k : Kind) (nu1 nu2 : Nat) (fgs : Bool) (u f : Array ℚ) (hu : u.size = 33 * 64) (hf : 33 * 64 ≤ f.size)
    (m m' : Mem (Option (Array ℚ)))
    (hm : m (0, Buf.sol) = some u) (hr : m (0, Buf.rhs) = some f)
    (hm' : m' (0, Buf.sol) = some (Array.ofFn (n := u.size) fun p => u[p] + (#[] : Array ℚ).getD p.val 0))
    (hr' : m' (0, Buf.rhs) = some (Array.ofFn (n := f.size) fun p => f[p] + (#[] : Array ℚ).getD p.val 0)) :
    ∃ y, y.size = 33 * 64 ∧ cycle exH ⟨4, nu1, nu2⟩ k false fgs m (0, Buf.sol) = some y ∧
      cycle exH ⟨4, nu1, nu2⟩ k false fgs m' (0, Buf.sol) = some (Array.ofFn (n := y.size) fun p => y[p] + (#[] : Array ℚ).getD p.val 0) := by
  obtain ⟨M, hM⟩ := C04c.assemble_in_bounds (exOp 5 8) (by decide)
  exact concrete_cycle_translate_built exH 33 64 (-1) 4 exCrit rfl exH_built (fun l hl => (exH_data l hl).1)
    (exH_data 0 (by omega)).2 k nu1 nu2 fgs u f #[] #[] C10c.exTiny_one M hM (exH_ht M hM) hu hf
    (fun i j _ _ => take_zero_zero _ i j) m m' hm hr hm' hr'

/-- the start-up theorems apply: the FMG start-up on `exH` returns a 33 × 64 vector for every memory holding the level right-hand
    sides, and the give start-up equals the take start-up for EVERY memory -/
example (fmg : Bool) (fk : Kind) (fi nu1 nu2 : Nat) (ex fgs : Bool) (m : Mem (Option (Array ℚ)))
    (hrhs : ∀ l, l < 4 → ∃ f, m (l, Buf.rhs) = some f) :
    (∃ y, start exH ⟨4, nu1, nu2⟩ true fk fi ex fgs m (0, Buf.sol) = some y ∧ y.size = 33 * 64) ∧
    exec (opsGive exH C10g.genG) (initSolution ⟨4, nu1, nu2⟩ fmg fk fi ex fgs (4 - 1)) m (0, Buf.sol) =
      start exH ⟨4, nu1, nu2⟩ fmg fk fi ex fgs m (0, Buf.sol) := by
  obtain ⟨M, hM⟩ := C04c.assemble_in_bounds (exOp 5 8) (by decide)
  exact ⟨concrete_start_total_built exH 33 64 (-1) 4 exCrit rfl exH_built fk fi nu1 nu2 ex fgs
      (fun l hl => (exH_data l hl).1) C10c.exTiny_one M hM (exH_ht M hM) m (fun l hl _ => hrhs l hl),
    give_start_eq_take_start_built exH C10g.genG rfl rfl rfl 33 64 (-1) 4 exCrit rfl exH_built exH_hk fmg fk fi nu1 nu2 ex fgs m⟩

/-- the level-1 right-hand side that makes the injection of `C10i.exU` the level-1 solution -/
def exF1 : Array ℚ := SmootherCode.ofField 5 8
  (A (lvl C10i.exH 1).op (Interp.inject (SmootherCode.fld 16 C10i.exU)))

/-- **`concrete_exact_fixed_extrap_setup` applies** on the hierarchy built from `C10i.exEnv` and the nested chain 9 × 16 → 5 × 8: all
    hypotheses hold jointly, for a solution that is not zero, either level-0 smoother -/
example (k : Kind) (nu1 nu2 : Nat) (fgs : Bool) (m : Mem (Option (Array ℚ)))
    (hm : m (0, Buf.sol) = some C10i.exU) (hr : m (0, Buf.rhs) = some C10i.exF) (hr1 : m (1, Buf.rhs) = some exF1) :
    cycle C10i.exH ⟨2, nu1, nu2⟩ k true fgs m (0, Buf.sol) = some C10i.exU := by
  obtain ⟨M, hM⟩ := C04c.assemble_in_bounds (lvl C10i.exH 1).op (by decide)
  exact concrete_exact_fixed_extrap_setup C10i.exEnv [C10i.exG0, C10i.exG1] true true C06c.exTiny 9 16 (-1) 2 C10i.exCrit rfl rfl
    C10i.ex_chain C10i.ex_shape C10i.ex_in k nu1 nu2 fgs C10i.exU C10i.exF exF1 C10c.exTiny_one M hM (C10i.ex_ht M hM) Array.size_ofFn
    (take_ofField_A _ 9 16 _) (take_ofField_A _ 5 8 _) m hm hr hr1

/-- `concrete_cycles_total_setup` applies on the hierarchy built from `C10i.exEnv` and the chain 9 × 16 → 5 × 8: EVERY iterate of the
    right size, EVERY pair of right-hand sides, any kind, any smoothing counts, either level-0 smoother -/
example (k : Kind) (nu1 nu2 : Nat) (fgs : Bool) (u f f1 : Array ℚ) (hu : u.size = 9 * 16) (m : Mem (Option (Array ℚ)))
    (hm : m (0, Buf.sol) = some u) (hr : m (0, Buf.rhs) = some f) (hr1 : m (1, Buf.rhs) = some f1) :
    (∃ y, cycle C10i.exH ⟨2, nu1, nu2⟩ k false fgs m (0, Buf.sol) = some y ∧ y.size = 9 * 16) ∧
    (∃ y, cycle C10i.exH ⟨2, nu1, nu2⟩ k true fgs m (0, Buf.sol) = some y ∧ y.size = 9 * 16) := by
  obtain ⟨M, hM⟩ := C04c.assemble_in_bounds (lvl C10i.exH 1).op (by decide)
  exact concrete_cycles_total_setup C10i.exEnv [C10i.exG0, C10i.exG1] true true C06c.exTiny 9 16 (-1) 2 C10i.exCrit rfl rfl
    C10i.ex_chain C10i.ex_shape k nu1 nu2 fgs u f f1 C10c.exTiny_one M hM (C10i.ex_ht M hM) hu m hm hr hr1

end C10j
