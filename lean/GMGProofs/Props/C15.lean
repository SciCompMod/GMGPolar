import GMGProofs.Lemmas.ObjectsLemmas
/-!
# C15 — the hand-written copy / move special members are safe and faithful

Property theorems only.  Model: `GMGModel/Objects.lean` (transcribes the copy/move constructors and
assignment operators of `Vector`, `SparseMatrixCOO`, `SparseMatrixCSR`, `DiagonalSolver`,
`SymmetricTridiagonalSolver`).  Definitions used in the statements (`WF`, `ids`, `BufOK`, `Op`, `step`,
`run`, `PairWF`, `PairSep`) are in `GMGProofs/Lemmas/ObjectsLemmas.lean`.

All statements hold for every scalar type `α` with `[Scalar α]` (no field axioms), every allocator
state `h`, and all sizes.  In the model `none` means "read or write outside a buffer / through
`nullptr`", so `… = some _` is memory safety.  `WF` says that every buffer has exactly the advertised
capacity (`nullptr` only for capacity 0; for CSR the row-start array is `nullptr` only in the
default-constructed / moved-from matrix); it holds for default-constructed, sized, moved-from objects and
is re-established by every special member, so the theorems cover histories that copy a moved-from object.

Per class `T ∈ {Vec, COO, CSRo, Diag, Tri}`:
* `T.copyCtor_obs`, `T.copyAssign_obs` — never out of bounds, result observationally equal to the source,
  well formed, (for the constructor) all buffers fresh;
* `T.move_obs`, `T.move_WF`, `T.default_WF` — moves steal the buffers and leave the default state;
* `T.copyCtor_independent`, `T.copyAssign_independent` — no buffer is shared with the source afterwards
  (no well-formedness hypothesis: the operation succeeded, the source's buffers were handed out before
  the call, and for assignment target and source shared none);
* `T.run_safe`, `T.run_no_alias` — along every sequence of special-member calls on two objects nothing is
  ever out of bounds, both stay well formed, and they never share a buffer;
* `Tri.copy_solves_like_source`, `Tri.assigned_solves_like_source`, `Tri.solve_WF` — a copied solver
  solves like its source.
-/
namespace C15
open Objects

variable {α : Type} [Scalar α]

/-! ## Vec -/
namespace Vec

/-- the copy constructor never reads or writes out of bounds; the copy is observationally equal to
    the source, well formed, and owns only buffers allocated by this very call -/
theorem copyCtor_obs (h : Nat) (o : Vec α) (ho : Vec.WF o) :
    ∃ h' c, Vec.copyCtor h o = some (h', c) ∧ Vec.obs c = Vec.obs o ∧ Vec.WF c ∧ h ≤ h' ∧
      ∀ i ∈ Vec.ids c, h ≤ i ∧ i < h' :=
  Vec.copies.ctor_fresh h ho

/-- copy assignment, for equal and for different sizes of target and source: never out of bounds
    (whenever the old buffers are reused their capacity suffices), result observationally equal to the source -/
theorem copyAssign_obs (h : Nat) (t o : Vec α) (ht : Vec.WF t) (ho : Vec.WF o) :
    ∃ h' c, Vec.copyAssign h t o = some (h', c) ∧ Vec.obs c = Vec.obs o ∧ Vec.WF c :=
  Vec.copies.assign h ht ho

omit [Scalar α] in
/-- move constructor and move assignment hand over the very buffers of the source and leave the
    source in the default-constructed state, which owns nothing -/
theorem move_obs (t o : Vec α) :
    (Vec.obs (Vec.moveCtor o).1 = Vec.obs o ∧ Vec.ids (Vec.moveCtor o).1 = Vec.ids o ∧
      (Vec.moveCtor o).2 = Vec.default ∧ Vec.ids (Vec.moveCtor o).2 = []) ∧
    (Vec.obs (Vec.moveAssign t o).1 = Vec.obs o ∧ Vec.ids (Vec.moveAssign t o).1 = Vec.ids o ∧
      (Vec.moveAssign t o).2 = Vec.default ∧ Vec.ids (Vec.moveAssign t o).2 = []) :=
  ⟨⟨rfl, rfl, rfl, rfl⟩, ⟨rfl, rfl, rfl, rfl⟩⟩

omit [Scalar α] in
theorem default_WF : Vec.WF (Vec.default : Vec α) := Vec.WF_default

omit [Scalar α] in
/-- both the moved-to and the moved-from object are well formed -/
theorem move_WF (t o : Vec α) (ho : Vec.WF o) :
    Vec.WF (Vec.moveCtor o).1 ∧ Vec.WF (Vec.moveCtor o).2 ∧
    Vec.WF (Vec.moveAssign t o).1 ∧ Vec.WF (Vec.moveAssign t o).2 :=
  ⟨ho, Vec.WF_default, ho, Vec.WF_default⟩

/-- whenever the copy constructor succeeds, the copy shares no buffer with the source -/
theorem copyCtor_independent (h h' : Nat) (o c : Vec α) (hold : ∀ i ∈ Vec.ids o, i < h)
    (hc : Vec.copyCtor h o = some (h', c)) : ∀ i ∈ Vec.ids c, i ∉ Vec.ids o :=
  Vec.copies.ctor_independent hold hc

/-- whenever copy assignment succeeds, the target keeps (some of) its own buffers or gets fresh
    ones, and shares none with the source -/
theorem copyAssign_independent (h h' : Nat) (t o c : Vec α) (hold : ∀ i ∈ Vec.ids o, i < h)
    (hdis : ∀ i ∈ Vec.ids t, i ∉ Vec.ids o) (hc : Vec.copyAssign h t o = some (h', c)) :
    ∀ i ∈ Vec.ids c, (i ∈ Vec.ids t ∨ h ≤ i) ∧ i ∉ Vec.ids o :=
  Vec.copies.assign_independent hold hdis hc

/-- along every sequence of copy/move assignments and constructions and re-sizings of two objects
    no operation is ever out of bounds, and both objects stay well formed -/
theorem run_safe (ops : List Op) (s : Pair (Vec α)) (hs : Vec.PairWF s) :
    ∃ s', Vec.run ops s = some s' ∧ Vec.PairWF s' :=
  runWith_safe (Members.step_spec Vec.lawful) ops s hs

/-- if the two objects share no buffer initially they never do -/
theorem run_no_alias (ops : List Op) (s : Pair (Vec α)) (hs : Vec.PairWF s) (hsep : Vec.PairSep s) :
    ∃ s', Vec.run ops s = some s' ∧ Vec.PairWF s' ∧ Vec.PairSep s' :=
  runWith_sep (Members.step_spec Vec.lawful) ops s hs hsep

end Vec

/-! ## COO -/
namespace COO

/-- the copy constructor never reads or writes out of bounds; the copy is observationally equal to
    the source, well formed, and owns only buffers allocated by this very call -/
theorem copyCtor_obs (h : Nat) (o : COO α) (ho : COO.WF o) :
    ∃ h' c, COO.copyCtor h o = some (h', c) ∧ COO.obs c = COO.obs o ∧ COO.WF c ∧ h ≤ h' ∧
      ∀ i ∈ COO.ids c, h ≤ i ∧ i < h' :=
  COO.copies.ctor_fresh h ho

/-- copy assignment, for equal and for different sizes of target and source: never out of bounds
    (whenever the old buffers are reused their capacity suffices), result observationally equal to the source -/
theorem copyAssign_obs (h : Nat) (t o : COO α) (ht : COO.WF t) (ho : COO.WF o) :
    ∃ h' c, COO.copyAssign h t o = some (h', c) ∧ COO.obs c = COO.obs o ∧ COO.WF c :=
  COO.copies.assign h ht ho

omit [Scalar α] in
/-- move constructor and move assignment hand over the very buffers of the source and leave the
    source in the default-constructed state, which owns nothing -/
theorem move_obs (t o : COO α) :
    (COO.obs (COO.moveCtor o).1 = COO.obs o ∧ COO.ids (COO.moveCtor o).1 = COO.ids o ∧
      (COO.moveCtor o).2 = COO.default ∧ COO.ids (COO.moveCtor o).2 = []) ∧
    (COO.obs (COO.moveAssign t o).1 = COO.obs o ∧ COO.ids (COO.moveAssign t o).1 = COO.ids o ∧
      (COO.moveAssign t o).2 = COO.default ∧ COO.ids (COO.moveAssign t o).2 = []) :=
  ⟨⟨rfl, rfl, rfl, rfl⟩, ⟨rfl, rfl, rfl, rfl⟩⟩

omit [Scalar α] in
theorem default_WF : COO.WF (COO.default : COO α) := COO.WF_default

omit [Scalar α] in
/-- both the moved-to and the moved-from object are well formed -/
theorem move_WF (t o : COO α) (ho : COO.WF o) :
    COO.WF (COO.moveCtor o).1 ∧ COO.WF (COO.moveCtor o).2 ∧
    COO.WF (COO.moveAssign t o).1 ∧ COO.WF (COO.moveAssign t o).2 :=
  ⟨ho, COO.WF_default, ho, COO.WF_default⟩

/-- whenever the copy constructor succeeds, the copy shares no buffer with the source -/
theorem copyCtor_independent (h h' : Nat) (o c : COO α) (hold : ∀ i ∈ COO.ids o, i < h)
    (hc : COO.copyCtor h o = some (h', c)) : ∀ i ∈ COO.ids c, i ∉ COO.ids o :=
  COO.copies.ctor_independent hold hc

/-- whenever copy assignment succeeds, the target keeps (some of) its own buffers or gets fresh
    ones, and shares none with the source -/
theorem copyAssign_independent (h h' : Nat) (t o c : COO α) (hold : ∀ i ∈ COO.ids o, i < h)
    (hdis : ∀ i ∈ COO.ids t, i ∉ COO.ids o) (hc : COO.copyAssign h t o = some (h', c)) :
    ∀ i ∈ COO.ids c, (i ∈ COO.ids t ∨ h ≤ i) ∧ i ∉ COO.ids o :=
  COO.copies.assign_independent hold hdis hc

/-- along every sequence of copy/move assignments and constructions and re-sizings of two objects
    no operation is ever out of bounds, and both objects stay well formed -/
theorem run_safe (ops : List Op) (s : Pair (COO α)) (hs : COO.PairWF s) :
    ∃ s', COO.run ops s = some s' ∧ COO.PairWF s' :=
  runWith_safe (Members.step_spec COO.lawful) ops s hs

/-- if the two objects share no buffer initially they never do -/
theorem run_no_alias (ops : List Op) (s : Pair (COO α)) (hs : COO.PairWF s) (hsep : COO.PairSep s) :
    ∃ s', COO.run ops s = some s' ∧ COO.PairWF s' ∧ COO.PairSep s' :=
  runWith_sep (Members.step_spec COO.lawful) ops s hs hsep

end COO

/-! ## CSRo -/
namespace CSRo

/-- the copy constructor never reads or writes out of bounds; the copy is observationally equal to
    the source, well formed, and owns only buffers allocated by this very call -/
theorem copyCtor_obs (h : Nat) (o : CSRo α) (ho : CSRo.WF o) :
    ∃ h' c, CSRo.copyCtor h o = some (h', c) ∧ CSRo.obs c = CSRo.obs o ∧ CSRo.WF c ∧ h ≤ h' ∧
      ∀ i ∈ CSRo.ids c, h ≤ i ∧ i < h' :=
  CSRo.copies.ctor_fresh h ho

/-- copy assignment, for equal and for different sizes of target and source: never out of bounds
    (whenever the old buffers are reused their capacity suffices), result observationally equal to the source -/
theorem copyAssign_obs (h : Nat) (t o : CSRo α) (ht : CSRo.WF t) (ho : CSRo.WF o) :
    ∃ h' c, CSRo.copyAssign h t o = some (h', c) ∧ CSRo.obs c = CSRo.obs o ∧ CSRo.WF c :=
  CSRo.copies.assign h ht ho

omit [Scalar α] in
/-- move constructor and move assignment hand over the very buffers of the source and leave the
    source in the default-constructed state, which owns nothing -/
theorem move_obs (t o : CSRo α) :
    (CSRo.obs (CSRo.moveCtor o).1 = CSRo.obs o ∧ CSRo.ids (CSRo.moveCtor o).1 = CSRo.ids o ∧
      (CSRo.moveCtor o).2 = CSRo.default ∧ CSRo.ids (CSRo.moveCtor o).2 = []) ∧
    (CSRo.obs (CSRo.moveAssign t o).1 = CSRo.obs o ∧ CSRo.ids (CSRo.moveAssign t o).1 = CSRo.ids o ∧
      (CSRo.moveAssign t o).2 = CSRo.default ∧ CSRo.ids (CSRo.moveAssign t o).2 = []) :=
  ⟨⟨rfl, rfl, rfl, rfl⟩, ⟨rfl, rfl, rfl, rfl⟩⟩

omit [Scalar α] in
theorem default_WF : CSRo.WF (CSRo.default : CSRo α) := CSRo.WF_default

omit [Scalar α] in
/-- both the moved-to and the moved-from object are well formed -/
theorem move_WF (t o : CSRo α) (ho : CSRo.WF o) :
    CSRo.WF (CSRo.moveCtor o).1 ∧ CSRo.WF (CSRo.moveCtor o).2 ∧
    CSRo.WF (CSRo.moveAssign t o).1 ∧ CSRo.WF (CSRo.moveAssign t o).2 :=
  ⟨ho, CSRo.WF_default, ho, CSRo.WF_default⟩

/-- whenever the copy constructor succeeds, the copy shares no buffer with the source -/
theorem copyCtor_independent (h h' : Nat) (o c : CSRo α) (hold : ∀ i ∈ CSRo.ids o, i < h)
    (hc : CSRo.copyCtor h o = some (h', c)) : ∀ i ∈ CSRo.ids c, i ∉ CSRo.ids o :=
  CSRo.copies.ctor_independent hold hc

/-- whenever copy assignment succeeds, the target keeps (some of) its own buffers or gets fresh
    ones, and shares none with the source -/
theorem copyAssign_independent (h h' : Nat) (t o c : CSRo α) (hold : ∀ i ∈ CSRo.ids o, i < h)
    (hdis : ∀ i ∈ CSRo.ids t, i ∉ CSRo.ids o) (hc : CSRo.copyAssign h t o = some (h', c)) :
    ∀ i ∈ CSRo.ids c, (i ∈ CSRo.ids t ∨ h ≤ i) ∧ i ∉ CSRo.ids o :=
  CSRo.copies.assign_independent hold hdis hc

/-- along every sequence of copy/move assignments and constructions of two objects, and assignments of
    a default-constructed matrix (`Op.resetA`, `Op.resetB`: the model has no sizing constructor for this
    class), no operation is ever out of bounds, and both objects stay well formed -/
theorem run_safe (ops : List Op) (s : Pair (CSRo α)) (hs : CSRo.PairWF s) :
    ∃ s', CSRo.run ops s = some s' ∧ CSRo.PairWF s' :=
  runWith_safe (Members.step_spec CSRo.lawful) ops s hs

/-- if the two objects share no buffer initially they never do -/
theorem run_no_alias (ops : List Op) (s : Pair (CSRo α)) (hs : CSRo.PairWF s) (hsep : CSRo.PairSep s) :
    ∃ s', CSRo.run ops s = some s' ∧ CSRo.PairWF s' ∧ CSRo.PairSep s' :=
  runWith_sep (Members.step_spec CSRo.lawful) ops s hs hsep

end CSRo

/-! ## Diag -/
namespace Diag

/-- the copy constructor never reads or writes out of bounds; the copy is observationally equal to
    the source, well formed, and owns only buffers allocated by this very call -/
theorem copyCtor_obs (h : Nat) (o : Diag α) (ho : Diag.WF o) :
    ∃ h' c, Diag.copyCtor h o = some (h', c) ∧ Diag.obs c = Diag.obs o ∧ Diag.WF c ∧ h ≤ h' ∧
      ∀ i ∈ Diag.ids c, h ≤ i ∧ i < h' :=
  Diag.copies.ctor_fresh h ho

/-- copy assignment, for equal and for different sizes of target and source: never out of bounds
    (whenever the old buffers are reused their capacity suffices), result observationally equal to the source -/
theorem copyAssign_obs (h : Nat) (t o : Diag α) (ht : Diag.WF t) (ho : Diag.WF o) :
    ∃ h' c, Diag.copyAssign h t o = some (h', c) ∧ Diag.obs c = Diag.obs o ∧ Diag.WF c :=
  Diag.copies.assign h ht ho

omit [Scalar α] in
/-- move constructor and move assignment hand over the very buffers of the source and leave the
    source in the default-constructed state, which owns nothing -/
theorem move_obs (t o : Diag α) :
    (Diag.obs (Diag.moveCtor o).1 = Diag.obs o ∧ Diag.ids (Diag.moveCtor o).1 = Diag.ids o ∧
      (Diag.moveCtor o).2 = Diag.default ∧ Diag.ids (Diag.moveCtor o).2 = []) ∧
    (Diag.obs (Diag.moveAssign t o).1 = Diag.obs o ∧ Diag.ids (Diag.moveAssign t o).1 = Diag.ids o ∧
      (Diag.moveAssign t o).2 = Diag.default ∧ Diag.ids (Diag.moveAssign t o).2 = []) :=
  ⟨⟨rfl, rfl, rfl, rfl⟩, ⟨rfl, rfl, rfl, rfl⟩⟩

omit [Scalar α] in
theorem default_WF : Diag.WF (Diag.default : Diag α) := Diag.WF_default

omit [Scalar α] in
/-- both the moved-to and the moved-from object are well formed -/
theorem move_WF (t o : Diag α) (ho : Diag.WF o) :
    Diag.WF (Diag.moveCtor o).1 ∧ Diag.WF (Diag.moveCtor o).2 ∧
    Diag.WF (Diag.moveAssign t o).1 ∧ Diag.WF (Diag.moveAssign t o).2 :=
  ⟨ho, Diag.WF_default, ho, Diag.WF_default⟩

/-- whenever the copy constructor succeeds, the copy shares no buffer with the source -/
theorem copyCtor_independent (h h' : Nat) (o c : Diag α) (hold : ∀ i ∈ Diag.ids o, i < h)
    (hc : Diag.copyCtor h o = some (h', c)) : ∀ i ∈ Diag.ids c, i ∉ Diag.ids o :=
  Diag.copies.ctor_independent hold hc

/-- whenever copy assignment succeeds, the target keeps (some of) its own buffers or gets fresh
    ones, and shares none with the source -/
theorem copyAssign_independent (h h' : Nat) (t o c : Diag α) (hold : ∀ i ∈ Diag.ids o, i < h)
    (hdis : ∀ i ∈ Diag.ids t, i ∉ Diag.ids o) (hc : Diag.copyAssign h t o = some (h', c)) :
    ∀ i ∈ Diag.ids c, (i ∈ Diag.ids t ∨ h ≤ i) ∧ i ∉ Diag.ids o :=
  Diag.copies.assign_independent hold hdis hc

/-- along every sequence of copy/move assignments and constructions and re-sizings of two objects
    no operation is ever out of bounds, and both objects stay well formed -/
theorem run_safe (ops : List Op) (s : Pair (Diag α)) (hs : Diag.PairWF s) :
    ∃ s', Diag.run ops s = some s' ∧ Diag.PairWF s' :=
  runWith_safe (Members.step_spec Diag.lawful) ops s hs

/-- if the two objects share no buffer initially they never do -/
theorem run_no_alias (ops : List Op) (s : Pair (Diag α)) (hs : Diag.PairWF s) (hsep : Diag.PairSep s) :
    ∃ s', Diag.run ops s = some s' ∧ Diag.PairWF s' ∧ Diag.PairSep s' :=
  runWith_sep (Members.step_spec Diag.lawful) ops s hs hsep

end Diag

/-! ## Tri -/
namespace Tri

/-- the copy constructor never reads or writes out of bounds; the copy is observationally equal to
    the source, well formed, and owns only buffers allocated by this very call -/
theorem copyCtor_obs (h : Nat) (o : Tri α) (ho : Tri.WF o) :
    ∃ h' c, Tri.copyCtor h o = some (h', c) ∧ Tri.obs c = Tri.obs o ∧ Tri.WF c ∧ h ≤ h' ∧
      ∀ i ∈ Tri.ids c, h ≤ i ∧ i < h' :=
  Tri.copies.ctor_fresh h ho

/-- copy assignment, for equal and for different sizes of target and source: never out of bounds
    (whenever the old buffers are reused their capacity suffices), result observationally equal to the source -/
theorem copyAssign_obs (h : Nat) (t o : Tri α) (ht : Tri.WF t) (ho : Tri.WF o) :
    ∃ h' c, Tri.copyAssign h t o = some (h', c) ∧ Tri.obs c = Tri.obs o ∧ Tri.WF c :=
  Tri.copies.assign h ht ho

/-- move constructor and move assignment hand over the very buffers of the source and leave the
    source in the default-constructed state, which owns nothing -/
theorem move_obs (t o : Tri α) :
    (Tri.obs (Tri.moveCtor o).1 = Tri.obs o ∧ Tri.ids (Tri.moveCtor o).1 = Tri.ids o ∧
      (Tri.moveCtor o).2 = Tri.default ∧ Tri.ids (Tri.moveCtor o).2 = []) ∧
    (Tri.obs (Tri.moveAssign t o).1 = Tri.obs o ∧ Tri.ids (Tri.moveAssign t o).1 = Tri.ids o ∧
      (Tri.moveAssign t o).2 = Tri.default ∧ Tri.ids (Tri.moveAssign t o).2 = []) :=
  ⟨⟨rfl, rfl, rfl, rfl⟩, ⟨rfl, rfl, rfl, rfl⟩⟩

theorem default_WF : Tri.WF (Tri.default : Tri α) := Tri.WF_default

/-- both the moved-to and the moved-from object are well formed -/
theorem move_WF (t o : Tri α) (ho : Tri.WF o) :
    Tri.WF (Tri.moveCtor o).1 ∧ Tri.WF (Tri.moveCtor o).2 ∧
    Tri.WF (Tri.moveAssign t o).1 ∧ Tri.WF (Tri.moveAssign t o).2 :=
  ⟨ho, Tri.WF_default, ho, Tri.WF_default⟩

/-- whenever the copy constructor succeeds, the copy shares no buffer with the source -/
theorem copyCtor_independent (h h' : Nat) (o c : Tri α) (hold : ∀ i ∈ Tri.ids o, i < h)
    (hc : Tri.copyCtor h o = some (h', c)) : ∀ i ∈ Tri.ids c, i ∉ Tri.ids o :=
  Tri.copies.ctor_independent hold hc

/-- whenever copy assignment succeeds, the target keeps (some of) its own buffers or gets fresh
    ones, and shares none with the source -/
theorem copyAssign_independent (h h' : Nat) (t o c : Tri α) (hold : ∀ i ∈ Tri.ids o, i < h)
    (hdis : ∀ i ∈ Tri.ids t, i ∉ Tri.ids o) (hc : Tri.copyAssign h t o = some (h', c)) :
    ∀ i ∈ Tri.ids c, (i ∈ Tri.ids t ∨ h ≤ i) ∧ i ∉ Tri.ids o :=
  Tri.copies.assign_independent hold hdis hc

/-- `solveInPlace` (which factorises in place on first use) keeps the object well formed -/
theorem solve_WF (t : Tri α) (rhs : List α) (ht : Tri.WF t) : Tri.WF (Tri.solve t rhs).1 :=
  Objects.Tri.solve_WF rhs ht

/-- a copy (of a fresh or of an already factorised solver) solves every right-hand side to the same
    answer as its source, and ends in an observationally equal state -/
theorem copy_solves_like_source (h h' : Nat) (o c : Tri α) (rhs : List α) (ho : Tri.WF o)
    (hc : Tri.copyCtor h o = some (h', c)) :
    (Tri.solve c rhs).2 = (Tri.solve o rhs).2 ∧ Tri.obs (Tri.solve c rhs).1 = Tri.obs (Tri.solve o rhs).1 :=
  let ⟨e, w⟩ := Members.of_eq_some (Tri.copies.ctor h ho) hc
  Tri.solve_congr rhs w ho e

/-- the same after copy assignment into any well-formed target -/
theorem assigned_solves_like_source (h h' : Nat) (t o c : Tri α) (rhs : List α) (ht : Tri.WF t) (ho : Tri.WF o)
    (hc : Tri.copyAssign h t o = some (h', c)) :
    (Tri.solve c rhs).2 = (Tri.solve o rhs).2 ∧ Tri.obs (Tri.solve c rhs).1 = Tri.obs (Tri.solve o rhs).1 :=
  let ⟨e, w⟩ := Members.of_eq_some (Tri.copies.assign h ht ho) hc
  Tri.solve_congr rhs w ho e

/-- along every sequence of copy/move assignments and constructions, re-sizings and `solveInPlace`
    calls on two solvers no operation is ever out of bounds, and both objects stay well formed -/
theorem run_safe (ops : List (TriOp α)) (s : Pair (Tri α)) (hs : Tri.PairWF s) :
    ∃ s', Tri.run ops s = some s' ∧ Tri.PairWF s' :=
  runWith_safe Tri.step_spec ops s hs

/-- if the two solvers share no buffer initially they never do -/
theorem run_no_alias (ops : List (TriOp α)) (s : Pair (Tri α)) (hs : Tri.PairWF s) (hsep : Tri.PairSep s) :
    ∃ s', Tri.run ops s = some s' ∧ Tri.PairWF s' ∧ Tri.PairSep s' :=
  runWith_sep Tri.step_spec ops s hs hsep

end Tri

/-! ## non-vacuity -/

example : Vec.WF (Vec.ofSize 0 3 : Nat × Vec Rat).2 := Vec.ofSize_WF 0 3
example : Diag.WF (Diag.ofSize 0 3 : Nat × Diag Rat).2 := Diag.ofSize_WF 0 3
example : COO.WF (COO.ofSize 0 2 2 3 : Nat × COO Rat).2 := COO.ofSize_WF 0 2 2 3
example : Tri.WF (Tri.ofSize 0 3 : Nat × Tri Rat).2 := Tri.ofSize_WF 0 3
/-- a 2×2 CSR matrix with three entries -/
example : CSRo.WF (⟨2, 2, 3, some ⟨0, [1, 2, 3]⟩, some ⟨1, [0, 1, 1]⟩, some ⟨2, [0, 2, 3]⟩⟩ : CSRo Rat) :=
  ⟨rfl, rfl, rfl⟩
example : Tri.WF Tri.example3 := ⟨rfl, rfl⟩

/-- the sized and the default object are a separated, well-formed pair (hypotheses of `run_no_alias`) -/
example : Vec.PairWF (⟨1, (Vec.ofSize 0 3 : Nat × Vec Rat).2, Vec.default⟩ : Pair (Vec Rat)) ∧
    Vec.PairSep (⟨1, (Vec.ofSize 0 3 : Nat × Vec Rat).2, Vec.default⟩ : Pair (Vec Rat)) :=
  ⟨⟨Vec.ofSize_WF 0 3, Vec.WF_default⟩,
    ⟨fun i hi => by rw [List.mem_singleton.mp hi]; decide, fun _ hi => (nomatch hi), fun _ _ hi => (nomatch hi)⟩⟩

/-- a history that copies a moved-from CSR matrix (and then copies the copy back) is in bounds -/
example (m : CSRo Rat) (hm : CSRo.WF m) :
    ∃ s', CSRo.run [.moveAB, .copyBA, .ctorCopyAB, .copyAB] ⟨7, m, CSRo.default⟩ = some s' ∧ CSRo.PairWF s' :=
  CSRo.run_safe _ _ ⟨hm, CSRo.WF_default⟩

/-- `Tri.copy_solves_like_source` on a concrete solver: `example3` is factorised by a first solve; the copy of the factorised solver
    exists, is factorised, and solves a second right-hand side to the same answer -/
example :
    (Tri.solve Tri.example3 [1, 2, 3]).1.factorized = true ∧
    ∃ h' c, Tri.copyCtor 2 (Tri.solve Tri.example3 [1, 2, 3]).1 = some (h', c) ∧ c.factorized = true ∧
      (Tri.solve c [3, 2, 1]).2 = (Tri.solve (Tri.solve Tri.example3 [1, 2, 3]).1 [3, 2, 1]).2 := by
  have hw : Tri.WF (Tri.solve Tri.example3 [1, 2, 3]).1 := Tri.solve_WF _ _ ⟨rfl, rfl⟩
  obtain ⟨h', c, h1, h2, _⟩ := Tri.copyCtor_obs 2 _ hw
  refine ⟨rfl, h', c, h1, ?_, (Tri.copy_solves_like_source 2 h' _ c _ hw h1).1⟩
  have : c.factorized = (Tri.solve Tri.example3 [1, 2, 3]).1.factorized := congrArg (·.2.2.2.2.2.1) h2
  rw [this]; rfl

/-- the same by evaluation in exact rational arithmetic: the copy of the factorised solver exists and
    solves `[3, 2, 1]` to `[19/28, 2/7, 5/28]`, as does its source -/
example :
    ((Tri.copyCtor 2 (Tri.solve Tri.example3 [1, 2, 3]).1).map fun r => (Tri.solve r.2 [3, 2, 1]).2)
        = some [(19 : Rat) / 28, 2 / 7, 5 / 28] ∧
      (Tri.solve (Tri.solve Tri.example3 [1, 2, 3]).1 [3, 2, 1]).2 = [(19 : Rat) / 28, 2 / 7, 5 / 28] := by
  decide +kernel

end C15
