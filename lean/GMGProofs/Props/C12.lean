import GMGProofs.Lemmas.SchedOrder
import GMGProofs.Props.C11
import Mathlib.Tactic.NormNum
/-!
# C12 — results do not depend on the thread count or the schedule

Model of execution, frame lemma and the general determinism theorem: `GMGProofs/Lemmas/SchedOrder.lean`.

* A barrier interval is executed as its work items (loop iterations) in *some* order — which one depends on the thread
  count, the chunking and the interleaving.  `perm_invariant` + `commute_of_disjoint` = `region_determinism`: if the
  footprints do not interfere (C11), every order gives the same memory.  The value type `V` is arbitrary — in particular
  IEEE doubles with their non-associative arithmetic — so not a single output bit can change.
  `generated_regions_deterministic` instantiates this for every barrier interval of the twelve generated regions.
* `reduce_chunks`, `reduce_chunks_max`: what `reduction(+: …)` / `reduction(max: …)` compute.  Exact arithmetic: in floating
  point the grouping of a sum changes the rounding (not bit-reproducible by specification); `max` is exact in floating
  point too (a linear order on the non-NaN values).
* `threads_per_level`: `max 1 (min maxT ⌊maxT · f^d⌋)` stays in `[1, maxT]` and does not grow with the depth.
-/
namespace C12
open Sched Sched.Order

/-- pairwise commuting tasks give the same memory in any order -/
theorem perm_invariant {M : Type} (ts us : List (M → M)) (m : M) (hp : ts.Perm us)
    (hc : ∀ f ∈ ts, ∀ g ∈ ts, ∀ x, f (g x) = g (f x)) :
    ts.foldl (fun acc f => f acc) m = us.foldl (fun acc f => f acc) m :=
  Order.perm_invariant ts us m hp hc

/-- frame lemma: `f` writes only `W_f` and what it writes depends only on `R_f ∪ W_f` (`Respects`), the same for `g`,
    `W_f ∩ (R_g ∪ W_g) = ∅ = W_g ∩ (R_f ∪ W_f)` (`NonInterfering`) ⇒ `f` and `g` commute.  Any `Loc`, any `V`. -/
theorem commute_of_disjoint {Loc V : Type} {f g : (Loc → V) → (Loc → V)} {Rf Wf Rg Wg : Loc → Prop}
    (hf : Respects f Rf Wf) (hg : Respects g Rg Wg) (hd : NonInterfering Rf Wf Rg Wg) (m : Loc → V) :
    f (g m) = g (f m) :=
  Order.commute_of_disjoint hf hg hd m

/-- tasks with pairwise non-interfering footprints give the same final memory in every order -/
theorem region_determinism {Loc V : Type} (ts us : List (Task Loc V)) (hp : ts.Perm us) (hi : ts.Pairwise Task.Indep)
    (m : Loc → V) : ts.foldl (fun acc f => f.run acc) m = us.foldl (fun acc f => f.run acc) m :=
  Order.region_determinism ts us hp hi m

set_option linter.unusedVariables false in
/-- C11 + `region_determinism` for the generated regions: in every barrier interval of every region, if the code of each
    loop iteration respects the model footprint of that iteration (`iterR`, `iterW`: union over the kernel calls of its
    body), any two orders of the work items `(loop index, iteration)` give the same memory, for every value type.
    (`hnd` is not needed: a work item commutes with itself.) -/
theorem generated_regions_deterministic {V : Type} (s : Shape) (h : SmoothAdmissible s) (reg : Region) (hreg : reg ∈ Gen.all)
    (iv : List Nat) (hiv : iv ∈ intervals reg.loops)
    (run : Nat → Int → (Node → V) → (Node → V))
    (hrun : ∀ ia ∈ iv, ∀ t, (reg.loops.getD ia default).has s t →
      Respects (run ia t) (iterR s (reg.loops.getD ia default) t) (iterW s (reg.loops.getD ia default) t))
    (items items' : List (Nat × Int)) (hnd : items.Nodup)
    (hmem : ∀ p ∈ items, p.1 ∈ iv ∧ (reg.loops.getD p.1 default).has s p.2)
    (hp : items.Perm items') (m : Node → V) :
    items.foldl (fun acc p => run p.1 p.2 acc) m = items'.foldl (fun acc p => run p.1 p.2 acc) m :=
  interval_determinism (C11.race_free_all s h reg hreg) iv hiv run hrun items items' hmem hp m

/-- `reduction(+: …)`: split the list into consecutive chunks, sum each chunk, combine the partial sums in any order -/
theorem reduce_chunks {A : Type} [AddCommMonoid A] (chunks : List (List A)) (partials : List A)
    (hp : (chunks.map List.sum).Perm partials) : partials.sum = chunks.flatten.sum := by
  rw [← hp.sum_eq, List.sum_flatten]

/-- `reduction(max: …)` on a linear order, every partial maximum and the combination starting from the incoming value `b` -/
theorem reduce_chunks_max {A : Type} [LinearOrder A] (chunks : List (List A)) (partials : List A) (b : A)
    (hp : (chunks.map (fun c => c.foldl max b)).Perm partials) :
    partials.foldl max b = chunks.flatten.foldl max b := by
  -- both sides have the same upper bounds: `b` and every element of every chunk
  refine eq_of_forall_ge_iff fun y => ?_
  simp only [foldl_max_le_iff, ← hp.mem_iff, List.mem_map, List.mem_flatten]
  refine and_congr_right fun hb => ⟨?_, ?_⟩
  · rintro h a ⟨c, hc, hac⟩
    exact ((foldl_max_le_iff c b y).mp (h _ ⟨c, hc, rfl⟩)).2 a hac
  · rintro h _ ⟨c, hc, rfl⟩
    exact (foldl_max_le_iff c b y).mpr ⟨hb, fun a ha => h a ⟨c, hc, ha⟩⟩

/-- `threads(d) = max 1 (min maxT ⌊maxT · f^d⌋)`, `0 < f ≤ 1`, `1 ≤ maxT` -/
theorem threads_per_level (maxT : Int) (f : Rat) (hT : 1 ≤ maxT) (hf0 : 0 < f) (hf1 : f ≤ 1) :
    (∀ d, 1 ≤ threads maxT f d ∧ threads maxT f d ≤ maxT) ∧
    (∀ d d', d ≤ d' → threads maxT f d' ≤ threads maxT f d) ∧
    threads maxT f 0 = maxT :=
  have hT0 : (0 : Rat) ≤ maxT := by exact_mod_cast (by omega : (0 : Int) ≤ maxT)
  ⟨fun _ => ⟨le_max_left _ _, max_le hT (min_le_left _ _)⟩,
   fun _ _ hd => max_le_max (le_refl _) (min_le_min (le_refl _)
     (Int.floor_le_floor (mul_le_mul_of_nonneg_left (pow_le_pow_of_le_one hf0.le hf1 hd) hT0))),
   by simp only [threads, pow_zero, mul_one, Int.floor_intCast, min_self]; exact max_eq_right hT⟩

/-! ### non-vacuity -/

/-- two concrete tasks on two cells: `f` increments cell `true`, `g` doubles cell `false` -/
example : ∃ (f g : Task Bool Nat), f.Indep g ∧ f.run ≠ g.run ∧ f.run (g.run fun _ => 1) true = 2 :=
  ⟨⟨fun m x => if x then m true + 1 else m x, fun x => x = true, fun x => x = true,
      ⟨fun m x hx => by simp only [Bool.not_eq_true] at hx; simp [hx],
       fun m m' hm x hx => by subst hx; simp [hm true (Or.inl rfl)]⟩⟩,
   ⟨fun m x => if x then m x else 2 * m false, fun x => x = false, fun x => x = false,
      ⟨fun m x hx => by simp only [Bool.not_eq_false] at hx; simp [hx],
       fun m m' hm x hx => by subst hx; simp [hm false (Or.inl rfl)]⟩⟩,
   ⟨by intro x hx; subst hx; simp, by intro x hx; subst hx; simp⟩,
   fun h => by have := congrFun (congrFun h (fun _ => 1)) true; simp at this,
   by simp⟩

/-- the disjointness hypothesis is needed: "copy cell 0 to cell 1" and "increment cell 0" do not commute -/
example : ∃ (f g : (Bool → Nat) → (Bool → Nat)) (m : Bool → Nat), f (g m) ≠ g (f m) :=
  ⟨fun m x => if x then m false else m x, fun m x => if x then m x else m false + 1, fun _ => 0,
   fun h => by have := congrFun h true; simp at this⟩

example : ([3, 9, 3] : List Nat).sum = ([[1, 2], [3], [4, 5]] : List (List Nat)).flatten.sum :=
  reduce_chunks [[1, 2], [3], [4, 5]] [3, 9, 3] (by decide)
example : ([7, 4, 9] : List Nat).foldl max 4 = ([[1, 7], [], [9, 5]] : List (List Nat)).flatten.foldl max 4 :=
  reduce_chunks_max [[1, 7], [], [9, 5]] [7, 4, 9] 4 (by decide)

/-- 16 threads, factor 1/2: 16, 8, 4, 2, 1, 1, … -/
example : threads 16 (1 / 2) 2 = 4 ∧ threads 16 (1 / 2) 6 = 1 := by
  constructor <;> (unfold threads; norm_num [Int.floor_eq_iff])

end C12
