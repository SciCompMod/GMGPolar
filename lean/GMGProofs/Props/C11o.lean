import Generated.OwnerSep
/-!
# C11 (second part) — the owner-computes parallel regions are race free, for every shape

`Owner.Gen.all` is regenerated from the C++ by `tools/omp_owner.py` on every check: all `#pragma omp parallel …` regions
that are not kernel-dispatch regions (transfers, injection, FMG interpolation, level caches, right-hand side, exact error,
extrapolated residual, vector kernels, reductions, container loops).  The translator admits a loop only in owner-computes form
(every store and every other use of a stored array has the iteration's own index); the generated file carries, for each
region, the lemma `<region>_sep` (two loops that are not separated by a barrier touch disjoint rectangles of cells,
proved by `omega` on the generated bounds).  Here: separation ⇒ race freedom, for every region and every shape.
-/
namespace C11o
open Owner
open Sched (Shape)

theorem same_loop_disjoint (l : OLoop) (s : Shape) (t t' : Int) (h : t ≠ t') (a : String) (r c : Int) :
    ¬ (l.touches s t a r c ∧ l.touches s t' a r c) := by
  intro ⟨⟨_, h1⟩, ⟨_, h2⟩⟩
  cases hk : l.kind <;> simp only [hk] at h1 h2 <;> omega

theorem sep_disjoint (l l' : OLoop) (s : Shape) (hs : LoopsSep s l l') (t t' : Int) (ht : l.iter s t) (ht' : l'.iter s t')
    (a : String) (r c : Int) : ¬ (l.touches s t a r c ∧ l'.touches s t' a r c) := by
  intro ⟨⟨ha, h1⟩, ⟨ha', h2⟩⟩
  obtain hs | hs := hs
  · exact hs a ha ha'
  · unfold OLoop.iter at ht ht'
    cases hk : l.kind <;> cases hk' : l'.kind <;> simp only [hk, hk'] at h1 h2 hs ht ht' <;> omega

theorem raceFree_of_separated (s : Shape) (reg : ORegion) (h : Separated s reg) : RaceFree s reg :=
  ⟨fun l _ t t' _ _ hne => same_loop_disjoint l s t t' hne, fun p hp t t' => sep_disjoint _ _ s (h p hp) t t'⟩

/-- **every generated owner-computes region is race free, for every grid shape** (no admissibility hypothesis is needed:
    the circle rows `[0, nc)` and the radial rows `[nc, nr)` are disjoint for any `nc`) -/
theorem owner_regions_race_free : ∀ reg ∈ Gen.all, ∀ s : Shape, RaceFree s reg :=
  fun reg h s => raceFree_of_separated s reg (Gen.all_sep reg h s)

/-! ## non-vacuity and sensitivity -/

/-- the two `nowait` loops of the optimised prolongation really are concurrent, both have iterations, and they touch cells -/
example : pairs Gen.rsrc_Interpolation_prolongation_cpp_1 = [(0, 1)] ∧
    (Gen.rsrc_Interpolation_prolongation_cpp_1.loops.getD 0 default).touches ⟨9, 8, 4⟩ 3 "result" 3 5 ∧
    (Gen.rsrc_Interpolation_prolongation_cpp_1.loops.getD 1 default).touches ⟨9, 8, 4⟩ 5 "result" 6 5 := by
  refine ⟨by rfl, ?_, ?_⟩ <;> simp [Gen.rsrc_Interpolation_prolongation_cpp_1, OLoop.touches]

/-- the model can express a race: had the circle loop run one row too far (`i_r ≤ nc`), it would collide with the radial loop -/
def badProlongation : ORegion := { name := "bad", loops := [
  { kind := .rowOuter, lo := fun _ => 0, hi := fun s => s.nc + 1, ilo := fun _ => 0, ihi := fun s => s.nt, step := 1, nowait := true, arrays := ["result"] },
  { kind := .colOuter, lo := fun _ => 0, hi := fun s => s.nt, ilo := fun s => s.nc, ihi := fun s => s.nr, step := 1, nowait := true, arrays := ["result"] }] }

theorem one_row_too_far_races : ¬ RaceFree ⟨9, 8, 4⟩ badProlongation := by
  intro h
  have hp : ((0, 1) : Nat × Nat) ∈ pairs badProlongation := by
    have : pairs badProlongation = [(0, 1)] := by rfl
    rw [this]; simp
  have := h.2 (0, 1) hp 4 0 (by simp [badProlongation, OLoop.iter]) (by simp [badProlongation, OLoop.iter]) "result" 4 0
  apply this
  constructor <;> simp [badProlongation, OLoop.touches]

/-- … and the barrier matters: with a barrier between the loops (`nowait := false`) there is no concurrent pair -/
theorem barrier_removes_pair : pairsFrom 0 [false, true] = [] ∧ pairsFrom 0 [true, true] = [(0, 1)] ∧
    pairsFrom 0 [true, true, false, true] = [(0, 1), (0, 2), (1, 2)] := by
  refine ⟨by rfl, by rfl, by rfl⟩

end C11o
