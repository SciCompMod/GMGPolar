import GMGProofs.Props.C06c
import GMGProofs.Lemmas.SmootherCodeSPDRadial
/-!
# C06 / C05 (code level, Dirichlet mode) — the line blocks the smoother factorises ARE symmetric positive definite

`C05.pd_dirichlet` (positive definiteness of the interior operator for a Dirichlet inner boundary and elliptic data) is
transported to the matrices `SmootherTake::buildAscMatrices` stores (`GMGModel/SmootherCode.lean`): every circle matrix is
SPD in the cyclic sense of C14 (`Tridiag.SPDc`), every radial matrix SPD (`Tridiag.SPD`), the innermost circle's matrix is
the identity.  Hence `C06c.LinesOK` is a THEOREM in that mode, and the code-level sweep is an exact zebra relaxation that
never divides by zero and never increases the energy norm of the error — no hypothesis about the line solves left.
Property theorems only; helper lemmas in `GMGProofs/Lemmas/SmootherCodeSPD*.lean`.
-/
namespace C06d
open Stencil Smoother SmootherCode C06c

variable {K : Type} [_root_.Field K] [LinearOrder K] [IsStrictOrderedRing K]

/-- "the line blocks the smoothers factorise inherit both properties" (property C05) for the stored circle matrices -/
theorem circle_matrix_spd_dirichlet (o : Op K) (nc : Nat) (hnr : 4 ≤ o.nr) (hnt : 4 ≤ o.nt) (heven : o.nt % 2 = 0)
    (hbc : o.bc = true) (he : Elliptic o) (i : Nat) (hi0 : 0 < i) (hi : i < nc) (hnc : nc < o.nr) :
    Tridiag.SPDc (circleMain o i) (circleSub o i) (circleCorner o i) := by
  intro xs hxs hnz
  have hlen : xs.length = o.nt := by simpa using hxs
  rw [circle_Qc_eq_inner o nc (by omega) i hi0 hi hnc xs hlen]
  refine C05.pd_dirichlet o hnr (by omega) heven hbc he _ (circleField_V0 o i xs hi0 (by omega)) ?_
  obtain ⟨t, ht, hne⟩ := exists_ne_of_not_allZero xs hnz
  refine ⟨i, t, by omega, by omega, ?_⟩
  simpa [circleField, withCircle] using hne

/-- … and for the stored radial matrices (identity row on the outer boundary, coupling to it stored as zero) -/
theorem radial_matrix_spd_dirichlet (o : Op K) (nc : Nat) (hnr : nc + 3 ≤ o.nr) (hnc : 2 ≤ nc) (hnt : 4 ≤ o.nt)
    (heven : o.nt % 2 = 0) (hbc : o.bc = true) (he : Elliptic o) (j : Nat) (hj : j < o.nt) :
    Tridiag.SPD (radialMain o nc j) (radialSub o nc j) := by
  intro xs hxs hnz
  have hlen : xs.length = o.nr - nc := by simpa using hxs
  rw [radial_Q_eq_inner o nc j hnc hnr (by omega) hj xs hlen]
  have hV := radialField_V0 o nc j xs (by omega : 1 ≤ nc)
  obtain ⟨t, ht, hne⟩ := exists_ne_of_not_allZero xs hnz
  by_cases hlast : t = o.nr - nc - 1
  · -- the entry of the Dirichlet node does not vanish
    have h1 := C05.psd_dirichlet o (by omega) (by omega) heven hbc he _ hV
    have h2 : 0 < xs.getD (o.nr - nc - 1) 0 * xs.getD (o.nr - nc - 1) 0 := by
      rw [← hlast]; exact mul_self_pos.mpr hne
    linarith
  · -- the field on the line does not vanish
    have h1 : 0 < inner o (A o (radialField o nc j xs)) (radialField o nc j xs) := by
      refine C05.pd_dirichlet o (by omega) (by omega) heven hbc he _ hV ⟨nc + t, j, by omega, hj, ?_⟩
      rw [radialField_apply, if_pos ⟨by omega, by omega, rfl⟩, Nat.add_sub_cancel_left]
      exact hne
    have h2 := mul_self_nonneg (xs.getD (o.nr - nc - 1) 0)
    linarith

omit [LinearOrder K] [IsStrictOrderedRing K] in
/-- the innermost circle's matrix is the identity in Dirichlet mode: all LU pivots are 1 -/
theorem inner_pivots_dirichlet (o : Op K) (hbc : o.bc = true) (i : Nat) (hi : i < o.nt) :
    SparseLU.den ((SparseLU.factorRows (innerCSR o)).2.getD i []) i = 1 := by
  refine SparseLU.pivot_of_diag_row _ (show i < (innerCSR o).rows from hi) ?_
  rw [rowEntries_innerCSR o i hi, innerRow, if_pos hbc, Scalar.n_one]

/-- **`LinesOK` is a theorem in Dirichlet mode** -/
theorem linesOK_dirichlet (o : Op K) (nc : Nat) (hnr : nc + 3 ≤ o.nr) (hnc : 2 ≤ nc) (hnt : 4 ≤ o.nt)
    (heven : o.nt % 2 = 0) (hbc : o.bc = true) (he : Elliptic o) : LinesOK o nc := by
  refine linesOK_of_spd o nc hnt hnr ?_ ?_ ?_
  · intro i hi0 hi
    exact circle_matrix_spd_dirichlet o nc (by omega) hnt heven hbc he i hi0 hi (by omega)
  · intro j hj
    exact radial_matrix_spd_dirichlet o nc hnr hnc hnt heven hbc he j hj
  · intro i hi
    rw [inner_pivots_dirichlet o hbc i hi]
    exact one_ne_zero

/-- the code-level sweep is an exact zebra relaxation, no hypothesis on the line solves -/
theorem code_sweep_isSweep_dirichlet (o : Op K) (nc : Nat) (tiny : K → Bool) (f : Stencil.Field K) (x y : Array K)
    (hnr : nc + 3 ≤ o.nr) (hnc : 2 ≤ nc) (hnt : 4 ≤ o.nt) (heven : o.nt % 2 = 0) (hbc : o.bc = true) (he : Elliptic o)
    (hx : x.size = o.nr * o.nt) (hs : sweep o tiny nc f x = some y) :
    IsSweep o nc f (fld o.nt x) (fld o.nt y) := by
  exact code_sweep_isSweep o nc tiny f x y hnt heven hnc hnr hx (linesOK_dirichlet o nc hnr hnc hnt heven hbc he) hs

omit [LinearOrder K] [IsStrictOrderedRing K] in
/-- it returns (no `std::exit`) for every `tiny` test that does not fire on 1 -/
theorem code_sweep_total_dirichlet (o : Op K) (nc : Nat) (tiny : K → Bool) (ht : tiny 1 = false) (f : Stencil.Field K)
    (x : Array K) (hbc : o.bc = true) : ∃ y, sweep o tiny nc f x = some y := by
  refine code_sweep_total o nc tiny f x ?_
  intro i hi
  rw [inner_pivots_dirichlet o hbc i hi]
  exact ht

/-- property clause "once the boundary values carry the data, a sweep never increases the energy norm of the error",
    for the code-level sweep -/
theorem code_sweep_energy_dirichlet (o : Op K) (nc : Nat) (tiny : K → Bool) (f u : Stencil.Field K) (x y : Array K)
    (hnr : nc + 3 ≤ o.nr) (hnc : 2 ≤ nc) (hnt : 4 ≤ o.nt) (heven : o.nt % 2 = 0) (hbc : o.bc = true) (he : Elliptic o)
    (hx : x.size = o.nr * o.nt) (hs : sweep o tiny nc f x = some y)
    (hu : ∀ i j, i < o.nr → j < o.nt → take o f u i j = 0)
    (hxD : ∀ j, j < o.nt → fld o.nt x (o.nr - 1) j = f (o.nr - 1) j ∧ fld o.nt x 0 j = f 0 j) :
    inner o (A o (gridErr o (fld o.nt y) u)) (gridErr o (fld o.nt y) u)
      ≤ inner o (A o (gridErr o (fld o.nt x) u)) (gridErr o (fld o.nt x) u) := by
  exact C06.energy_full o nc f u (fld o.nt x) (fld o.nt y) (by omega) (by omega) heven hbc he hu hxD
    (code_sweep_isSweep_dirichlet o nc tiny f x y hnr hnc hnt heven hbc he hx hs)

end C06d
