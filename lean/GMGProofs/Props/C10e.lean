import GMGProofs.Props.C10d
import GMGProofs.Lemmas.ConcreteShift
/-!
# C10 (the whole cycle inside the model, continued): totality, the coarse-grid correction, translation invariance

* `concrete_cycle_total` / `concrete_cycle_total_bc`: on an admissible hierarchy (Dirichlet inner boundary on every smoothing level,
  `tiny 1 = false`, a coarse sparse LU whose `tiny` test does not fire) the concrete cycle never ends in `none` — the modelled
  process neither leaves through the sparse LU's `std::exit` branch nor stores out of bounds — for ANY iterate and right-hand
  side, any depth, V/W/F, any smoothing counts; and the result has the size of the level-0 grid.  Ellipticity, grid sizes and
  non-zero coarse pivots are not needed for this.
* `concrete_two_level_correction_arr` / `concrete_two_level_correction`: two levels without smoothing: the new iterate is `u + P e`
  where `e` SOLVES the coarse system `A₁ e = R (f − A₀ u)` assembled by the code-level direct solver (C10's clause "two levels
  without smoothing equal u + P A_c⁻¹ R (f − A u)" with A_c⁻¹ the code-level solve).  `_arr`: `R` applied to the residual array
  the code holds (no shape assumption); the other: `R` applied to the residual field, which needs the pair / the coarse level
  to fit the fine grid (`two_level_correction_pair_needed`: false otherwise).
* `concrete_cycle_translate` / `concrete_cycle_translate_bc` (error propagation does not depend on the solution): shifting the iterate
  by `w` and the right-hand side by `A₀ w` shifts the result by `w`.
Also their instances on `C10c.exH`, `C10d.exH3` and the counterexample hierarchy `badH`; helper lemmas in
`GMGProofs/Lemmas/ConcreteCyc.lean`, `ConcreteOps.lean`, `ConcreteShift.lean`.
-/
namespace C10e
open MGCycle Concrete Stencil C10d

section Ordered
variable {K : Type} [_root_.Field K] [LinearOrder K] [IsStrictOrderedRing K]

omit [LinearOrder K] [IsStrictOrderedRing K] in
/-- **the concrete cycle is total**, minimal hypotheses: a Dirichlet inner boundary on the smoothing levels (then the only sparse LU
    inside a sweep has pivots 1), `tiny 1 = false`, the coarse assembly in bounds, `tiny` firing on no coarse pivot.  No
    ellipticity, no size conditions on the grids, no order on the field, zero coarse pivots allowed (`x / 0` is a value of the
    model; with IEEE doubles it is ±inf/NaN, which the C++ does not test either). -/
theorem concrete_cycle_total_bc (H : Hier K) (L : Nat) (hL : 2 ≤ L) (k : Kind) (nu1 nu2 : Nat) (fgs : Bool) (u f : Array K)
    (hbc : ∀ l, l + 1 < L → (lvl H l).op.bc = true) (ht1 : H.tiny 1 = false)
    (M : SparseLU.CSR K) (hM : DirectCode.assemble H.tables (lvl H (L - 1)).op = some M)
    (ht : ∀ r, r < M.rows → H.tiny (SparseLU.den ((SparseLU.factorRows M).2.getD r []) r) = false)
    (hu : u.size = (lvl H 0).op.nr * (lvl H 0).op.nt)
    (m : Mem (Option (Array K))) (hm : m (0, Buf.sol) = some u) (hr : m (0, Buf.rhs) = some f) :
    ∃ y, cycle H ⟨L, nu1, nu2⟩ k false fgs m (0, Buf.sol) = some y ∧ y.size = (lvl H 0).op.nr * (lvl H 0).op.nt := by
  rw [cycle_plain_eq H _ k fgs m hm hr]
  exact cyc_inv (opsInvL H L nu1 nu2 hbc ht1 ⟨M, hM, ht⟩) _ k 0 (some u) (some f) (show 0 < L - 1 by omega) ⟨u, rfl, hu⟩
    ⟨f, rfl, fun h => by omega⟩

omit [IsStrictOrderedRing K] in
/-- **the concrete cycle is total** (the hypotheses of `C10d.concrete_exact_fixed_depth`, without exactness of `u`) -/
theorem concrete_cycle_total (H : Hier K) (L : Nat) (hL : 2 ≤ L) (k : Kind) (nu1 nu2 : Nat) (fgs : Bool) (u f : Array K)
    (hlev : ∀ l, l + 1 < L → LevelOK (lvl H l)) (ht1 : H.tiny 1 = false)
    (M : SparseLU.CSR K) (hM : DirectCode.assemble H.tables (lvl H (L - 1)).op = some M)
    (ht : ∀ r, r < M.rows → H.tiny (SparseLU.den ((SparseLU.factorRows M).2.getD r []) r) = false)
    (hu : u.size = (lvl H 0).op.nr * (lvl H 0).op.nt)
    (m : Mem (Option (Array K))) (hm : m (0, Buf.sol) = some u) (hr : m (0, Buf.rhs) = some f) :
    ∃ y, cycle H ⟨L, nu1, nu2⟩ k false fgs m (0, Buf.sol) = some y ∧ y.size = (lvl H 0).op.nr * (lvl H 0).op.nt :=
  concrete_cycle_total_bc H L hL k nu1 nu2 fgs u f (fun l h => (hlev l h).bc) ht1 M hM ht hu m hm hr

/-- **two levels, no smoothing: the coarse-grid correction with the code-level coarse solve**, no assumption on the shapes: the
    right-hand side of the coarse system is the restriction of the residual ARRAY the code holds, read back as a node field
    (zero outside the fine grid) -/
theorem concrete_two_level_correction_arr (H : Hier K) (k : Kind) (fgs : Bool) (u f y : Array K)
    (htab : H.tables = C04c.genTables)
    (hnr1 : 4 ≤ (lvl H 1).op.nr) (hnt1 : 4 ≤ (lvl H 1).op.nt) (heven1 : (lvl H 1).op.nt % 2 = 0)
    (hbc1 : (lvl H 1).op.bc = true) (he1 : Elliptic (lvl H 1).op)
    (hu : u.size = (lvl H 0).op.nr * (lvl H 0).op.nt)
    (m : Mem (Option (Array K))) (hm : m (0, Buf.sol) = some u) (hr : m (0, Buf.rhs) = some f)
    (hy : cycle H ⟨2, 0, 0⟩ k false fgs m (0, Buf.sol) = some y) :
    ∃ e : Array K, e.size = (lvl H 1).op.nr * (lvl H 1).op.nt ∧
      (∀ I J, I < (lvl H 1).op.nr → J < (lvl H 1).op.nt →
        take (lvl H 1).op
          (Interp.restrict (pair H 0) (SmootherCode.fld (lvl H 0).op.nt
            (SmootherCode.ofField (lvl H 0).op.nr (lvl H 0).op.nt
              (take (lvl H 0).op (SmootherCode.fld (lvl H 0).op.nt f) (SmootherCode.fld (lvl H 0).op.nt u)))))
          (SmootherCode.fld (lvl H 1).op.nt e) I J = 0) ∧
      ∀ i j, i < (lvl H 0).op.nr → j < (lvl H 0).op.nt →
        SmootherCode.fld (lvl H 0).op.nt y i j =
          SmootherCode.fld (lvl H 0).op.nt u i j + Interp.prolong (pair H 0) (SmootherCode.fld (lvl H 1).op.nt e) i j := by
  unfold cycle at hy
  rw [C10.two_level_nosm (ops H) ⟨2, 0, 0⟩ k fgs m rfl rfl rfl, hm, hr, ops_resid_some, ops_restrict_some] at hy
  obtain ⟨e, h1, h2, h3⟩ := ops_correction H u _ y htab hnr1 hnt1 heven1 hbc1 he1 hu (ofFld_size H 1 _) hy
  exact ⟨e, h1, fun I J hI hJ =>
    (take_congr_rhs _ _ _ _ I J (fld_ofFld_grid H 1 _ I J hI hJ).symm).trans (h2 I J hI hJ), h3⟩

/-- **two levels, no smoothing: `y = u + P e` with `A₁ e = R (f − A₀ u)`**, the residual as a node field.  `hpair`, `hshape`: the
    transfer pair describes (at most) the fine grid and the coarse grid has (at most) every second node — what `setup()` builds
    (`C10c.TwoLevel.pairF`, `.shape1` with equalities); without them `Interp.restrict` at a coarse node would read nodes outside
    the fine grid, where the code reads the residual ARRAY (zeros) and `take …` is some other value. -/
theorem concrete_two_level_correction (H : Hier K) (k : Kind) (fgs : Bool) (u f y : Array K)
    (htab : H.tables = C04c.genTables)
    (hnr1 : 4 ≤ (lvl H 1).op.nr) (hnt1 : 4 ≤ (lvl H 1).op.nt) (heven1 : (lvl H 1).op.nt % 2 = 0)
    (hbc1 : (lvl H 1).op.bc = true) (he1 : Elliptic (lvl H 1).op)
    (hpair : (pair H 0).nrF ≤ (lvl H 0).op.nr ∧ (pair H 0).ntF ≤ (lvl H 0).op.nt)
    (hshape : 2 * (lvl H 1).op.nr ≤ (lvl H 0).op.nr + 1 ∧ 2 * (lvl H 1).op.nt ≤ (lvl H 0).op.nt)
    (hu : u.size = (lvl H 0).op.nr * (lvl H 0).op.nt)
    (m : Mem (Option (Array K))) (hm : m (0, Buf.sol) = some u) (hr : m (0, Buf.rhs) = some f)
    (hy : cycle H ⟨2, 0, 0⟩ k false fgs m (0, Buf.sol) = some y) :
    ∃ e : Array K, e.size = (lvl H 1).op.nr * (lvl H 1).op.nt ∧
      (∀ I J, I < (lvl H 1).op.nr → J < (lvl H 1).op.nt →
        take (lvl H 1).op
          (Interp.restrict (pair H 0) (take (lvl H 0).op (SmootherCode.fld (lvl H 0).op.nt f) (SmootherCode.fld (lvl H 0).op.nt u)))
          (SmootherCode.fld (lvl H 1).op.nt e) I J = 0) ∧
      ∀ i j, i < (lvl H 0).op.nr → j < (lvl H 0).op.nt →
        SmootherCode.fld (lvl H 0).op.nt y i j =
          SmootherCode.fld (lvl H 0).op.nt u i j + Interp.prolong (pair H 0) (SmootherCode.fld (lvl H 1).op.nt e) i j := by
  obtain ⟨e, h1, h2, h3⟩ := concrete_two_level_correction_arr H k fgs u f y htab hnr1 hnt1 heven1 hbc1 he1 hu m hm hr hy
  refine ⟨e, h1, fun I J hI hJ => ?_, h3⟩
  rw [← h2 I J hI hJ]
  apply take_congr_rhs
  refine restrict_congr_grid (pair H 0) (lvl H 0).op.nr (lvl H 0).op.nt _ _
    (fun a b ha hb => (SmootherCode.fld_ofField _ _ _ a b ha hb).symm) I J (by omega) (fun h => ?_) (by omega) hpair.2
  unfold Interp.nrC at h
  omega

/-- **translation invariance**, strongest form: only level 0 has to be an admissible smoothing level (uniqueness of the sweep
    equations), the other smoothing levels need the Dirichlet inner boundary (totality); the cycle on `(u, f)` returns some `y` of
    the size of level 0 and the cycle on `(u + w, f + g)` returns `y + w`.  Nothing is assumed about the sizes of `w`, `g` (the
    model reads them with a default and only on the grid); `f` must cover the grid, otherwise `f += g` is cut off. -/
theorem concrete_cycle_translate_bc (H : Hier K) (L : Nat) (hL : 2 ≤ L) (k : Kind) (nu1 nu2 : Nat) (fgs : Bool) (u f w g : Array K)
    (h0 : LevelOK (lvl H 0)) (hbc : ∀ l, l + 1 < L → (lvl H l).op.bc = true) (ht1 : H.tiny 1 = false)
    (M : SparseLU.CSR K) (hM : DirectCode.assemble H.tables (lvl H (L - 1)).op = some M)
    (ht : ∀ r, r < M.rows → H.tiny (SparseLU.den ((SparseLU.factorRows M).2.getD r []) r) = false)
    (hu : u.size = (lvl H 0).op.nr * (lvl H 0).op.nt) (hf : (lvl H 0).op.nr * (lvl H 0).op.nt ≤ f.size)
    (hAw : ∀ i j, i < (lvl H 0).op.nr → j < (lvl H 0).op.nt →
      take (lvl H 0).op (SmootherCode.fld (lvl H 0).op.nt g) (SmootherCode.fld (lvl H 0).op.nt w) i j = 0)
    (m m' : Mem (Option (Array K)))
    (hm : m (0, Buf.sol) = some u) (hr : m (0, Buf.rhs) = some f)
    (hm' : m' (0, Buf.sol) = some (Array.ofFn (n := u.size) fun p => u[p] + w.getD p.val 0))
    (hr' : m' (0, Buf.rhs) = some (Array.ofFn (n := f.size) fun p => f[p] + g.getD p.val 0)) :
    ∃ y, y.size = (lvl H 0).op.nr * (lvl H 0).op.nt ∧
      cycle H ⟨L, nu1, nu2⟩ k false fgs m (0, Buf.sol) = some y ∧
      cycle H ⟨L, nu1, nu2⟩ k false fgs m' (0, Buf.sol) = some (Array.ofFn (n := y.size) fun p => y[p] + w.getD p.val 0) := by
  obtain ⟨y, h1, h2, h3⟩ := cyc_translate H L nu1 nu2 hL k h0.hyp hbc ht1 ⟨M, hM, ht⟩ f g w hf hAw (some u)
    (some (addArr u w)) ⟨u, rfl, hu, rfl⟩
  exact ⟨y, h2, (cycle_plain_eq H _ k fgs m hm hr).trans h1, (cycle_plain_eq H _ k fgs m' hm' hr').trans h3⟩

/-- **translation invariance** (the error propagation of the concrete cycle does not depend on the solution): if `A₀ w = g`
    (stated as `take op₀ g w = 0`), then running the cycle on `(u + w, f + g)` gives the result for `(u, f)` shifted by `w` -/
theorem concrete_cycle_translate (H : Hier K) (L : Nat) (hL : 2 ≤ L) (k : Kind) (nu1 nu2 : Nat) (fgs : Bool) (u f w g y : Array K)
    (hlev : ∀ l, l + 1 < L → LevelOK (lvl H l)) (ht1 : H.tiny 1 = false)
    (M : SparseLU.CSR K) (hM : DirectCode.assemble H.tables (lvl H (L - 1)).op = some M)
    (ht : ∀ r, r < M.rows → H.tiny (SparseLU.den ((SparseLU.factorRows M).2.getD r []) r) = false)
    (hu : u.size = (lvl H 0).op.nr * (lvl H 0).op.nt) (hf : (lvl H 0).op.nr * (lvl H 0).op.nt ≤ f.size)
    (hAw : ∀ i j, i < (lvl H 0).op.nr → j < (lvl H 0).op.nt →
      take (lvl H 0).op (SmootherCode.fld (lvl H 0).op.nt g) (SmootherCode.fld (lvl H 0).op.nt w) i j = 0)
    (m m' : Mem (Option (Array K)))
    (hm : m (0, Buf.sol) = some u) (hr : m (0, Buf.rhs) = some f)
    (hm' : m' (0, Buf.sol) = some (Array.ofFn (n := u.size) fun p => u[p] + w.getD p.val 0))
    (hr' : m' (0, Buf.rhs) = some (Array.ofFn (n := f.size) fun p => f[p] + g.getD p.val 0))
    (hy : cycle H ⟨L, nu1, nu2⟩ k false fgs m (0, Buf.sol) = some y) :
    cycle H ⟨L, nu1, nu2⟩ k false fgs m' (0, Buf.sol) = some (Array.ofFn (n := y.size) fun p => y[p] + w.getD p.val 0) := by
  obtain ⟨y', _, h1, h2⟩ := concrete_cycle_translate_bc H L hL k nu1 nu2 fgs u f w g (hlev 0 (by omega))
    (fun l h => (hlev l h).bc) ht1 M hM ht hu hf hAw m m' hm hr hm' hr'
  rw [hy] at h1
  rw [Option.some.inj h1]
  exact h2

end Ordered

/-! ## non-vacuity, and the shape hypotheses of `concrete_two_level_correction` are needed -/

/-- `concrete_cycle_total` on the three-level hierarchy `C10d.exH3` (13 × 16 → 7 × 8 → 4 × 4): EVERY iterate of the right size and
    EVERY right-hand side, any kind, any smoothing counts -/
example (k : Kind) (nu1 nu2 : Nat) (fgs : Bool) (u f : Array ℚ) (hu : u.size = 13 * 16) (m : Mem (Option (Array ℚ)))
    (hm : m (0, Buf.sol) = some u) (hr : m (0, Buf.rhs) = some f) :
    ∃ y, cycle exH3 ⟨3, nu1, nu2⟩ k false fgs m (0, Buf.sol) = some y ∧ y.size = 13 * 16 := by
  obtain ⟨M, hM, ht⟩ := C10c.exL1_coarse
  exact concrete_cycle_total exH3 3 (by decide) k nu1 nu2 fgs u f exH3_levels C10c.exTiny_one M hM ht hu m hm hr

/-- `concrete_two_level_correction` on `C10c.exH` (7 × 8 → 4 × 4): every hypothesis holds (level 1 is 4 × 4, Dirichlet, elliptic; the
    pair and the shapes are those of `C10c.exH_twoLevel`), and the hypothesis `hy` is met for EVERY iterate of the right size and
    every right-hand side, by `concrete_cycle_total` -/
example (k : Kind) (fgs : Bool) (u f : Array ℚ) (hu : u.size = 7 * 8) (m : Mem (Option (Array ℚ)))
    (hm : m (0, Buf.sol) = some u) (hr : m (0, Buf.rhs) = some f) :
    ∃ y e : Array ℚ, cycle C10c.exH ⟨2, 0, 0⟩ k false fgs m (0, Buf.sol) = some y ∧ e.size = 4 * 4 ∧
      (∀ I J, I < 4 → J < 4 →
        take C10c.exL1.op (Interp.restrict C10c.exP (take C10c.exL0.op (SmootherCode.fld 8 f) (SmootherCode.fld 8 u)))
          (SmootherCode.fld 4 e) I J = 0) ∧
      ∀ i j, i < 7 → j < 8 →
        SmootherCode.fld 8 y i j = SmootherCode.fld 8 u i j + Interp.prolong C10c.exP (SmootherCode.fld 4 e) i j := by
  obtain ⟨M, hM, ht⟩ := C10c.exL1_coarse
  obtain ⟨y, hy, _⟩ := concrete_cycle_total C10c.exH 2 (by decide) k 0 0 fgs u f exH_levels C10c.exTiny_one M hM ht hu m hm hr
  obtain ⟨e, h1, h2, h3⟩ := concrete_two_level_correction C10c.exH k fgs u f y rfl (by decide) (by decide) (by decide) rfl
    C10c.exL1_elliptic ⟨by decide, by decide⟩ ⟨by decide, by decide⟩ hu m hm hr hy
  exact ⟨y, e, hy, h1, h2, h3⟩

/-- `concrete_cycle_translate` on `C10d.exH3`: shift by the non-zero field `C10d.exU` with `g := A₀ exU = C10d.exF`; every iterate of
    the right size, every right-hand side covering the grid; the hypothesis `hy` is met by `concrete_cycle_total` -/
example (k : Kind) (nu1 nu2 : Nat) (fgs : Bool) (u f : Array ℚ) (hu : u.size = 13 * 16) (hf : 13 * 16 ≤ f.size)
    (m m' : Mem (Option (Array ℚ))) (hm : m (0, Buf.sol) = some u) (hr : m (0, Buf.rhs) = some f)
    (hm' : m' (0, Buf.sol) = some (Array.ofFn (n := u.size) fun p => u[p] + exU.getD p.val 0))
    (hr' : m' (0, Buf.rhs) = some (Array.ofFn (n := f.size) fun p => f[p] + exF.getD p.val 0)) :
    ∃ y, cycle exH3 ⟨3, nu1, nu2⟩ k false fgs m (0, Buf.sol) = some y ∧
      cycle exH3 ⟨3, nu1, nu2⟩ k false fgs m' (0, Buf.sol) =
        some (Array.ofFn (n := y.size) fun p => y[p] + exU.getD p.val 0) ∧ exU[10]? = some (-29 : ℚ) := by
  obtain ⟨M, hM, ht⟩ := C10c.exL1_coarse
  obtain ⟨y, hy, _⟩ := concrete_cycle_total exH3 3 (by decide) k nu1 nu2 fgs u f exH3_levels C10c.exTiny_one M hM ht hu m hm hr
  exact ⟨y, hy, concrete_cycle_translate exH3 3 (by decide) k nu1 nu2 fgs u f exU exF y exH3_levels C10c.exTiny_one M hM ht
    hu hf exU_sol m m' hm hr hm' hr' hy, by decide +kernel⟩

/-! ### the statement of `concrete_two_level_correction` without `hpair` is false
`C10c.exH` with the transfer pair claiming `ntF = 16` angular nodes on the fine level (which has 8): the restriction at the coarse
node `(0, 0)` then reads the fine "node" `(0, 15)`.  The code reads entry `0 * 8 + 15` of the residual ARRAY — the residual at
node `(1, 7)` — whereas `take … 0 15` is `f[15] - u[15]` (the Dirichlet row formula applied off the grid). -/

def badP : Interp.Pair ℚ := { C10c.exP with ntF := 16 }
def badH : Hier ℚ := ⟨[C10c.exL0, C10c.exL1], [badP], C06c.exTiny, C04c.genTables⟩

theorem bad_rhs_differ :
    Interp.restrict badP (take C10c.exL0.op (SmootherCode.fld 8 C10c.exF) (SmootherCode.fld 8 C10c.exU)) 0 0 ≠
    Interp.restrict badP (SmootherCode.fld 8 (SmootherCode.ofField 7 8
      (take C10c.exL0.op (SmootherCode.fld 8 C10c.exF) (SmootherCode.fld 8 C10c.exU)))) 0 0 := by
  decide +kernel

/-- **`hpair` is needed**: every other hypothesis of `concrete_two_level_correction` holds for `badH` (also `hshape`, and level 0
    satisfies `LevelOK`), the cycle returns some `y`, and NO `e` satisfies the conclusion -/
theorem two_level_correction_pair_needed :
    ∃ (H : Hier ℚ) (u f y : Array ℚ) (m : Mem (Option (Array ℚ))),
      H.tables = C04c.genTables ∧ 4 ≤ (lvl H 1).op.nr ∧ 4 ≤ (lvl H 1).op.nt ∧ (lvl H 1).op.nt % 2 = 0 ∧
      (lvl H 1).op.bc = true ∧ Elliptic (lvl H 1).op ∧ LevelOK (lvl H 0) ∧
      (2 * (lvl H 1).op.nr ≤ (lvl H 0).op.nr + 1 ∧ 2 * (lvl H 1).op.nt ≤ (lvl H 0).op.nt) ∧
      u.size = (lvl H 0).op.nr * (lvl H 0).op.nt ∧ m (0, Buf.sol) = some u ∧ m (0, Buf.rhs) = some f ∧
      cycle H ⟨2, 0, 0⟩ Kind.V false true m (0, Buf.sol) = some y ∧
      ¬ ∃ e : Array ℚ, e.size = (lvl H 1).op.nr * (lvl H 1).op.nt ∧
        (∀ I J, I < (lvl H 1).op.nr → J < (lvl H 1).op.nt →
          take (lvl H 1).op
            (Interp.restrict (pair H 0)
              (take (lvl H 0).op (SmootherCode.fld (lvl H 0).op.nt f) (SmootherCode.fld (lvl H 0).op.nt u)))
            (SmootherCode.fld (lvl H 1).op.nt e) I J = 0) ∧
        ∀ i j, i < (lvl H 0).op.nr → j < (lvl H 0).op.nt →
          SmootherCode.fld (lvl H 0).op.nt y i j =
            SmootherCode.fld (lvl H 0).op.nt u i j + Interp.prolong (pair H 0) (SmootherCode.fld (lvl H 1).op.nt e) i j := by
  let m : Mem (Option (Array ℚ)) := fun r => if r = (0, Buf.sol) then some C10c.exU else some C10c.exF
  have hm : m (0, Buf.sol) = some C10c.exU := rfl
  have hr : m (0, Buf.rhs) = some C10c.exF := rfl
  have hl0 : lvl badH 0 = C10c.exL0 := rfl
  have hl1 : lvl badH 1 = C10c.exL1 := rfl
  have hp0 : pair badH 0 = badP := rfl
  have hu : C10c.exU.size = (lvl badH 0).op.nr * (lvl badH 0).op.nt := C10c.exU_size
  obtain ⟨M, hM, ht⟩ := C10c.exL1_coarse
  obtain ⟨y, hy, _⟩ := concrete_cycle_total_bc badH 2 (by decide) Kind.V 0 0 true C10c.exU C10c.exF
    (fun l hl => (exH_levels l hl).bc) C10c.exTiny_one M hM ht hu m hm hr
  refine ⟨badH, C10c.exU, C10c.exF, y, m, rfl, by decide, by decide, by decide, rfl, C10c.exL1_elliptic, exH_levels 0 (by decide),
    ⟨by decide, by decide⟩, hu, hm, hr, hy, ?_⟩
  rintro ⟨e, _, h2, h3⟩
  obtain ⟨e', _, h2', h3'⟩ := concrete_two_level_correction_arr badH Kind.V true C10c.exU C10c.exF y rfl (by decide) (by decide)
    (by decide) rfl C10c.exL1_elliptic hu m hm hr hy
  have a := h2 0 0 (by decide) (by decide)
  have a' := h2' 0 0 (by decide) (by decide)
  have b := h3 0 0 (by decide) (by decide)
  have b' := h3' 0 0 (by decide) (by decide)
  rw [take_zero_dirichlet _ _ _ rfl] at a a'
  have p0 : ∀ x : Stencil.Field ℚ, Interp.prolong (pair badH 0) x 0 0 = x 0 0 := fun x => by simp [Interp.prolong]
  rw [p0] at b b'
  rw [hl0, hl1, hp0] at a a'
  rw [hl0, hl1] at b b'
  have key : Interp.restrict badP (take C10c.exL0.op (SmootherCode.fld C10c.exL0.op.nt C10c.exF)
        (SmootherCode.fld C10c.exL0.op.nt C10c.exU)) 0 0 =
      Interp.restrict badP (SmootherCode.fld C10c.exL0.op.nt (SmootherCode.ofField C10c.exL0.op.nr C10c.exL0.op.nt
        (take C10c.exL0.op (SmootherCode.fld C10c.exL0.op.nt C10c.exF) (SmootherCode.fld C10c.exL0.op.nt C10c.exU)))) 0 0 := by
    -- at the Dirichlet node `(0, 0)`: `a`, `a'` read `e 0 0 = restrict … 0 0` for the two right-hand sides, `b`, `b'` read
    -- `y 0 0 = u 0 0 + e 0 0`, so `e 0 0 = e' 0 0`
    linear_combination a - a' + b' - b
  exact bad_rhs_differ key

end C10e
