import GMGProofs.Lemmas.InterpAdjoint
import GMGProofs.Lemmas.InterpAdjointEx
import GMGProofs.Lemmas.InterpPointwise
import GMGProofs.Lemmas.InterpExamples
/-!
# C08 — grid transfer: prolongation, restriction, their extrapolated variants, injection

Property theorems only.  Model: `GMGModel/Interp.lean` (transcribes `src/Interpolation/*.cpp`).
Helper definitions (`Interp.Admissible`, `Interp.PosSpacing`, the 1-D rules `Pr Pt Rr Rt`, the concrete pairs
`exPair exPairU exPairBad`) live in `GMGProofs/Lemmas/Interp*.lean`.

`Admissible p`: `nrF` odd and `≥ 3`, `ntF` even and `≥ 4` (any such size).  `K` is an arbitrary field
(linearly ordered where positivity is mentioned).  Inner products are the plain double sums over all nodes.
-/
namespace C08
open Interp hiding Field
open Finset

section AnyField
variable {K : Type} [Field K]

/-! ## 1. `restrict` is the transpose of `prolong` — pure field identity, no spacing assumed non-zero -/

/-- radial 1-D rule (non-periodic, `2m+1` fine nodes, code weights) -/
theorem adjoint_radial (m : ℕ) (h u w : ℕ → K) :
    ∑ i ∈ range (2 * m + 1), Pr h u i * w i = ∑ I ∈ range (m + 1), u I * Rr (m + 1) h w I :=
  adjoint_r m h u w

/-- angular 1-D rule (periodic, `2q` fine nodes, code weights) -/
theorem adjoint_angular (q : ℕ) (k v z : ℕ → K) :
    ∑ j ∈ range (2 * q), Pt (2 * q) q k v j * z j = ∑ J ∈ range q, v J * Rt (2 * q) k z J :=
  adjoint_t q k v z

/-- the model operators are the tensor products of the 1-D rules -/
theorem prolong_tensor (p : Pair K) (x : Interp.Field K) (i j : ℕ) :
    prolong p x i j = Pr p.hF (fun I => Pt p.ntF (ntC p) p.kF (x I) j) i := prolong_eq_tensor p x i j

theorem restrict_tensor (p : Pair K) (y : Interp.Field K) (I J : ℕ) :
    restrict p y I J = Rr (nrC p) p.hF (fun i => Rt p.ntF p.kF (y i) J) I := restrict_eq_tensor p y I J

/-- ⟨P x, y⟩_fine = ⟨x, R y⟩_coarse for every admissible size, every coarse `x`, every fine `y` -/
theorem adjoint (p : Pair K) (hA : Admissible p) (x y : Interp.Field K) :
    ∑ i ∈ range p.nrF, ∑ j ∈ range p.ntF, prolong p x i j * y i j
      = ∑ I ∈ range (nrC p), ∑ J ∈ range (ntC p), x I J * restrict p y I J := by
  obtain ⟨m, q, _, _, hnr, hnt, _, _⟩ := hA.exists_mq
  exact adjoint_mq p m q hnr hnt x y

/-! ## 2. the same for the extrapolated pair (anti-diagonal at odd/odd nodes, not a tensor product) -/

theorem adjoint_ex (p : Pair K) (hA : Admissible p) (x y : Interp.Field K) :
    ∑ i ∈ range p.nrF, ∑ j ∈ range p.ntF, exProlong p x i j * y i j
      = ∑ I ∈ range (nrC p), ∑ J ∈ range (ntC p), x I J * exRestrict p y I J := by
  obtain ⟨m, q, _, _, hnr, hnt, _, _⟩ := hA.exists_mq
  exact adjoint_ex_mq p m q hnr hnt x y

/-! ## 3. coarse values are copied -/

theorem inject_prolong (p : Pair K) (x : Interp.Field K) (I J : ℕ) : inject (prolong p x) I J = x I J := by
  unfold inject
  rw [prolong_eq_tensor, Pr_even, Pt_even]

theorem inject_exProlong (p : Pair K) (x : Interp.Field K) (I J : ℕ) : inject (exProlong p x) I J = x I J :=
  exProlong_ee p x I J

theorem inject_fmgInterp (p : Pair K) (hA : Admissible p) (x : Interp.Field K) (I J : ℕ) :
    inject (fmgInterp p x) I J = x I J := by
  rw [inject, fmgInterp_eq, fmgCol_eq_Pr p hA _ _ (Or.inl (Nat.mul_mod_right 2 I)), Pr_even]
  simp [fmgRow]

/-! ## constants need only non-zero denominators -/

/-- constants are reproduced as soon as the two denominators of the node do not vanish -/
theorem prolong_const_of_ne (p : Pair K) (c : K) (i j : ℕ) (hh : p.hF (i - 1) + p.hF i ≠ 0)
    (hk : p.kF (wF p (j + p.ntF - 1)) + p.kF j ≠ 0) : prolong p (fun _ _ => c) i j = c := by
  rw [prolong_eq_tensor]
  simp only [Pt_const p.ntF (ntC p) p.kF c j hk]
  exact Pr_const p.hF c i hh

end AnyField

section Ordered
variable {K : Type} [Field K] [LinearOrder K] [IsStrictOrderedRing K]

/-! ## 4. convexity -/

/-- positive spacings: `prolong` at a fine node is a convex combination (weights independent of the data,
    non-negative, summing to one) of the four surrounding coarse values -/
theorem convex (p : Pair K) (hP : PosSpacing p) (i j : ℕ) :
    ∃ w00 w10 w01 w11 : K, 0 ≤ w00 ∧ 0 ≤ w10 ∧ 0 ≤ w01 ∧ 0 ≤ w11 ∧ w00 + w10 + w01 + w11 = 1 ∧
      ∀ x : Interp.Field K, prolong p x i j = w00 * x (i / 2) (j / 2) + w10 * x (i / 2 + 1) (j / 2)
        + w01 * x (i / 2) (wC p (j / 2 + 1)) + w11 * x (i / 2 + 1) (wC p (j / 2 + 1)) :=
  prolong_convex_local p i j (fun _ => ⟨hP.hF _, hP.hF _⟩) (fun _ => ⟨hP.kF _, hP.kF _⟩)

theorem prolong_const (p : Pair K) (hP : PosSpacing p) (c : K) (i j : ℕ) :
    prolong p (fun _ _ => c) i j = c := by
  obtain ⟨w00, w10, w01, w11, _, _, _, _, hsum, hx⟩ := convex p hP i j
  rw [hx, ← add_mul, ← add_mul, ← add_mul, hsum, one_mul]

/-- positive spacings: every prolongated value lies between the bounds of the coarse data -/
theorem prolong_bounds (p : Pair K) (hP : PosSpacing p) (x : Interp.Field K) (lo hi : K)
    (hx : ∀ I J, lo ≤ x I J ∧ x I J ≤ hi) (i j : ℕ) :
    lo ≤ prolong p x i j ∧ prolong p x i j ≤ hi := by
  have ht : ∀ I, lo ≤ Pt p.ntF (ntC p) p.kF (x I) j ∧ Pt p.ntF (ntC p) p.kF (x I) j ≤ hi := fun I =>
    mix_bounds _ _ _ (fun _ => ⟨hP.kF _, hP.kF _⟩) (hx I _) (hx I _)
  rw [prolong_eq_tensor]
  exact mix_bounds _ _ _ (fun _ => ⟨hP.hF _, hP.hF _⟩) (ht _) (ht _)

/-! ## 5. linear data -/

/-- radial linear data `a + b r`: the code's weights return `a + b (r_i + (h_i - h_{i-1}))` at odd `i` -/
theorem prolong_linear_r (p : Pair K) (hP : PosSpacing p) (a b : K) (r : ℕ → K) (x : Interp.Field K) (i j : ℕ)
    (hr : ∀ i, r (i + 1) = r i + p.hF i) (hx : ∀ I J, x I J = a + b * r (2 * I)) :
    prolong p x i j = a + b * (r i + (if i % 2 = 1 then p.hF i - p.hF (i - 1) else 0)) := by
  have hh : p.hF (i - 1) + p.hF i ≠ 0 := by have := hP.hF (i - 1); have := hP.hF i; positivity
  have hk : p.kF ((j + p.ntF - 1) % p.ntF) + p.kF j ≠ 0 := by
    have := hP.kF ((j + p.ntF - 1) % p.ntF); have := hP.kF j; positivity
  obtain rfl : x = fun I _ => a + b * r (2 * I) := by funext I J; exact hx I J
  rw [prolong_eq_tensor]
  simp only [Pt_const p.ntF (ntC p) p.kF _ j hk]
  exact Pr_linear p.hF r a b i hr hh

/-- midpoint nodes: radial linear data are reproduced -/
theorem linear_mid (p : Pair K) (hP : PosSpacing p) (a b : K) (r : ℕ → K) (x : Interp.Field K) (i j : ℕ)
    (hr : ∀ i, r (i + 1) = r i + p.hF i) (hx : ∀ I J, x I J = a + b * r (2 * I))
    (hmid : i % 2 = 1 → p.hF (i - 1) = p.hF i) :
    prolong p x i j = a + b * r i := by
  rw [prolong_linear_r p hP a b r x i j hr hx]
  split_ifs with h
  · rw [hmid h]; ring
  · ring

/-- angular linear data away from the periodic seam -/
theorem prolong_linear_theta (p : Pair K) (hA : Admissible p) (hP : PosSpacing p) (a b : K) (θ : ℕ → K)
    (x : Interp.Field K) (i j : ℕ) (hj : j + 1 < p.ntF)
    (hθ : ∀ j, θ (j + 1) = θ j + p.kF j) (hx : ∀ I J, x I J = a + b * θ (2 * J)) :
    prolong p x i j = a + b * (θ j + (if j % 2 = 1 then p.kF j - p.kF (j - 1) else 0)) := by
  obtain ⟨m, q, _, _, hnr, hnt, _, hq⟩ := hA.exists_mq
  have hh : p.hF (i - 1) + p.hF i ≠ 0 := by have := hP.hF (i - 1); have := hP.hF i; positivity
  have hk : p.kF (j - 1) + p.kF j ≠ 0 := by have := hP.kF (j - 1); have := hP.kF j; positivity
  obtain rfl : x = fun _ J => a + b * θ (2 * J) := by funext I J; exact hx I J
  rw [prolong_eq_tensor]
  simp only [hnt, hq]
  rw [Pt_linear q p.kF θ a b j (by omega) hθ hk]
  exact Pr_const p.hF _ i hh

theorem linear_mid_theta (p : Pair K) (hA : Admissible p) (hP : PosSpacing p) (a b : K) (θ : ℕ → K)
    (x : Interp.Field K) (i j : ℕ) (hj : j + 1 < p.ntF)
    (hθ : ∀ j, θ (j + 1) = θ j + p.kF j) (hx : ∀ I J, x I J = a + b * θ (2 * J))
    (hmid : j % 2 = 1 → p.kF (j - 1) = p.kF j) :
    prolong p x i j = a + b * θ j := by
  rw [prolong_linear_theta p hA hP a b θ x i j hj hθ hx]
  split_ifs with h
  · rw [hmid h]; ring
  · ring

end Ordered

/-! ## 6. without the midpoint hypothesis linear data are NOT reproduced -/

/-- fine radii `0, 1, 4`: the coarse values `0, 4` are combined with weights `1/4, 3/4` (the larger weight on the
    farther node), giving `3` at the fine node of radius `1` -/
theorem not_linear_general :
    ∃ (p : Pair ℚ) (x : Interp.Field ℚ) (r : ℕ → ℚ), Admissible p ∧ PosSpacing p
      ∧ (∀ i, r (i + 1) = r i + p.hF i) ∧ (∀ I, p.hC I = p.hF (2 * I) + p.hF (2 * I + 1))
      ∧ (∀ I J, x I J = r (2 * I)) ∧ r 1 = 1 ∧ prolong p x 1 0 = 3 ∧ prolong p x 1 0 ≠ r 1 := by
  refine ⟨exPairBad, fun I _ => exRBad (2 * I), exRBad, exPairBad_adm, exPairBad_pos, exRBad_step, exPairBad_hC,
    fun _ _ => rfl, ?_, ?_, ?_⟩
  · norm_num [exRBad]
  · norm_num [prolong, exPairBad, exRBad]
  · norm_num [prolong, exPairBad, exRBad]

/-! ## non-vacuity: the hypotheses are satisfiable (concrete data over ℚ) -/

example : Admissible exPair ∧ PosSpacing exPair := ⟨exPair_adm, exPair_pos⟩
example : Admissible exPairU ∧ PosSpacing exPairU := ⟨exPairU_adm, exPairU_pos⟩
/-- `adjoint`, `adjoint_ex` on the non-uniform `7 × 8` pair with concrete fields -/
example : ∑ i ∈ range exPair.nrF, ∑ j ∈ range exPair.ntF,
      prolong exPair (fun I J => (I : ℚ) + 2 * J) i j * (fun i j => (i : ℚ) * j + 1) i j
    = ∑ I ∈ range (nrC exPair), ∑ J ∈ range (ntC exPair),
      (fun I J => (I : ℚ) + 2 * J) I J * restrict exPair (fun i j => (i : ℚ) * j + 1) I J :=
  adjoint exPair exPair_adm _ _
example : ∑ i ∈ range exPair.nrF, ∑ j ∈ range exPair.ntF,
      exProlong exPair (fun I J => (I : ℚ) + 2 * J) i j * (fun i j => (i : ℚ) * j + 1) i j
    = ∑ I ∈ range (nrC exPair), ∑ J ∈ range (ntC exPair),
      (fun I J => (I : ℚ) + 2 * J) I J * exRestrict exPair (fun i j => (i : ℚ) * j + 1) I J :=
  adjoint_ex exPair exPair_adm _ _
/-- a field that meets the hypothesis of `prolong_bounds` (`lo = 0`, `hi = 2`) -/
example : ∀ I J : ℕ, (0 : ℚ) ≤ (fun (_ _ : ℕ) => (1 : ℚ)) I J ∧ (fun (_ _ : ℕ) => (1 : ℚ)) I J ≤ 2 := by
  intro I J; norm_num
/-- `linear_mid` on the uniform pair (radii `r i = i`, every odd node a midpoint), odd node `i = 1` -/
example : prolong exPairU (fun I _ => 2 + 5 * ((2 * I : ℕ) : ℚ)) 1 3 = 2 + 5 * ((1 : ℕ) : ℚ) :=
  linear_mid exPairU exPairU_pos 2 5 (fun i => (i : ℚ)) _ 1 3 (fun i => by simp [exPairU]) (fun _ _ => rfl)
    (fun _ => rfl)
/-- `linear_mid_theta` on the uniform pair, odd node `j = 3` (`j + 1 < ntF = 6`) -/
example : prolong exPairU (fun _ J => 2 + 5 * ((2 * J : ℕ) : ℚ)) 1 3 = 2 + 5 * ((3 : ℕ) : ℚ) :=
  linear_mid_theta exPairU exPairU_adm exPairU_pos 2 5 (fun j => (j : ℚ)) _ 1 3 (by decide)
    (fun j => by simp [exPairU]) (fun _ _ => rfl) (fun _ => rfl)
/-- the radii `r i = i(i+1)/2` of the non-uniform pair meet the hypothesis `hr` of `prolong_linear_r` -/
example : ∀ i, exR (i + 1) = exR i + exPair.hF i := exR_step

end C08
