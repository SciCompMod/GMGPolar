import GMGProofs.Props.C19
import GMGProofs.Lemmas.InputsOK
/-!
# The shipped input functions are admissible inputs of the end-to-end theorem

`C10i.concrete_exact_fixed_setup` assumes `C10i.InputsOK E G` (α > 0, β ≥ 0, det DF ≠ 0 at the nodes, increasing coordinates) for the
input functions `E : Cache.Env`.  Here `E` is built from the GENERATED terms of the shipped classes (`Generated/InputFns.lean`,
re-translated from the C++ on every run by `tools/cxx_expr.py`): the code's Jacobian functions of the Circular, Shafranov and Czarny
geometries and the seven coefficient profiles, evaluated over ℝ — and `InputsOK` is PROVED for every combination on every grid with
`0 < r_0 < … ≤ Rmax` and increasing angles, under the parameter ranges the classes document (Shafranov: `0 ≤ κ`, `0 ≤ δ`, `κ + 2δ < 1`, Czarny:
`0 < ε < 1`, `0 < e`).  This closes the chain "shipped test problem → hypotheses of the whole-cycle theorems".
-/
namespace C19i
open Sym Sym.Expr InputFns Cache

/-- the input functions of a shipped (geometry, profile) pair as the level caches call them: `jac` are the code's four Jacobian
    functions, `alpha`, `beta` the profile; parameters `env 0 = Rmax`, `env 1`, `env 2` the geometry parameters -/
noncomputable def shippedEnv (env : Nat → ℝ) (dFx_dr dFy_dr dFx_dt dFy_dt alphaT betaT : Expr) : Env ℝ where
  sinF := Real.sin
  cosF := Real.cos
  alpha := fun r => ev env r 0 alphaT
  beta := fun r => ev env r 0 betaT
  jac := fun r th _ _ => (ev env r th dFx_dr, ev env r th dFy_dr, ev env r th dFx_dt, ev env r th dFy_dt)
  absF := fun x => |x|

/-- the seven shipped coefficient profiles -/
def profiles : List (Expr × Expr) :=
  [(Gen.PoissonCoefficients_alpha, Gen.PoissonCoefficients_beta),
   (Gen.SonnendruckerCoefficients_alpha, Gen.SonnendruckerCoefficients_beta),
   (Gen.SonnendruckerGyroCoefficients_alpha, Gen.SonnendruckerGyroCoefficients_beta),
   (Gen.ZoniCoefficients_alpha, Gen.ZoniCoefficients_beta),
   (Gen.ZoniGyroCoefficients_alpha, Gen.ZoniGyroCoefficients_beta),
   (Gen.ZoniShiftedCoefficients_alpha, Gen.ZoniShiftedCoefficients_beta),
   (Gen.ZoniShiftedGyroCoefficients_alpha, Gen.ZoniShiftedGyroCoefficients_beta)]

/-- a grid inside the domain: valid shape, `0 < r_0`, increasing radii up to `Rmax = env 0`, increasing angles -/
structure GridOK (env : Nat → ℝ) (G : GridData ℝ) : Prop where
  valid : G.g.Valid
  r0_pos : 0 < G.radius 0
  radius_inc : ∀ i, i + 1 < G.g.nr → G.radius i < G.radius (i + 1)
  radius_le : ∀ i, i < G.g.nr → G.radius i ≤ env 0
  theta_inc : ∀ j, j < G.g.nt → G.theta j < G.theta (j + 1)

theorem GridOK.radius_pos {env : Nat → ℝ} {G : GridData ℝ} (hG : GridOK env G) : ∀ i, i < G.g.nr → 0 < G.radius i := by
  intro i
  induction i with
  | zero => intro _; exact hG.r0_pos
  | succ k ih => intro h; exact lt_trans (ih (by omega)) (hG.radius_inc k h)

/-- every shipped profile is positive / non-negative inside the domain (only `r ≤ Rmax` matters) -/
theorem profiles_ok (env : Nat → ℝ) (hR : 0 < env 0) (p : Expr × Expr) (hp : p ∈ profiles) (r : ℝ) (h0 : 0 < r) (h1 : r ≤ env 0) :
    0 < ev env r 0 p.1 ∧ 0 ≤ ev env r 0 p.2 := by
  have _ := h0
  have hle : r / env 0 ≤ 1 := (div_le_one hR).mpr h1
  have hZ := C19.alpha_pos_Zoni (env := env) (r := r) (th := 0)
  have hS := C19.alpha_pos_Sonnendrucker (env := env) (r := r) (th := 0) hle
  simp only [profiles, List.mem_cons, List.not_mem_nil, or_false] at hp
  rcases hp with rfl | rfl | rfl | rfl | rfl | rfl | rfl
  · simp [Gen.PoissonCoefficients_alpha, Gen.PoissonCoefficients_beta]
  · exact ⟨hS.2, by simp [Gen.SonnendruckerCoefficients_beta]⟩
  · refine ⟨hS.1, ?_⟩
    have hg := C19.gyro_Sonnendrucker (env := env) (r := r) (th := 0) hle
    have hm : 0 < ev env r 0 Gen.SonnendruckerGyroCoefficients_alpha * ev env r 0 Gen.SonnendruckerGyroCoefficients_beta := by
      rw [hg]; exact one_pos
    exact ((pos_iff_pos_of_mul_pos hm).mp hS.1).le
  · exact ⟨hZ.1, by simp [Gen.ZoniCoefficients_beta]⟩
  · refine ⟨hZ.2.1, ?_⟩
    simp only [Gen.ZoniGyroCoefficients_beta, sym_ev]
    exact (Real.exp_pos _).le
  · exact ⟨hZ.2.2.1, by simp [Gen.ZoniShiftedCoefficients_beta]⟩
  · refine ⟨hZ.2.2.2, ?_⟩
    simp only [Gen.ZoniShiftedGyroCoefficients_beta, sym_ev]
    exact (Real.exp_pos _).le

/-- `InputsOK` from `GridOK`, `profiles_ok` and a regular code Jacobian at every point `0 < r ≤ Rmax` of the domain -/
theorem inputsOK_of_det (env : Nat → ℝ) (hR : 0 < env 0) (a b c d : Expr) (p : Expr × Expr) (hp : p ∈ profiles)
    (G : GridData ℝ) (hG : GridOK env G)
    (hdet : ∀ r th, 0 < r → r ≤ env 0 → ev env r th a * ev env r th d - ev env r th c * ev env r th b ≠ 0) :
    C10i.InputsOK (shippedEnv env a b c d p.1 p.2) G where
  valid := hG.valid
  radius_inc := hG.radius_inc
  theta_inc := hG.theta_inc
  alpha_pos := fun i hi => (profiles_ok env hR p hp _ (hG.radius_pos i hi) (hG.radius_le i hi)).1
  beta_nonneg := fun i hi => (profiles_ok env hR p hp _ (hG.radius_pos i hi) (hG.radius_le i hi)).2
  det_ne := fun i _ hi _ => hdet _ _ (hG.radius_pos i hi) (hG.radius_le i hi)
  abs_is := fun _ => rfl

/-- code Jacobian functions that agree with the symbolic derivatives of a mapping `(Fx, Fy)` have the determinant `detJ` -/
theorem det_of_jacobian {env : Nat → ℝ} {r th : ℝ} {a b c d Fx Fy : Expr}
    (j : ev env r th a = ev env r th (D .r Fx) ∧ ev env r th b = ev env r th (D .r Fy) ∧
      ev env r th c = ev env r th (D .th Fx) ∧ ev env r th d = ev env r th (D .th Fy)) :
    ev env r th a * ev env r th d - ev env r th c * ev env r th b = ev env r th (detJ ⟨.zero, .zero, .zero, Fx, Fy⟩) := by
  obtain ⟨j1, j2, j3, j4⟩ := j
  rw [ev_detJ, j1, j2, j3, j4]

/-- determinant of the code's Jacobian functions, circular geometry: `r / Rmax²` -/
theorem det_Circular (env : Nat → ℝ) (r th : ℝ) (hR : env 0 ≠ 0) :
    ev env r th Gen.CircularGeometry_dFx_dr * ev env r th Gen.CircularGeometry_dFy_dt
      - ev env r th Gen.CircularGeometry_dFx_dt * ev env r th Gen.CircularGeometry_dFy_dr = r / env 0 ^ 2 :=
  (det_of_jacobian (C19.jacobian_Circular hR)).trans (C19.detJ_Circular _ _ _)

/-- determinant of the code's Jacobian functions, Shafranov geometry -/
theorem det_Shafranov (env : Nat → ℝ) (r th : ℝ) (hR : env 0 ≠ 0) :
    ev env r th Gen.ShafranovGeometry_dFx_dr * ev env r th Gen.ShafranovGeometry_dFy_dt
      - ev env r th Gen.ShafranovGeometry_dFx_dt * ev env r th Gen.ShafranovGeometry_dFy_dr
      = (1 + env 1) * r / env 0 ^ 2 * (1 - env 1 - 2 * env 2 * (r / env 0) * Real.cos th) :=
  (det_of_jacobian (C19.jacobian_Shafranov hR)).trans (C19.detJ_Shafranov _ _ _)

/-- determinant of the code's Jacobian functions, Czarny geometry (under the side conditions of `C19.jacobian_Czarny`) -/
theorem det_Czarny (env : Nat → ℝ) (r th : ℝ) (hR : env 0 ≠ 0) (he : env 1 ≠ 0) (hrad : 0 < czRad env r th)
    (h2 : 2 - Real.sqrt (czRad env r th) ≠ 0) :
    ev env r th Gen.CzarnyGeometry_dFx_dr * ev env r th Gen.CzarnyGeometry_dFy_dt
      - ev env r th Gen.CzarnyGeometry_dFx_dt * ev env r th Gen.CzarnyGeometry_dFy_dr
      = -(env 2 * (1 / Real.sqrt (1 - env 1 * env 1 / 4)) * (r / env 0))
        / (env 0 * Real.sqrt (czRad env r th) * (2 - Real.sqrt (czRad env r th))) :=
  (det_of_jacobian (C19.jacobian_Czarny hR he hrad h2)).trans (C19.detJ_Czarny _ _ _ hR he hrad h2)

theorem inputsOK_Circular (env : Nat → ℝ) (hR : 0 < env 0) (p : Expr × Expr) (hp : p ∈ profiles) (G : GridData ℝ) (hG : GridOK env G) :
    C10i.InputsOK (shippedEnv env Gen.CircularGeometry_dFx_dr Gen.CircularGeometry_dFy_dr Gen.CircularGeometry_dFx_dt
      Gen.CircularGeometry_dFy_dt p.1 p.2) G := by
  refine inputsOK_of_det env hR _ _ _ _ p hp G hG ?_
  intro r th h0 _
  rw [det_Circular env r th hR.ne']
  exact (div_pos h0 (pow_pos hR 2)).ne'

/-- Shafranov: stretching `κ = env 1`, shift `δ = env 2` with `0 ≤ κ`, `0 ≤ δ`, `κ + 2 δ < 1` (then the mapping is a diffeomorphism of the disc) -/
theorem inputsOK_Shafranov (env : Nat → ℝ) (hR : 0 < env 0) (hk : 0 ≤ env 1) (hd : 0 ≤ env 2) (hkd : env 1 + 2 * env 2 < 1)
    (p : Expr × Expr) (hp : p ∈ profiles) (G : GridData ℝ) (hG : GridOK env G) :
    C10i.InputsOK (shippedEnv env Gen.ShafranovGeometry_dFx_dr Gen.ShafranovGeometry_dFy_dr Gen.ShafranovGeometry_dFx_dt
      Gen.ShafranovGeometry_dFy_dt p.1 p.2) G := by
  refine inputsOK_of_det env hR _ _ _ _ p hp G hG ?_
  intro r th h0 h1
  rw [det_Shafranov env r th hR.ne']
  have hrho0 : 0 < r / env 0 := div_pos h0 hR
  have hrho1 : r / env 0 ≤ 1 := (div_le_one hR).mpr h1
  have hc : r / env 0 * Real.cos th ≤ 1 := by
    have := Real.cos_le_one th
    nlinarith
  have hfac : 0 < 1 - env 1 - 2 * env 2 * (r / env 0) * Real.cos th := by nlinarith
  have h1k : 0 < (1 + env 1) * r / env 0 ^ 2 := div_pos (mul_pos (by linarith) h0) (pow_pos hR 2)
  exact (mul_pos h1k hfac).ne'

/-- Czarny: inverse aspect ratio `ε = env 1 ∈ (0, 1)`, ellipticity `e = env 2 > 0` -/
theorem inputsOK_Czarny (env : Nat → ℝ) (hR : 0 < env 0) (he0 : 0 < env 1) (he1 : env 1 < 1) (hel : 0 < env 2)
    (p : Expr × Expr) (hp : p ∈ profiles) (G : GridData ℝ) (hG : GridOK env G) :
    C10i.InputsOK (shippedEnv env Gen.CzarnyGeometry_dFx_dr Gen.CzarnyGeometry_dFy_dr Gen.CzarnyGeometry_dFx_dt
      Gen.CzarnyGeometry_dFy_dt p.1 p.2) G := by
  refine inputsOK_of_det env hR _ _ _ _ p hp G hG ?_
  intro r th h0 h1
  obtain ⟨he, hxi, hrad, h2⟩ := C19.czarny_domain (th := th) he0 he1 (abs_rho_le_one hR h0.le h1)
  rw [det_Czarny env r th hR.ne' he hrad h2]
  have hs := Real.sqrt_pos.mpr hrad
  have hq := Real.sqrt_pos.mpr hxi
  have hnum : 0 < env 2 * (1 / Real.sqrt (1 - env 1 * env 1 / 4)) * (r / env 0) :=
    mul_pos (mul_pos hel (one_div_pos.mpr hq)) (div_pos h0 hR)
  exact div_ne_zero (neg_ne_zero.mpr hnum.ne') (mul_ne_zero (mul_ne_zero hR.ne' hs.ne') h2)

/-! ## non-vacuity: a concrete grid inside the domain and one instance per geometry -/

/-- parameters `Rmax = 13/10`, `env 1 = 3/10`, `env 2 = 1/5` (admissible for all three geometries) -/
noncomputable def exEnv : Nat → ℝ
  | 0 => 13 / 10
  | 1 => 3 / 10
  | 2 => 1 / 5
  | _ => 0

/-- `nr = 5`, `nt = 8`, `r_i = (1 + i)/10`, `θ_j = j/2` -/
noncomputable def exGrid : GridData ℝ where
  g := ⟨5, 8, 2, true⟩
  radius := fun i => (1 + (i : ℝ)) / 10
  theta := fun j => (j : ℝ) / 2

theorem exGrid_ok : GridOK exEnv exGrid where
  valid := ⟨by decide, by decide, by decide, by decide⟩
  r0_pos := by simp [exGrid]
  radius_inc := fun i _ => by simp only [exGrid]; push_cast; linarith
  radius_le := fun i hi => by
    have : (i : ℝ) ≤ 4 := by exact_mod_cast Nat.lt_succ_iff.mp hi
    simp only [exGrid, exEnv]; linarith
  theta_inc := fun j _ => by simp only [exGrid]; push_cast; linarith

example : C10i.InputsOK (shippedEnv exEnv Gen.CircularGeometry_dFx_dr Gen.CircularGeometry_dFy_dr Gen.CircularGeometry_dFx_dt
    Gen.CircularGeometry_dFy_dt Gen.SonnendruckerGyroCoefficients_alpha Gen.SonnendruckerGyroCoefficients_beta) exGrid :=
  inputsOK_Circular exEnv (by norm_num [exEnv]) (Gen.SonnendruckerGyroCoefficients_alpha, Gen.SonnendruckerGyroCoefficients_beta)
    (by simp [profiles]) exGrid exGrid_ok

example : C10i.InputsOK (shippedEnv exEnv Gen.ShafranovGeometry_dFx_dr Gen.ShafranovGeometry_dFy_dr Gen.ShafranovGeometry_dFx_dt
    Gen.ShafranovGeometry_dFy_dt Gen.ZoniShiftedGyroCoefficients_alpha Gen.ZoniShiftedGyroCoefficients_beta) exGrid :=
  inputsOK_Shafranov exEnv (by norm_num [exEnv]) (by norm_num [exEnv]) (by norm_num [exEnv]) (by norm_num [exEnv])
    (Gen.ZoniShiftedGyroCoefficients_alpha, Gen.ZoniShiftedGyroCoefficients_beta) (by simp [profiles]) exGrid exGrid_ok

example : C10i.InputsOK (shippedEnv exEnv Gen.CzarnyGeometry_dFx_dr Gen.CzarnyGeometry_dFy_dr Gen.CzarnyGeometry_dFx_dt
    Gen.CzarnyGeometry_dFy_dt Gen.PoissonCoefficients_alpha Gen.PoissonCoefficients_beta) exGrid :=
  inputsOK_Czarny exEnv (by norm_num [exEnv]) (by norm_num [exEnv]) (by norm_num [exEnv]) (by norm_num [exEnv])
    (Gen.PoissonCoefficients_alpha, Gen.PoissonCoefficients_beta) (by simp [profiles]) exGrid exGrid_ok

end C19i
