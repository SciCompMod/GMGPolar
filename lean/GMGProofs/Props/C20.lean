import GMGModel.Options
import GMGProofs.Props.C18
/-!
# C20 — every option combination is either rejected cleanly or runs

Property theorems about the decision model `Options.classify` (tied to the real parser / `setup()` / `solve()` by the
correspondence check on random option tuples, each run in a child process).  The memory-safety part of the property for
the accepted runs rests on the in-bounds theorems of the modelled kernels (C17 index arithmetic, C18 grid generation, C09
interpolation reads) and, for code that is only spec-modelled, on sanitizer runs of the correspondence harnesses.
-/
namespace C20
open Options GridGen

theorem inRange_iff {v lo hi : Int} : inRange v lo hi = true ↔ lo ≤ v ∧ v ≤ hi := by
  unfold inRange
  rw [Bool.and_eq_true, decide_eq_true_eq, decide_eq_true_eq]

/-- how `classify` reports what setup did: the sizes of a run, an exception, or undefined behaviour -/
def ofOut : Out (Nat × Nat × Nat) → Outcome
  | .ok (L, nr, nt) => .runs L nr nt
  | .throw _ => .rejected "setup"
  | .ub w => .undefined w

/-- grid generation followed by the choice of levels -/
def setup (r : Raw) : Out (Nat × Nat × Nat) :=
  generate ⟨r.R0, r.Rmax, r.nrExp, r.ntExp, r.alphaJump, r.aniso, r.div⟩ >>= fun p =>
    chooseLevels p.1.length p.2 r.maxLevels >>= fun L => .ok (L, p.1.length, p.2)

/-- either an option check fails, with one of three outcomes, or all have passed and `setup` decides -/
theorem classify_cases (acc : List (Nat × Nat × Nat × Nat)) (r : Raw) :
    (classify acc r = .usageExit ∨ classify acc r = .rejected "params" ∨ classify acc r = .rejected "setup") ∨
    ((acc.contains (r.problem.toNat, r.geometry.toNat, r.alpha.toNat, r.beta.toNat) = true ∧
      (r.stencil = 0 → r.cacheCoef = true ∧ r.cacheGeo = true) ∧ r.R0 < r.Rmax ∧ 1 ≤ r.nrExp) ∧
      classify acc r = ofOut (setup r)) := by
  unfold classify
  split
  · exact .inl (.inl rfl)
  split
  · exact .inl (.inr (.inl rfl))
  split
  · exact .inl (.inr (.inr rfl))
  split
  · exact .inl (.inr (.inr rfl))
  split
  · exact .inl (.inr (.inr rfl))
  rename_i hacc hst hR hN
  refine .inr ⟨⟨by simpa using hacc, fun h0 => ?_, ?_, by omega⟩, ?_⟩
  · simpa [h0] using hst
  · simp only [Bool.not_eq_true, Bool.not_eq_false', Bool.and_eq_true, decide_eq_true_eq] at hR
    exact hR.2
  · unfold setup
    generalize generate _ = o
    rcases o with ⟨radii, nt⟩ | m | w
    · show (match chooseLevels radii.length nt r.maxLevels with
        | .ok L => Outcome.runs L radii.length nt | .throw _ => .rejected "setup" | .ub w => .undefined w) = _
      rw [GridGenL.ok_bind]
      generalize chooseLevels _ _ _ = o
      cases o <;> rfl
    · rfl
    · rfl

theorem early {o : Outcome} (h : o = .usageExit ∨ o = .rejected "params" ∨ o = .rejected "setup") :
    (∀ w, o ≠ .undefined w) ∧ ∀ L nr nt, o ≠ .runs L nr nt := by
  rcases h with rfl | rfl | rfl <;> exact ⟨nofun, nofun⟩

/-- the model never predicts undefined behaviour: every option tuple ends in a usage exit, an exception or a run -/
theorem never_undefined (acc : List (Nat × Nat × Nat × Nat)) (r : Raw) (w : String) : classify acc r ≠ .undefined w := by
  rcases classify_cases acc r with h | ⟨⟨_, _, hR, hN⟩, h⟩
  · exact (early h).1 w
  · have hs : (setup r).NoUB := .bind (o := generate _) (C18.generate_never_ub _ hR fun _ => hN) fun p _ =>
      (GridGenL.chooseLevels_noUB _ _ _).bind fun L _ => .ok _
    rw [h]
    revert hs
    cases setup r with
    | ub w' => exact fun hs => absurd rfl (hs w')
    | _ => exact fun _ => nofun

/-- what a run guarantees about the options and the generated hierarchy -/
theorem runs_spec (acc : List (Nat × Nat × Nat × Nat)) (r : Raw) (L nr nt : Nat) (h : classify acc r = .runs L nr nt) :
    acc.contains (r.problem.toNat, r.geometry.toNat, r.alpha.toNat, r.beta.toNat) = true ∧
    (r.stencil = 0 → r.cacheCoef = true ∧ r.cacheGeo = true) ∧
    ∃ radii, generate ⟨r.R0, r.Rmax, r.nrExp, r.ntExp, r.alphaJump, r.aniso, r.div⟩ = .ok (radii, nt) ∧ radii.length = nr ∧
      chooseLevels nr nt r.maxLevels = .ok L := by
  rcases classify_cases acc r with h' | ⟨⟨hacc, hst, _⟩, h'⟩
  · exact absurd h ((early h').2 L nr nt)
  · refine ⟨hacc, hst, ?_⟩
    rw [h'] at h
    cases hs : setup r with
    | ok x =>
      rw [hs] at h
      cases h
      obtain ⟨⟨radii, nt'⟩, hg, hs⟩ := GridGenL.bind_eq_ok_iff.mp hs
      obtain ⟨L', hl, hs⟩ := GridGenL.bind_eq_ok_iff.mp hs
      cases hs
      exact ⟨radii, hg, rfl, hl⟩
    | _ => rw [hs] at h; cases h

/-- an accepted run has at least two levels, every level but the coarsest can be coarsened (odd `nr`, `nt` divisible by 4),
    the coarsest still has `nr ≥ 5`, `nt ≥ 4`, and there are at least two radii and an even number of angles -/
theorem accepted_safe (acc : List (Nat × Nat × Nat × Nat)) (r : Raw) (L nr nt : Nat) (h : classify acc r = .runs L nr nt) :
    2 ≤ L ∧ (∀ l, l + 1 < L → GridGenL.coarsenR l nr % 2 = 1 ∧ GridGenL.coarsenT l nt % 4 = 0) ∧
    5 ≤ GridGenL.coarsenR (L - 1) nr ∧ 4 ≤ GridGenL.coarsenT (L - 1) nt ∧ 2 ≤ nr ∧ nt % 2 = 0 := by
  obtain ⟨_, _, radii, hg, rfl, hl⟩ := runs_spec acc r L nr nt h
  obtain ⟨h2, hlev, hc1, hc2⟩ := C18.levels_admissible _ nt r.maxLevels L hl
  obtain ⟨hr2, _, _, _, hnt⟩ := (GridGenL.generate_ok_spec hg).1
  exact ⟨h2, hlev, hc1, hc2, hr2, hnt⟩

/-- the take strategy without both caches is rejected by `setup()` (when the options are otherwise well formed) -/
theorem take_needs_caches (acc : List (Nat × Nat × Nat × Nat)) (r : Raw) (h0 : r.stencil = 0) (hc : (r.cacheCoef && r.cacheGeo) = false) :
    classify acc r = .usageExit ∨ classify acc r = .rejected "params" ∨ classify acc r = .rejected "setup" := by
  rcases classify_cases acc r with h | ⟨⟨_, hst, _⟩, _⟩
  · exact h
  · rw [(hst h0).1, (hst h0).2] at hc
    cases hc

/-- an enumeration value outside its range ends in the parser's usage exit: all nine range tests come first -/
theorem usage_of_out_of_range (acc : List (Nat × Nat × Nat × Nat)) (r : Raw)
    (h : ¬ ((0 ≤ r.geometry ∧ r.geometry ≤ 3) ∧ (0 ≤ r.problem ∧ r.problem ≤ 3) ∧ (0 ≤ r.alpha ∧ r.alpha ≤ 3) ∧
      (0 ≤ r.beta ∧ r.beta ≤ 1) ∧ (0 ≤ r.extrapolation ∧ r.extrapolation ≤ 3) ∧ (0 ≤ r.cycle ∧ r.cycle ≤ 2) ∧
      (0 ≤ r.fmgCycle ∧ r.fmgCycle ≤ 2) ∧ (0 ≤ r.normType ∧ r.normType ≤ 2) ∧ (0 ≤ r.stencil ∧ r.stencil ≤ 1))) :
    classify acc r = .usageExit := by
  unfold classify
  rw [if_pos]
  simpa only [Bool.not_eq_true', Bool.eq_false_iff, ne_eq, Bool.and_eq_true, inRange_iff, and_assoc] using h

/-- the same for four of the nine enumerations -/
theorem invalid_enum_usage (acc : List (Nat × Nat × Nat × Nat)) (r : Raw)
    (h : ¬ (0 ≤ r.extrapolation ∧ r.extrapolation ≤ 3) ∨ ¬ (0 ≤ r.cycle ∧ r.cycle ≤ 2) ∨ ¬ (0 ≤ r.stencil ∧ r.stencil ≤ 1) ∨
         ¬ (0 ≤ r.geometry ∧ r.geometry ≤ 3)) :
    classify acc r = .usageExit :=
  usage_of_out_of_range acc r (by omega)

example : classify [(0, 0, 0, 0)] ⟨0, 0, 0, 0, 0, 0, 0, 0, 1, true, true, 1/100000, 13/10, 0, 4, -1, 0, 0, -1⟩ = .runs 3 17 32 := by decide +kernel

end C20
