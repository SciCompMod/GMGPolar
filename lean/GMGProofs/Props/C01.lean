import GMGProofs.Lemmas.CycleLoop
import GMGProofs.Lemmas.CycleToy
/-!
# C01 — the stop test of `solve()`

Property theorems only.  Model: `MGCycle.loop`, `MGCycle.solve`, `MGCycle.converged` (`GMGModel/Solve.lean`).
Definitions used in the statements (`relOf`, `exposed`, `writes`) are in
`GMGProofs/Lemmas/Cycle{Exec,Loop}.lean`.  Every vector type `V`, scalar type `R`, operators `Ops V`,
norm arithmetic `NormOps V R` (nothing is assumed about `gt`, `div`, `norm`), every object state.
-/
namespace C01
open MGCycle

variable {V R : Type}

/-! ## the relative residual -/

theorem rel_first (n : NormOps V R) (cur : R) : relOf n [] cur = n.one := rfl

theorem rel_later (n : NormOps V R) (initial : R) (t : List R) (cur : R) :
    relOf n (initial :: t) cur = n.div cur initial := rfl

/-! ## iteration budget -/

theorem budget (o : Ops V) (n : NormOps V R) (c : SolveCfg R) (s : Obj V R) :
    (solve o n c s).iters ≤ c.maxit := by
  rcases solve_shape o n c s with ⟨_, _, h, _⟩ | ⟨s', h, _, _, _, h'⟩
  · exact Nat.le_of_eq h
  · rw [h]; exact Nat.le_of_lt h'

/-! ## a reported convergence is true of the returned state -/

/-- the residual program reads `(0,rhs)`, `(0,sol)`, `(1,rhs)` (before writing them: nothing else) … -/
theorem stop_reads (ex : Bool) : ∀ r ∈ exposed (stopResidual ex), r ∈ [((0, .rhs) : Ref), (0, .sol), (1, .rhs)] :=
  stopResidual_exposed ex

/-- … and writes `(0,res)`, `(1,sol)`, `(1,res)` -/
theorem stop_writes (ex : Bool) :
    ∀ i ∈ stopResidual ex, ∀ w ∈ writes i, w ∈ [((0, .res) : Ref), (1, .sol), (1, .res)] :=
  stopResidual_writes ex

/-- so its result is a function of those three vectors … -/
theorem stop_residual_congr (o : Ops V) (ex : Bool) (m m' : Mem V) (h0 : m (0, .rhs) = m' (0, .rhs))
    (h1 : m (0, .sol) = m' (0, .sol)) (h2 : m (1, .rhs) = m' (1, .rhs)) :
    exec o (stopResidual ex) m (0, .res) = exec o (stopResidual ex) m' (0, .res) :=
  stopResidual_congr o ex m m' h0 h1 h2

/-- … and re-evaluating it on its own output reproduces the residual -/
theorem stop_residual_idem (o : Ops V) (ex : Bool) (m : Mem V) :
    exec o (stopResidual ex) (exec o (stopResidual ex) m) (0, .res) = exec o (stopResidual ex) m (0, .res) :=
  stopResidual_congr o ex _ _ (stopResidual_frame o ex m _ (by decide)) (stopResidual_frame o ex m _ (by decide))
    (stopResidual_frame o ex m _ (by decide))

/-- if `solve` reports convergence then the last recorded norm `cur` is the norm of the returned `(0,res)`,
    that vector is the stop residual of the *returned* memory (no instruction ran after the test), and the
    test holds for `cur` with the relative residual `1` (first test) resp. `cur / norms.head` -/
theorem reported_true (o : Ops V) (n : NormOps V R) (c : SolveCfg R) (s : Obj V R)
    (h : (solve o n c s).stoppedEarly = true) :
    ∃ pre cur, (solve o n c s).norms = pre ++ [cur] ∧
      cur = n.norm ((solve o n c s).mem (0, .res)) ∧
      (solve o n c s).mem (0, .res) =
        exec o (stopResidual (c.extrapMode != 0)) (solve o n c s).mem (0, .res) ∧
      converged n c cur (relOf n pre cur) = true := by
  rcases solve_shape o n c s with ⟨h1, _⟩ | ⟨s', h1, h2, _⟩
  · rw [h1] at h; cases h
  · rw [h1]
    exact ⟨s'.norms, testCur o n c s', rfl, rfl, (stop_residual_idem o _ s'.mem).symm, h2⟩

/-! ## when the loop leaves early -/

/-- early exit ⇔ some recorded test met a tolerance -/
theorem stop_iff (o : Ops V) (n : NormOps V R) (c : SolveCfg R) (s : Obj V R) :
    (solve o n c s).stoppedEarly = true ↔
      ∃ pre cur suf, (solve o n c s).norms = pre ++ cur :: suf ∧ converged n c cur (relOf n pre cur) = true := by
  constructor
  · intro h
    obtain ⟨pre, cur, h1, _, _, h4⟩ := reported_true o n c s h
    exact ⟨pre, cur, [], h1, h4⟩
  · rintro ⟨pre, cur, suf, h1, h2⟩
    rcases solve_shape o n c s with ⟨_, hf, _⟩ | ⟨s', h, _⟩
    · rw [hf pre cur suf h1] at h2; cases h2
    · rw [h]; rfl

/-- it leaves at the first such test: every test before the last recorded one failed -/
theorem first_hit (o : Ops V) (n : NormOps V R) (c : SolveCfg R) (s : Obj V R) (pre : List R) (cur : R)
    (suf : List R) (h : (solve o n c s).norms = pre ++ cur :: suf) (hs : suf ≠ []) :
    converged n c cur (relOf n pre cur) = false := by
  rcases solve_shape o n c s with ⟨_, hf, _⟩ | ⟨s', h1, _, h3, _⟩
  · exact hf pre cur suf h
  · rw [h1, stopState_norms] at h
    rcases append_singleton_split h with ⟨e, _, _⟩ | ⟨suf', _, e⟩
    · exact absurd e hs
    · exact h3 pre cur suf' e

/-- without tolerances: never early, exactly `maxit` cycles, no norm recorded -/
theorem no_tolerance (o : Ops V) (n : NormOps V R) (c : SolveCfg R) (s : Obj V R)
    (ha : c.absTol = none) (hr : c.relTol = none) :
    (solve o n c s).stoppedEarly = false ∧ (solve o n c s).iters = c.maxit ∧ (solve o n c s).norms = [] := by
  rcases solve_shape o n c s with ⟨h1, _, h3, h4⟩ | ⟨s', _, h2, _⟩
  · exact ⟨h1, h3, List.eq_nil_of_length_eq_zero (by simpa [tested, ha, hr] using h4)⟩
  · simp [converged, ha, hr] at h2

/-- not early ⇒ the whole budget was used; early ⇒ one norm per cycle plus the final one, budget not exhausted -/
theorem iters_of_stop (o : Ops V) (n : NormOps V R) (c : SolveCfg R) (s : Obj V R) :
    ((solve o n c s).stoppedEarly = false → (solve o n c s).iters = c.maxit) ∧
    ((solve o n c s).stoppedEarly = true →
      (solve o n c s).norms.length = (solve o n c s).iters + 1 ∧ (solve o n c s).iters < c.maxit) := by
  rcases solve_shape o n c s with ⟨h1, _, h3, _⟩ | ⟨s', h1, _, _, h4, h5⟩
  · exact ⟨fun _ => h3, fun h => (by rw [h1] at h; cases h)⟩
  · rw [h1]
    exact ⟨fun h => (by cases h), fun _ => ⟨by rw [stopState_norms, stopState_iters, h4]; simp, h5⟩⟩

/-! ## the statistics are local to one solve -/

theorem norms_local (o : Ops V) (n : NormOps V R) (c : SolveCfg R) (s : Obj V R) :
    (solve o n c s).norms.length ≤ c.maxit ∧ (solve o n c s).norms.length ≤ c.maxit + 1 ∧
    ∀ (l : List R) (i : Nat) (b : Bool),
      solve o n c { s with norms := l, iters := i, stoppedEarly := b } = solve o n c s := by
  have : (solve o n c s).norms.length ≤ c.maxit := by
    rcases solve_shape o n c s with ⟨_, _, _, h⟩ | ⟨s', h, _, _, h4, h5⟩
    · rw [h]; split
      · exact Nat.le_refl _
      · exact Nat.zero_le _
    · rw [h, stopState_norms, List.length_append, ← h4]; exact h5
  exact ⟨this, Nat.le_succ_of_le this, fun _ _ _ => rfl⟩

/-! ## non-vacuity -/

/-- a solve that stops early … -/
example : (solve idOps toyNorm ⟨⟨2, 1, 1⟩, .V, 0, true, .V, 0, 5, some 0, none⟩
    ⟨toyMem (fun _ => 3) 7, true, [99], 4, false⟩).stoppedEarly = true := by decide

/-- … and one that uses its budget -/
example : (solve toyOps toyNorm ⟨⟨2, 1, 1⟩, .V, 0, false, .V, 0, 3, some 0, some 0⟩
    ⟨toyMem (fun _ => 3) 7, true, [], 0, false⟩).iters = 3 := by decide

end C01
