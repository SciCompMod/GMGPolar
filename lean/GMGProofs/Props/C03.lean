import GMGProofs.Lemmas.StencilLemmas3
import Mathlib.Tactic.FieldSimp
import Mathlib.Tactic.Linarith
import Mathlib.Tactic.Positivity
import Mathlib.Tactic.LinearCombination
import Mathlib.Tactic.NormNum
import Mathlib.Algebra.Order.Field.Basic
import Mathlib.Algebra.Order.Field.Rat
/-!
# C03 — the discrete operator: scatter ("give") = gather ("take"), row classes, ellipticity

Property theorems and the two example operators `exOp`, `badOp`.  Model: `GMGModel/Stencil.lean` (transcribes `applyResidualTake.cpp`,
`applyAGive.cpp`, `residualGive.cpp`, `compute_jacobian_elements`).  Helper definitions and lemmas
(the rows of `take`, `recv`, the slots `sC … sT` of a node, `sum_giveNode`, `give_formula`, `give_eq_take_at`) live in
`GMGProofs/Lemmas/StencilLemmas{1,2,3}.lean`.  All statements hold for every grid size
`nr ≥ 4`, every even `nt ≥ 2` and every field `K` (ordered where positivity is mentioned).
-/
namespace C03
open Stencil

section AnyField
variable {K : Type} [_root_.Field K]

/-! ## the rows of the gather form -/

/-- outer boundary row is the Dirichlet row -/
theorem dirichlet_rows_outer (o : Op K) (hnr : 2 ≤ o.nr) (f x : Stencil.Field K) (j : Nat) :
    take o f x (o.nr - 1) j = f (o.nr - 1) j - x (o.nr - 1) j :=
  take_outer o f x j (by omega) (by omega)

/-- inner boundary row is the Dirichlet row when `DirBC_Interior` -/
theorem dirichlet_rows_inner (o : Op K) (hbc : o.bc = true) (f x : Stencil.Field K) (j : Nat) :
    take o f x 0 j = f 0 j - x 0 j :=
  take_zero_dirichlet o f x hbc j

/-- rows `0 < i < nr - 1` are the 9-point rows -/
theorem interior_rows (o : Op K) (f x : Stencil.Field K) (i j : Nat) (h0 : 0 < i) (h1 : i + 1 < o.nr) :
    take o f x i j = takeInterior o f x i j :=
  take_interior o f x j h0 h1

/-- row `0` is the 7-point across-the-origin row when not `DirBC_Interior` -/
theorem origin_row (o : Op K) (hbc : o.bc = false) (f x : Stencil.Field K) (j : Nat) :
    take o f x 0 j = takeOrigin o f x j :=
  take_origin o f x hbc j

/-! ## scatter = gather -/

/-- folding `applyUpd` over ANY list of updates subtracts at each target the total addressed to it -/
theorem fold_scatter (l : List (Upd K)) (f : Stencil.Field K) (a b : Nat) :
    (l.foldl applyUpd f) a b
      = f a b - (l.map fun u => if a = u.ti ∧ b = u.tj then u.v else 0).sum :=
  foldl_applyUpd l f a b

/-- **C03**: the scatter encoding (`ResidualGive`) and the gather encoding (`ResidualTake`) compute the
    same residual at every node, for both inner-boundary modes; across the origin the angular spacing
    must be antipodally symmetric -/
theorem give_eq_take (o : Op K) (hnr : 4 ≤ o.nr) (hnt : 2 ≤ o.nt) (heven : o.nt % 2 = 0)
    (hk : ∀ j, j < o.nt → o.k (ja o j) = o.k j)
    (f x : Stencil.Field K) (i j : Nat) (hi : i < o.nr) (hj : j < o.nt) :
    Stencil.give o f x i j = Stencil.take o f x i j :=
  give_eq_take' o f x hnr hnt heven (fun _ => hk) i j hi hj

/-- the antipodal symmetry is only used when `DirBC_Interior = false` -/
theorem give_eq_take_weak_hk (o : Op K) (hnr : 4 ≤ o.nr) (hnt : 2 ≤ o.nt) (heven : o.nt % 2 = 0)
    (hk : o.bc = false → ∀ j, j < o.nt → o.k (ja o j) = o.k j)
    (f x : Stencil.Field K) (i j : Nat) (hi : i < o.nr) (hj : j < o.nt) :
    Stencil.give o f x i j = Stencil.take o f x i j :=
  give_eq_take' o f x hnr hnt heven hk i j hi hj

/-- Dirichlet inner boundary: no condition on the angular spacing at all -/
theorem give_eq_take_dirichlet (o : Op K) (hnr : 4 ≤ o.nr) (hnt : 2 ≤ o.nt) (heven : o.nt % 2 = 0)
    (hbc : o.bc = true) (f x : Stencil.Field K) (i j : Nat) (hi : i < o.nr) (hj : j < o.nt) :
    Stencil.give o f x i j = Stencil.take o f x i j :=
  give_eq_take' o f x hnr hnt heven (not_across hbc) i j hi hj

/-- away from row `0` no condition on the angular spacing is needed either -/
theorem give_eq_take_off_origin (o : Op K) (hnr : 4 ≤ o.nr) (heven : o.nt % 2 = 0)
    (f x : Stencil.Field K) (i j : Nat) (h0 : 0 < i) (hi : i < o.nr) (hj : j < o.nt) :
    Stencil.give o f x i j = Stencil.take o f x i j :=
  give_eq_take_at o f x hnr heven i j hi hj fun h => absurd h h0.ne'

/-! ## ellipticity of the transformed coefficients -/

/-- `arr·att − art²/4 = α²/4`: the determinant of the coefficient matrix of `compute_jacobian_elements`
    (any `abs` with `abs(det)² = det²`) -/
theorem ellipticity (h2 : (2 : K) ≠ 0) (abs : K → K) (Jrr Jtr Jrt Jtt alpha : K)
    (hdet : Jrr * Jtt - Jrt * Jtr ≠ 0)
    (habs : abs (Jrr * Jtt - Jrt * Jtr) * abs (Jrr * Jtt - Jrt * Jtr)
      = (Jrr * Jtt - Jrt * Jtr) * (Jrr * Jtt - Jrt * Jtr)) :
    let e := jacobianElements abs Jrr Jtr Jrt Jtt alpha
    e.1 * e.2.1 - e.2.2.1 * e.2.2.1 / 4 = alpha * alpha / 4 := by
  intro e
  have hd : abs (Jrr * Jtt - Jrt * Jtr) ≠ 0 := by
    intro h; rw [h] at habs; simp at habs; exact hdet habs
  have h4 := four_ne_zero_of_two h2
  simp only [e, jacobianElements, half_eq]
  generalize abs (Jrr * Jtt - Jrt * Jtr) = d at *
  field_simp
  linear_combination (-4 * alpha ^ 2) * habs

/-- the fourth component is the (signed) Jacobian determinant -/
theorem jacobian_det (abs : K → K) (Jrr Jtr Jrt Jtt alpha : K) :
    (jacobianElements abs Jrr Jtr Jrt Jtt alpha).2.2.2 = Jrr * Jtt - Jrt * Jtr := rfl

end AnyField

section Ordered
variable {K : Type} [_root_.Field K] [LinearOrder K] [IsStrictOrderedRing K]

/-- strict ellipticity `art² < 4·arr·att` whenever `α ≠ 0` -/
theorem ellipticity_strict (abs : K → K) (Jrr Jtr Jrt Jtt alpha : K)
    (hdet : Jrr * Jtt - Jrt * Jtr ≠ 0)
    (habs : abs (Jrr * Jtt - Jrt * Jtr) * abs (Jrr * Jtt - Jrt * Jtr)
      = (Jrr * Jtt - Jrt * Jtr) * (Jrr * Jtt - Jrt * Jtr))
    (halpha : alpha ≠ 0) :
    let e := jacobianElements abs Jrr Jtr Jrt Jtt alpha
    e.2.2.1 * e.2.2.1 < 4 * e.1 * e.2.1 := by
  intro e
  have h := ellipticity (K := K) two_ne_zero abs Jrr Jtr Jrt Jtt alpha hdet habs
  have hpos : 0 < alpha * alpha := mul_self_pos.mpr halpha
  simp only at h
  change e.1 * e.2.1 - e.2.2.1 * e.2.2.1 / 4 = alpha * alpha / 4 at h
  linarith

/-- `arr > 0` and `att > 0` for `α > 0`, `abs det > 0`, `det ≠ 0` -/
theorem arr_att_pos (abs : K → K) (Jrr Jtr Jrt Jtt alpha : K)
    (hdet : Jrr * Jtt - Jrt * Jtr ≠ 0) (habs : 0 < abs (Jrr * Jtt - Jrt * Jtr)) (halpha : 0 < alpha) :
    let e := jacobianElements abs Jrr Jtr Jrt Jtt alpha
    0 < e.1 ∧ 0 < e.2.1 := by
  intro e
  -- a column of the Jacobian vanishes only if the determinant does
  have h1 : 0 < Jtt * Jtt + Jrt * Jrt :=
    (add_nonneg (mul_self_nonneg _) (mul_self_nonneg _)).lt_of_ne' fun h => hdet (by
      obtain ⟨ha, hb⟩ := mul_self_add_mul_self_eq_zero.mp h; rw [ha, hb]; ring)
  have h2 : 0 < Jtr * Jtr + Jrr * Jrr :=
    (add_nonneg (mul_self_nonneg _) (mul_self_nonneg _)).lt_of_ne' fun h => hdet (by
      obtain ⟨ha, hb⟩ := mul_self_add_mul_self_eq_zero.mp h; rw [ha, hb]; ring)
  simp only [e, jacobianElements, half_eq]
  constructor <;> positivity

end Ordered

/-! ## non-vacuity -/

/-- a grid with non-constant, antipodally symmetric angular spacing satisfying every hypothesis of
    `give_eq_take` in the across-the-origin mode -/
def exOp : Op ℚ :=
  { nr := 4, nt := 4, bc := false, r0 := 1 / 10, h := fun i => 1 + i, k := fun j => if j % 2 = 0 then 1 else 2,
    arr := fun i j => 1 + i + j, att := fun i j => 2 + i * j, art := fun i j => (i : ℚ) - j,
    det := fun i _ => 1 + i, beta := fun i => i }

example : 4 ≤ exOp.nr ∧ 2 ≤ exOp.nt ∧ exOp.nt % 2 = 0 ∧ exOp.bc = false ∧
    (∀ j, j < exOp.nt → exOp.k (ja exOp j) = exOp.k j) ∧ exOp.k 0 ≠ exOp.k 1 := by
  refine ⟨by decide, by decide, by decide, rfl, ?_, by simp [exOp]⟩
  intro j hj
  have : j < 4 := hj
  rcases (by omega : j = 0 ∨ j = 1 ∨ j = 2 ∨ j = 3) with rfl | rfl | rfl | rfl <;> simp [exOp, ja]

/-- sharpness: without the antipodal symmetry `hk` (all other hypotheses kept, `bc = false`) the two
    encodings DIFFER at the origin row — `give` = -153/5, `take` = -381/10 at node (0,0) -/
def badOp : Op ℚ := { exOp with k := fun j => if j = 3 then 2 else 1 }
theorem hk_needed :
    4 ≤ badOp.nr ∧ 2 ≤ badOp.nt ∧ badOp.nt % 2 = 0 ∧ badOp.bc = false ∧
    give badOp (fun _ _ => 0) (fun i j => if i = 0 ∧ j = 0 then 1 else 0) 0 0
      ≠ take badOp (fun _ _ => 0) (fun i j => if i = 0 ∧ j = 0 then 1 else 0) 0 0 := by
  decide +kernel

/-- the hypotheses of `ellipticity_strict` / `arr_att_pos` are satisfiable -/
example : ∃ Jrr Jtr Jrt Jtt alpha : ℚ, Jrr * Jtt - Jrt * Jtr ≠ 0 ∧
    |Jrr * Jtt - Jrt * Jtr| * |Jrr * Jtt - Jrt * Jtr| = (Jrr * Jtt - Jrt * Jtr) * (Jrr * Jtt - Jrt * Jtr) ∧
    0 < |Jrr * Jtt - Jrt * Jtr| ∧ 0 < alpha :=
  ⟨1, 2, 3, 4, 1, by norm_num, by rw [abs_mul_abs_self], by norm_num, by norm_num⟩

end C03
