import GMGProofs.Lemmas.InterpFMG
import GMGProofs.Lemmas.InterpExamples
/-!
# C09 — FMG interpolation (interpolation part)

Property theorems only.  Model: `GMGModel/Interp.lean` (`w0 … w3`, `thetaRule`, `fmgInterp`, transcribing
`src/Interpolation/fmg_interpolation.cpp`).  Helper definitions (`Interp.Admissible`, `Interp.PosSpacing`,
`Interp.cubic c0 c1 c2 c3 t = c0 + c1 t + c2 t² + c3 t³`, `Interp.fmgRow`, the concrete pair `exPair`) live in
`GMGProofs/Lemmas/Interp*.lean`.  `K` is an arbitrary linearly ordered field (arbitrary field for the
structural statements), the grid sizes are arbitrary admissible sizes.
-/
namespace C09
open Interp hiding Field

section Ordered
variable {K : Type} [Field K] [LinearOrder K] [IsStrictOrderedRing K]

/-! ## 1. constants -/

theorem fmg_weights_sum (h0 h1 h2 h3 : K) (p0 : 0 < h0) (p1 : 0 < h1) (p2 : 0 < h2) (p3 : 0 < h3) :
    w0 h0 h1 h2 h3 + w1 h0 h1 h2 h3 + w2 h0 h1 h2 h3 + w3 h0 h1 h2 h3 = 1 := w_sum h0 h1 h2 h3 p0 p1 p2 p3

/-- every node class of `fmgInterp` reproduces constants -/
theorem fmg_const (p : Pair K) (hP : PosSpacing p) (c : K) (i j : ℕ) :
    fmgInterp p (fun _ _ => c) i j = c := Interp.fmg_const p hP c i j

/-! ## 2. the four weights are the cubic Lagrange weights -/

/-- nodes at `-(h0+h1), -h1, h2, h2+h3`, evaluation at `0` -/
theorem fmg_cubic (h0 h1 h2 h3 c0 c1 c2 c3 : K) (p0 : 0 < h0) (p1 : 0 < h1) (p2 : 0 < h2) (p3 : 0 < h3) :
    w0 h0 h1 h2 h3 * cubic c0 c1 c2 c3 (-(h0 + h1)) + w1 h0 h1 h2 h3 * cubic c0 c1 c2 c3 (-h1)
      + w2 h0 h1 h2 h3 * cubic c0 c1 c2 c3 h2 + w3 h0 h1 h2 h3 * cubic c0 c1 c2 c3 (h2 + h3)
      = cubic c0 c1 c2 c3 0 := by
  simpa only [zero_sub, zero_add] using w_cubic_at h0 h1 h2 h3 c0 c1 c2 c3 0 p0 p1 p2 p3

/-- the same around an arbitrary point `ρ` -/
theorem fmg_cubic_at (h0 h1 h2 h3 c0 c1 c2 c3 ρ : K) (p0 : 0 < h0) (p1 : 0 < h1) (p2 : 0 < h2) (p3 : 0 < h3) :
    w0 h0 h1 h2 h3 * cubic c0 c1 c2 c3 (ρ - (h0 + h1)) + w1 h0 h1 h2 h3 * cubic c0 c1 c2 c3 (ρ - h1)
      + w2 h0 h1 h2 h3 * cubic c0 c1 c2 c3 (ρ + h2) + w3 h0 h1 h2 h3 * cubic c0 c1 c2 c3 (ρ + (h2 + h3))
      = cubic c0 c1 c2 c3 ρ := w_cubic_at h0 h1 h2 h3 c0 c1 c2 c3 ρ p0 p1 p2 p3

/-! ## 3. exactness for cubics on the grid -/

/-- interior odd row, even column: cubic in `r` -/
theorem fmg_cubic_r (p : Pair K) (hP : PosSpacing p) (c0 c1 c2 c3 : K) (r : ℕ → K) (x : Interp.Field K) (i j : ℕ)
    (hodd : i % 2 = 1) (h3 : 3 ≤ i) (hi : i + 3 ≤ p.nrF) (hj : j % 2 = 0)
    (hr : ∀ i, r (i + 1) = r i + p.hF i) (hC : ∀ I, p.hC I = p.hF (2 * I) + p.hF (2 * I + 1))
    (hx : ∀ I J, x I J = cubic c0 c1 c2 c3 (r (2 * I))) :
    fmgInterp p x i j = cubic c0 c1 c2 c3 (r i) := by
  obtain ⟨s, rfl⟩ : ∃ s, i = 2 * s + 3 := ⟨(i - 3) / 2, by omega⟩
  have cj : ¬ j % 2 = 1 := by omega
  rw [fmgInterp_eq, fmgCol_interior p _ s hi]
  have := rule_cubic p.hF p.hC hP.hF hP.hC c0 c1 c2 c3 1 r (fmgRow p x j) s hr hC
    (fun I => by simp only [fmgRow, cj, if_false, hx, mul_one])
  rw [this, mul_one]

/-- the angular rule on one coarse row, seam included: exact when the four coarse values it reads are the
    cubic at the local nodes `t-(k0+k1), t-k1, t+k2, t+(k2+k3)` -/
theorem thetaRule_cubic_local (p : Pair K) (hP : PosSpacing p) (c0 c1 c2 c3 t : K) (x : Interp.Field K) (I j : ℕ)
    (hm : x I (wC p (j / 2 + ntC p - 1))
      = cubic c0 c1 c2 c3 (t - (p.kC (wC p (j / 2 + ntC p - 1)) + p.kF (wF p (j + p.ntF - 1)))))
    (h0 : x I (j / 2) = cubic c0 c1 c2 c3 (t - p.kF (wF p (j + p.ntF - 1))))
    (h1 : x I (wC p (j / 2 + 1)) = cubic c0 c1 c2 c3 (t + p.kF j))
    (h2 : x I (wC p (j / 2 + 2)) = cubic c0 c1 c2 c3 (t + (p.kF j + p.kC (wC p (j / 2 + 1))))) :
    thetaRule p x I j = cubic c0 c1 c2 c3 t := by
  simp only [thetaRule, hm, h0, h1, h2]
  exact w_cubic_at _ _ _ _ c0 c1 c2 c3 t (hP.kC _) (hP.kF _) (hP.kF _) (hP.kC _)

/-- even row (boundary rows included), odd column away from the seam (`3 ≤ j`, `j + 3 < ntF`): cubic in `θ` -/
theorem fmg_cubic_theta (p : Pair K) (hA : Admissible p) (hP : PosSpacing p) (c0 c1 c2 c3 : K) (θ : ℕ → K)
    (x : Interp.Field K) (i j : ℕ) (hi : i % 2 = 0) (hodd : j % 2 = 1) (h3 : 3 ≤ j) (hj : j + 3 < p.ntF)
    (hθ : ∀ j, θ (j + 1) = θ j + p.kF j) (hC : ∀ J, p.kC J = p.kF (2 * J) + p.kF (2 * J + 1))
    (hx : ∀ I J, x I J = cubic c0 c1 c2 c3 (θ (2 * J))) :
    fmgInterp p x i j = cubic c0 c1 c2 c3 (θ j) := by
  have hi' : ¬ i % 2 = 1 := by omega
  rw [fmgInterp_eq, fmgCol_eq_Pr p hA _ i (Or.inl hi), Pr, if_neg hi', fmgRow, if_pos hodd]
  exact thetaRule_cubic p hA hP c0 c1 c2 c3 θ x (i / 2) j hodd h3 hj hθ hC (fun J => hx _ J)

/-! ## 4. odd/odd interior nodes: exact for products `P(r)·Q(θ)` of cubics -/

theorem fmg_tensor (p : Pair K) (hA : Admissible p) (hP : PosSpacing p) (a0 a1 a2 a3 b0 b1 b2 b3 : K)
    (r θ : ℕ → K) (x : Interp.Field K) (i j : ℕ)
    (hio : i % 2 = 1) (hi3 : 3 ≤ i) (hi : i + 3 ≤ p.nrF) (hjo : j % 2 = 1) (hj3 : 3 ≤ j) (hj : j + 3 < p.ntF)
    (hr : ∀ i, r (i + 1) = r i + p.hF i) (hCr : ∀ I, p.hC I = p.hF (2 * I) + p.hF (2 * I + 1))
    (hθ : ∀ j, θ (j + 1) = θ j + p.kF j) (hCt : ∀ J, p.kC J = p.kF (2 * J) + p.kF (2 * J + 1))
    (hx : ∀ I J, x I J = cubic a0 a1 a2 a3 (r (2 * I)) * cubic b0 b1 b2 b3 (θ (2 * J))) :
    fmgInterp p x i j = cubic a0 a1 a2 a3 (r i) * cubic b0 b1 b2 b3 (θ j) := by
  obtain ⟨s, rfl⟩ : ∃ s, i = 2 * s + 3 := ⟨(i - 3) / 2, by omega⟩
  obtain rfl : x = fun I J => cubic a0 a1 a2 a3 (r (2 * I)) * cubic b0 b1 b2 b3 (θ (2 * J)) := by
    funext I J; exact hx I J
  rw [fmgInterp_eq, fmgCol_interior p _ s hi]
  apply rule_cubic p.hF p.hC hP.hF hP.hC a0 a1 a2 a3 _ r _ s hr hCr
  intro I
  simp only [fmgRow, hjo, if_true]
  rw [thetaRule_mul p (fun I => cubic a0 a1 a2 a3 (r (2 * I))) (fun J => cubic b0 b1 b2 b3 (θ (2 * J))) I j,
    thetaRule_cubic p hA hP b0 b1 b2 b3 θ _ I j hjo hj3 hj hθ hCt (fun _ => rfl)]

end Ordered

section AnyField
variable {K : Type} [Field K]

/-! ## 5. next to the boundary the radial rule falls back to the two-point rule of `prolong` -/

theorem fmg_fallback (p : Pair K) (hA : Admissible p) (x : Interp.Field K) (i j : ℕ)
    (hi : i = 1 ∨ i + 2 = p.nrF) (hj : j % 2 = 0) : fmgInterp p x i j = prolong p x i j :=
  Interp.fmg_fallback p hA x i j hi hj

/-- the same rows, odd columns: two-point rule in `r` applied to the angular four-point rule -/
theorem fmg_fallback_odd (p : Pair K) (hA : Admissible p) (x : Interp.Field K) (i j : ℕ)
    (hi : i = 1 ∨ i + 2 = p.nrF) (hj : j % 2 = 1) :
    fmgInterp p x i j
      = (p.hF (i - 1) * thetaRule p x (i / 2) j + p.hF i * thetaRule p x (i / 2 + 1) j) / (p.hF (i - 1) + p.hF i) := by
  have hi' : i % 2 = 1 := by obtain ⟨m, q, _, _, hnr, _⟩ := hA.exists_mq; omega
  rw [fmgInterp_eq, fmgCol_eq_Pr p hA _ i (Or.inr hi), Pr, if_pos hi']
  simp only [fmgRow, if_pos hj]

/-! ## 6. only in-range values are read (first index `< nrC` resp. `< nrF`; the second index is wrapped) -/

theorem fmg_inbounds (p : Pair K) (hA : Admissible p) (x x' : Interp.Field K)
    (hx : ∀ I J, I < nrC p → J < ntC p → x I J = x' I J) (i j : ℕ) (hi : i < p.nrF) (hj : j < p.ntF) :
    fmgInterp p x i j = fmgInterp p x' i j := by
  obtain ⟨m, q, hm, hq, hnr, hnt, hc, hqc⟩ := hA.exists_mq
  have hw : ∀ a, wC p a < ntC p := fun a => Nat.mod_lt _ (by omega)
  have hjc : j / 2 < ntC p := by omega
  simp only [fmgInterp, thetaRule]
  split_ifs with h1 h2 h3 h4 h5 h6 h7
  all_goals simp (disch := first | exact hw _ | omega) only [hx]

theorem prolong_inbounds (p : Pair K) (hA : Admissible p) (x x' : Interp.Field K)
    (hx : ∀ I J, I < nrC p → J < ntC p → x I J = x' I J) (i j : ℕ) (hi : i < p.nrF) (hj : j < p.ntF) :
    prolong p x i j = prolong p x' i j := by
  obtain ⟨m, q, hm, hq, hnr, hnt, hc, hqc⟩ := hA.exists_mq
  have hw : ∀ a, wC p a < ntC p := fun a => Nat.mod_lt _ (by omega)
  have hjc : j / 2 < ntC p := by omega
  simp only [prolong]
  split_ifs with h1 h2 h2
  all_goals simp (disch := first | exact hw _ | omega) only [hx]

theorem exProlong_inbounds (p : Pair K) (hA : Admissible p) (x x' : Interp.Field K)
    (hx : ∀ I J, I < nrC p → J < ntC p → x I J = x' I J) (i j : ℕ) (hi : i < p.nrF) (hj : j < p.ntF) :
    exProlong p x i j = exProlong p x' i j := by
  obtain ⟨m, q, hm, hq, hnr, hnt, hc, hqc⟩ := hA.exists_mq
  have hw : ∀ a, wC p a < ntC p := fun a => Nat.mod_lt _ (by omega)
  have hjc : j / 2 < ntC p := by omega
  simp only [exProlong]
  split_ifs with h1 h2 h2
  all_goals simp (disch := first | exact hw _ | omega) only [hx]

theorem restrict_inbounds (p : Pair K) (hA : Admissible p) (y y' : Interp.Field K)
    (hy : ∀ i j, i < p.nrF → j < p.ntF → y i j = y' i j) (I J : ℕ) (hI : I < nrC p) (hJ : J < ntC p) :
    restrict p y I J = restrict p y' I J := by
  obtain ⟨m, q, hm, hq, hnr, hnt, hc, hqc⟩ := hA.exists_mq
  have hw : ∀ a, wF p a < p.ntF := fun a => Nat.mod_lt _ (by omega)
  simp only [restrict]
  split_ifs with h1 h2 h2
  all_goals simp (disch := first | exact hw _ | omega) only [hy]

theorem exRestrict_inbounds (p : Pair K) (hA : Admissible p) (y y' : Interp.Field K)
    (hy : ∀ i j, i < p.nrF → j < p.ntF → y i j = y' i j) (I J : ℕ) (hI : I < nrC p) (hJ : J < ntC p) :
    exRestrict p y I J = exRestrict p y' I J := by
  obtain ⟨m, q, hm, hq, hnr, hnt, hc, hqc⟩ := hA.exists_mq
  have hw : ∀ a, wF p a < p.ntF := fun a => Nat.mod_lt _ (by omega)
  simp only [exRestrict]
  split_ifs with h1 h2 h2
  all_goals simp (disch := first | exact hw _ | omega) only [hy]

end AnyField

/-! ## non-vacuity: the hypotheses are satisfiable (non-uniform `7 × 8` pair over ℚ, `r i = i(i+1)/2`) -/

example : Admissible exPair ∧ PosSpacing exPair := ⟨exPair_adm, exPair_pos⟩
/-- `fmg_cubic_r` at the only interior odd row `i = 3` of `nrF = 7` -/
example : fmgInterp exPair (fun I _ => cubic 1 2 3 4 (exR (2 * I))) 3 2 = cubic 1 2 3 4 (exR 3) :=
  fmg_cubic_r exPair exPair_pos 1 2 3 4 exR _ 3 2 (by decide) (by decide) (by decide) (by decide)
    exR_step exPair_hC (fun _ _ => rfl)
/-- `fmg_cubic_theta` at `j = 3` (`j + 3 = 6 < 8`), boundary row `i = 0` -/
example : fmgInterp exPair (fun _ J => cubic 1 2 3 4 (exTheta (2 * J))) 0 3 = cubic 1 2 3 4 (exTheta 3) :=
  fmg_cubic_theta exPair exPair_adm exPair_pos 1 2 3 4 exTheta _ 0 3 (by decide) (by decide) (by decide) (by decide)
    exTheta_step exPair_kC (fun _ _ => rfl)
/-- `fmg_tensor` at `(3, 3)` -/
example : fmgInterp exPair (fun I J => cubic 1 2 3 4 (exR (2 * I)) * cubic 4 3 2 1 (exTheta (2 * J))) 3 3
    = cubic 1 2 3 4 (exR 3) * cubic 4 3 2 1 (exTheta 3) :=
  fmg_tensor exPair exPair_adm exPair_pos 1 2 3 4 4 3 2 1 exR exTheta _ 3 3 (by decide) (by decide) (by decide)
    (by decide) (by decide) (by decide) exR_step exPair_hC exTheta_step exPair_kC (fun _ _ => rfl)
/-- the rows of `nrF = 7` that meet the hypothesis `hi` of `fmg_fallback`: `i = 1` and `i = 5` -/
example : (1 = 1 ∨ 1 + 2 = exPair.nrF) ∧ ((5 : ℕ) = 1 ∨ 5 + 2 = exPair.nrF) := ⟨Or.inl rfl, Or.inr rfl⟩

end C09
