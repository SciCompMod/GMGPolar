import GMGProofs.Lemmas.SmootherLemmas
import GMGProofs.Lemmas.DirectLemmas
import GMGProofs.Lemmas.SmootherEnergy
import GMGProofs.Props.C03
import GMGProofs.Props.C05
import Mathlib.Algebra.Order.Field.Basic
import Mathlib.Algebra.Order.Field.Rat
import Mathlib.Tactic.Linarith
import Mathlib.Tactic.Positivity
/-!
# C06 — smoothing is an exact zebra line relaxation of the same operator

Property theorems only.  Model: `GMGModel/Smoother.lean` (`phase`, `mix`, `defect`), operator
`Stencil.take` of `GMGModel/Stencil.lean`.  `IsSweep o nc f x y` says that every sweep equation holds
(`defect … = 0` at every grid node), `sameLine nc i j a b` that `(a, b)` lies on the smoother line of
`(i, j)`, `LineInj` that every line block is injective — all defined in
`GMGProofs/Lemmas/SmootherLemmas.lean`.  `K` is an arbitrary field (ordered only for `energy`).
-/
namespace C06
open Stencil Smoother

section AnyField
variable {K : Type} [_root_.Field K]

set_option linter.unusedSectionVars false in
theorem mix_self (nc p : Nat) (u : Stencil.Field K) : mix nc p u u = u := Smoother.mix_self nc p u

set_option linter.unusedSectionVars false in
/-- after the last phase the mixed iterate is the new iterate (all phases are `≤ 4`) -/
theorem mix_last (nc : Nat) (x y : Stencil.Field K) : mix nc 4 x y = y := Smoother.mix_four nc x y

/-- every node belongs to exactly one of the four phases -/
theorem phase_range (nc i j : Nat) : 1 ≤ phase nc i j ∧ phase nc i j ≤ 4 :=
  ⟨one_le_phase nc i j, phase_le_four nc i j⟩

/-- a sweep leaves the exact discrete solution unchanged -/
theorem fixed_point (o : Op K) (nc : Nat) (f u : Stencil.Field K)
    (hu : ∀ i j, i < o.nr → j < o.nt → take o f u i j = 0) : IsSweep o nc f u u := isSweep_self nc hu

/-- converse: a fixed point of the sweep solves the discrete system -/
theorem fixed_point_iff (o : Op K) (nc : Nat) (f u : Stencil.Field K) :
    IsSweep o nc f u u ↔ ∀ i j, i < o.nr → j < o.nt → take o f u i j = 0 :=
  ⟨fun h i j hi hj => by have := h i j hi hj; rwa [defect, Smoother.mix_self] at this, fixed_point o nc f u⟩

/-- a node of phase `p` satisfies its row equation for the iterate after phase `p` -/
theorem phase_colour (o : Op K) (nc : Nat) (f x y : Stencil.Field K) (h : IsSweep o nc f x y)
    (p i j : Nat) (hi : i < o.nr) (hj : j < o.nt) (hp : phase nc i j = p) :
    take o f (mix nc p x y) i j = 0 := hp ▸ h i j hi hj

/-- on the white radial lines (the last colour) the residual of the NEW iterate vanishes -/
theorem last_colour (o : Op K) (nc : Nat) (f x y : Stencil.Field K) (h : IsSweep o nc f x y)
    (i j : Nat) (hi : i < o.nr) (hj : j < o.nt) (hrad : nc ≤ i) (hodd : j % 2 = 1) :
    take o f y i j = 0 :=
  Smoother.mix_four nc x y ▸ phase_colour o nc f x y h 4 i j hi hj (phase_white_radial hrad hodd)

/-- the sweep sets the Dirichlet values: outer boundary -/
theorem dirichlet_set_outer (o : Op K) (nc : Nat) (hnr : 2 ≤ o.nr) (f x y : Stencil.Field K)
    (h : IsSweep o nc f x y) (j : Nat) (hj : j < o.nt) : y (o.nr - 1) j = f (o.nr - 1) j :=
  Smoother.dirichlet_set_outer o nc hnr f x y h j hj

/-- the sweep sets the Dirichlet values: inner boundary when `DirBC_Interior` -/
theorem dirichlet_set_inner (o : Op K) (nc : Nat) (hnr : 1 ≤ o.nr) (hbc : o.bc = true)
    (f x y : Stencil.Field K) (h : IsSweep o nc f x y) (j : Nat) (hj : j < o.nt) : y 0 j = f 0 j :=
  Smoother.dirichlet_set_inner o nc hnr hbc f x y h j hj

/-- the sweep sets the Dirichlet values: both boundaries (the inner one when `DirBC_Interior`) -/
theorem dirichlet_set (o : Op K) (nc : Nat) (hnr : 2 ≤ o.nr) (f x y : Stencil.Field K)
    (h : IsSweep o nc f x y) (i j : Nat) (hj : j < o.nt)
    (hD : i = o.nr - 1 ∨ (i = 0 ∧ o.bc = true)) : y i j = f i j := by
  rcases hD with rfl | ⟨rfl, hbc⟩
  · exact dirichlet_set_outer o nc hnr f x y h j hj
  · exact dirichlet_set_inner o nc (by omega) hbc f x y h j hj

/-- the row equation of a grid node reads only grid nodes of its 3×3 box (and the antipode on circle 0
    across the origin) -/
theorem row_local (o : Op K) (f w w' : Stencil.Field K) (i j : Nat) (hnr : 2 ≤ o.nr) (hnt : 0 < o.nt)
    (hi : i < o.nr) (hj : j < o.nt)
    (h : ∀ a b, a < o.nr → b < o.nt → (a = i ∨ a + 1 = i ∨ a = i + 1) →
      (b = j ∨ b = jm o j ∨ b = jp o j ∨ (o.bc = false ∧ i = 0 ∧ a = 0 ∧ b = ja o j)) → w a b = w' a b) :
    take o f w i j = take o f w' i j := take_congr o f w w' i j hnr hnt hi hj h

set_option linter.unusedSectionVars false in
/-- every stencil neighbour of a node is on the node's own line or in a different phase
    (`nt` even; at least one smoother circle unless the inner boundary is Dirichlet) -/
theorem neighbours_other_colour (o : Op K) (nc : Nat) (hnc : 1 ≤ nc ∨ o.bc = true) (heven : o.nt % 2 = 0)
    (i j a b : Nat) (hj : j < o.nt)
    (ha : a = i ∨ a + 1 = i ∨ a = i + 1)
    (hb : b = j ∨ b = jm o j ∨ b = jp o j ∨ (o.bc = false ∧ i = 0 ∧ a = 0 ∧ b = ja o j)) :
    phase nc a b ≠ phase nc i j ∨ sameLine nc i j a b := nbr_class o nc hnc heven i j a b hj ha hb

/-- the row equation of a node of phase `p` does not read any value on a DIFFERENT line of the same
    phase: Jacobi = Gauss–Seidel inside one phase -/
theorem same_colour_decoupled (o : Op K) (nc : Nat) (hnc : 1 ≤ nc ∨ o.bc = true) (hnr : 2 ≤ o.nr)
    (hnt : 2 ≤ o.nt) (heven : o.nt % 2 = 0) (f w w' : Stencil.Field K) (i j : Nat)
    (hi : i < o.nr) (hj : j < o.nt)
    (h : ∀ a b, a < o.nr → b < o.nt → (phase nc a b ≠ phase nc i j ∨ sameLine nc i j a b) → w a b = w' a b) :
    take o f w i j = take o f w' i j := decoupled o nc hnc hnr hnt heven f w w' i j hi hj h

/-- the same for `2 ≤ nc`, `4 ≤ nt`, with the lines spelled out -/
theorem same_colour_decoupled' (o : Op K) (nc : Nat) (hnc : 2 ≤ nc) (hnr : nc + 3 ≤ o.nr)
    (hnt : 4 ≤ o.nt) (heven : o.nt % 2 = 0) (f w w' : Stencil.Field K) (i j : Nat)
    (hi : i < o.nr) (hj : j < o.nt)
    (hother : ∀ a b, a < o.nr → b < o.nt → phase nc a b ≠ phase nc i j → w a b = w' a b)
    (hcircle : i < nc → ∀ b, b < o.nt → w i b = w' i b)
    (hradial : nc ≤ i → ∀ a, nc ≤ a → a < o.nr → w a j = w' a j) :
    take o f w i j = take o f w' i j := by
  apply decoupled o nc (Or.inl (by omega)) (by omega) (by omega) heven f w w' i j hi hj
  intro a b ha hb hab
  rcases hab with hne | hs
  · exact hother a b ha hb hne
  · unfold sameLine at hs
    split at hs
    · rename_i hc; subst hs; exact hcircle hc b hb
    · obtain ⟨h1, rfl⟩ := hs
      exact hradial (by omega) a h1 ha

/-- if every line block is injective the sweep equations determine the new iterate on the grid -/
theorem sweep_unique (o : Op K) (nc : Nat) (hnc : 1 ≤ nc ∨ o.bc = true) (hnr : 2 ≤ o.nr)
    (hnt : 2 ≤ o.nt) (heven : o.nt % 2 = 0) (f x y y' : Stencil.Field K) (hL : LineInj o nc f)
    (hy : IsSweep o nc f x y) (hy' : IsSweep o nc f x y') :
    ∀ i j, i < o.nr → j < o.nt → y i j = y' i j :=
  sweep_unique_of_lineInj o nc hnc hnr hnt heven f x y y' hL hy hy'

end AnyField

section Ordered
variable {K : Type} [_root_.Field K] [LinearOrder K] [IsStrictOrderedRing K]

/-- for a symmetric positive semi-definite form `a`, additive in the first
    argument: if the new error `e - w` is `a`-orthogonal to a set `S` containing the correction `w`, then
    `a(e-w, e-w) = a(e, e) - a(w, w) ≤ a(e, e)` — one line relaxation does not increase the energy of the
    error -/
theorem energy {V : Type} [AddCommGroup V] (a : V → V → K)
    (hsub : ∀ u v w, a (u - v) w = a u w - a v w)
    (hsymm : ∀ u v, a u v = a v u)
    (hpsd : ∀ v, 0 ≤ a v v)
    (S : V → Prop) (e w : V) (hw : S w) (horth : ∀ v, S v → a (e - w) v = 0) :
    a (e - w) (e - w) = a e e - a w w ∧ a (e - w) (e - w) ≤ a e e := by
  -- `a (e - w) w = 0` gives `a e w = a w w`; expand `a (e - w) (e - w)` in the first argument, twice
  have h1 : a (e - w) w = 0 := horth w hw
  have h2 := hsub e w w
  have h3 : a (e - w) (e - w) = a e e - a w w := by
    rw [hsub e w (e - w), hsymm e (e - w), hsymm w (e - w), hsub e w e, h1, hsymm w e]; linarith
  exact ⟨h3, by rw [h3]; linarith [hpsd w]⟩

/-- the injectivity hypothesis is a theorem for Dirichlet inner boundary and elliptic data: every
    line block is a principal block of a positive definite operator -/
theorem line_blocks_injective (o : Op K) (hnr : 4 ≤ o.nr) (hnt : 2 ≤ o.nt) (heven : o.nt % 2 = 0)
    (hbc : o.bc = true) (he : Elliptic o) (nc : Nat) (f : Stencil.Field K) : LineInj o nc f :=
  Direct.lineInj_dirichlet o hnr hnt heven hbc he nc f

/-- hence, unconditionally in that mode, the sweep equations have at most one solution -/
theorem sweep_unique_dirichlet (o : Op K) (nc : Nat) (hnr : 4 ≤ o.nr) (hnt : 2 ≤ o.nt)
    (heven : o.nt % 2 = 0) (hbc : o.bc = true) (he : Elliptic o) (f x y y' : Stencil.Field K)
    (hy : IsSweep o nc f x y) (hy' : IsSweep o nc f x y') :
    ∀ i j, i < o.nr → j < o.nt → y i j = y' i j :=
  sweep_unique o nc (Or.inr hbc) (by omega) hnt heven f x y y'
    (line_blocks_injective o hnr hnt heven hbc he nc f) hy hy'

/-- one orthogonal correction for the model's operator (Dirichlet inner boundary, elliptic data):
    if the new error `e'` has zero `A`-image on a node set `S` and the correction `w = e - e'` is supported
    in `S`, the energy splits, `⟨A e, e⟩ = ⟨A e', e'⟩ + ⟨A w, w⟩`, and does not increase -/
theorem energy_step (o : Op K) (hnr : 4 ≤ o.nr) (hnt : 2 ≤ o.nt) (heven : o.nt % 2 = 0)
    (hbc : o.bc = true) (he : Elliptic o) (e e' w : Stencil.Field K) (S : Nat → Nat → Prop)
    (hV : V0 o e') (hW : V0 o w)
    (hsplit : ∀ i j, e i j = e' i j + w i j)
    (hwS : ∀ i j, i < o.nr → j < o.nt → ¬ S i j → w i j = 0)
    (hAS : ∀ i j, i < o.nr → j < o.nt → S i j → A o e' i j = 0) :
    inner o (A o e') e' ≤ inner o (A o e) e ∧
    inner o (A o e) e = inner o (A o e') e' + inner o (A o w) w :=
  Smoother.energy_step o hnr hnt heven hbc he e e' w S hV hW hsplit hwS hAS

/-- every single phase of the sweep does not increase the energy of the error
    (`gridErr o v u` = `v - u` on the grid; `x` must carry the boundary data) -/
theorem phase_energy (o : Op K) (nc : Nat) (f u x y : Stencil.Field K)
    (hnr : 4 ≤ o.nr) (hnt : 2 ≤ o.nt) (heven : o.nt % 2 = 0) (hbc : o.bc = true) (he : Elliptic o)
    (hu : ∀ i j, i < o.nr → j < o.nt → take o f u i j = 0)
    (hxD : ∀ j, j < o.nt → x (o.nr - 1) j = f (o.nr - 1) j ∧ x 0 j = f 0 j)
    (hs : IsSweep o nc f x y) (p : Nat) :
    inner o (A o (gridErr o (mix nc (p + 1) x y) u)) (gridErr o (mix nc (p + 1) x y) u)
      ≤ inner o (A o (gridErr o (mix nc p x y) u)) (gridErr o (mix nc p x y) u) :=
  Smoother.phase_energy o nc f u x y hnr hnt heven hbc he hu hxD hs p

/-- a full zebra sweep does not increase the energy norm of the error:
    Dirichlet inner boundary, elliptic data, incoming iterate carrying the boundary data -/
theorem energy_full (o : Op K) (nc : Nat) (f u x y : Stencil.Field K)
    (hnr : 4 ≤ o.nr) (hnt : 2 ≤ o.nt) (heven : o.nt % 2 = 0) (hbc : o.bc = true) (he : Elliptic o)
    (hu : ∀ i j, i < o.nr → j < o.nt → take o f u i j = 0)
    (hxD : ∀ j, j < o.nt → x (o.nr - 1) j = f (o.nr - 1) j ∧ x 0 j = f 0 j)
    (hs : IsSweep o nc f x y) :
    inner o (A o (gridErr o y u)) (gridErr o y u) ≤ inner o (A o (gridErr o x u)) (gridErr o x u) :=
  Smoother.sweep_energy o nc f u x y hnr hnt heven hbc he hu hxD hs

end Ordered

/-! ## non-vacuity -/

/-- a genuine fixed point: for the Dirichlet operator `C05.exOpD` the field `C05.exX` solves the system
    with `f := A exX ≠ 0` -/
example : IsSweep C05.exOpD 2 (A C05.exOpD C05.exX) C05.exX C05.exX ∧
    A C05.exOpD C05.exX 1 2 ≠ 0 := by
  refine ⟨fixed_point _ _ _ _ (fun i j _ _ => ?_), by decide +kernel⟩
  rw [take_eq_sub_A]; ring

/-- `IsSweep` is satisfiable with ANY pair `x`, `y` (so also `y ≠ x`): choose the right-hand side
    accordingly -/
example (o : Op ℚ) (nc : Nat) (x y : Stencil.Field ℚ) :
    IsSweep o nc (fun i j => A o (mix nc (phase nc i j) x y) i j) x y := by
  intro i j _ _
  unfold defect
  rw [take_eq_sub_A]; ring

/-- `same_colour_decoupled` at work for `C03.exOp` (across the origin, `nt = 4`) with one smoother circle:
    `w`, `w'` differ on the black radial line `j = 2`; the rows of the black radial line `j = 0` cannot
    tell them apart … -/
example : let w : Stencil.Field ℚ := fun i j => (i : ℚ) + j
    let w' : Stencil.Field ℚ := fun i j => if 1 ≤ i ∧ j = 2 then 7 else (i : ℚ) + j
    phase 1 2 0 = phase 1 2 2 ∧ w 2 2 ≠ w' 2 2 ∧
    take (C03.exOp) (fun _ _ => 0) w 2 0 = take (C03.exOp) (fun _ _ => 0) w' 2 0 := by
  refine ⟨by decide, by norm_num, by decide +kernel⟩

/-- … whereas a change on a neighbouring line of the OTHER colour is seen -/
example : phase 1 2 0 ≠ phase 1 2 1 ∧
    take (C03.exOp) (fun _ _ => 0) (fun i j => (i : ℚ) + j) 2 0
    ≠ take (C03.exOp) (fun _ _ => 0) (fun i j => if 1 ≤ i ∧ j = 1 then 7 else (i : ℚ) + j) 2 0 := by
  refine ⟨by decide, by decide +kernel⟩

/-- sharpness of `nt` even: with `nt = 5` the radial lines `j = 4` and `j = 0` are both black AND
    coupled through the periodic wrap -/
theorem odd_nt_couples : let o : Op ℚ := { C03.exOp with nt := 5 }
    phase 1 2 0 = phase 1 2 4 ∧
    take o (fun _ _ => 0) (fun i j => (i : ℚ) + j) 2 0
      ≠ take o (fun _ _ => 0) (fun i j => if 1 ≤ i ∧ j = 4 then 7 else (i : ℚ) + j) 2 0 := by
  refine ⟨by decide, by decide +kernel⟩

/-- sharpness of "at least one smoother circle unless Dirichlet": with `nc = 0` across the origin the
    radial lines `j = 0` and `j = 2` (antipodes, both black since `nt / 2` is even) are coupled by the
    origin row -/
theorem origin_couples_without_circle :
    C03.exOp.bc = false ∧ phase 0 0 0 = phase 0 0 2 ∧ ¬ sameLine 0 0 0 0 2 ∧
    take C03.exOp (fun _ _ => 0) (fun i j => (i : ℚ) + j) 0 0
      ≠ take C03.exOp (fun _ _ => 0) (fun i j => if j = 2 then 7 else (i : ℚ) + j) 0 0 := by
  refine ⟨rfl, by decide, by decide, by decide +kernel⟩

/-- the hypotheses of `sweep_unique_dirichlet` / `energy_full` are jointly satisfiable (`C05.exOpD`, the
    solution `C05.exX` of `f := A exX`, incoming iterate carrying the boundary data) -/
example : 4 ≤ C05.exOpD.nr ∧ 2 ≤ C05.exOpD.nt ∧ C05.exOpD.nt % 2 = 0 ∧ C05.exOpD.bc = true ∧
    Elliptic C05.exOpD ∧
    (∀ i j, i < C05.exOpD.nr → j < C05.exOpD.nt → take C05.exOpD (A C05.exOpD C05.exX) C05.exX i j = 0) ∧
    (∀ j, j < C05.exOpD.nt → C05.exX (C05.exOpD.nr - 1) j = A C05.exOpD C05.exX (C05.exOpD.nr - 1) j ∧
      C05.exX 0 j = A C05.exOpD C05.exX 0 j) ∧
    IsSweep C05.exOpD 2 (A C05.exOpD C05.exX) C05.exX C05.exX := by
  have hu : ∀ i j, i < C05.exOpD.nr → j < C05.exOpD.nt →
      take C05.exOpD (A C05.exOpD C05.exX) C05.exX i j = 0 := by
    intro i j _ _; rw [take_eq_sub_A]; ring
  exact ⟨by decide, by decide, by decide, rfl, C05.exOpD_elliptic, hu, by decide +kernel, fixed_point _ _ _ _ hu⟩

/-- `energy` is not vacuous: `V = K = ℚ`, `a u v = u v`, `S = everything`, `e = w` -/
example : (fun u v : ℚ => u * v) (3 - 3) (3 - 3) ≤ (fun u v : ℚ => u * v) 3 3 :=
  (energy (fun u v : ℚ => u * v) (fun u v w => by ring) (fun u v => by ring)
    (fun v => mul_self_nonneg v) (fun _ => True) 3 3 trivial (fun v _ => by ring)).2

end C06
