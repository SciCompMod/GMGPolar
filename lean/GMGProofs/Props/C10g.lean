import GMGProofs.Props.C10e
import GMGProofs.Props.C06g
import GMGProofs.Props.C07g
import GMGProofs.Props.C04g
import GMGProofs.Props.C03
import GMGProofs.Lemmas.ConcreteGive
/-!
# C10 / C03 at the level of whole cycles: the GIVE strategy computes the cycle the TAKE strategy computes

`Concrete.opsGive` instantiates the control-flow IR with the code-level models of the scatter variants (`SmootherGiveCode`,
`ExSmootherGiveCode`, `Stencil.give`, `DirectGiveCode`).  The per-operator theorems (C03 `give_eq_take`, C04g, C06g, C07g) are
composed along the recursion: on an admissible hierarchy every plain and every implicitly extrapolated V-, W- and F-cycle over
`opsGive` returns exactly (same arrays, or `none` in the same cases) what the cycle over `Concrete.ops` returns.
Also the admissibility predicates `GiveLevelOK`, `GiveCoarseOK` and two example hierarchies; helper lemmas in
`GMGProofs/Lemmas/ConcreteCyc.lean` (abstract operators), `ConcreteGive.lean`.
-/
namespace C10g
open MGCycle Concrete Stencil

section AnyField
variable {K : Type} [_root_.Field K]

/-- a level on which both strategies are defined: admissible sizes; across the origin the angular spacings are antipodally
    symmetric (C03 `hk_needed`: without this give and take differ) -/
structure GiveLevelOK (D : LevelData K) : Prop where
  nt : 4 ≤ D.op.nt
  even : D.op.nt % 2 = 0
  nc : 2 ≤ D.nc
  nr : D.nc + 3 ≤ D.op.nr
  hk : D.op.bc = false → ∀ j, j < D.op.nt → D.op.k (ja D.op j) = D.op.k j

/-- the coarsest level: sizes the direct solvers need -/
structure GiveCoarseOK (D : LevelData K) : Prop where
  nr : 4 ≤ D.op.nr
  nt : 4 ≤ D.op.nt
  even : D.op.nt % 2 = 0
  hk : D.op.bc = false → ∀ j, j < D.op.nt → D.op.k (ja D.op j) = D.op.k j

omit [_root_.Field K] in
theorem GiveLevelOK.res {D : LevelData K} (h : GiveLevelOK D) : ResOK D.op :=
  ⟨by have := h.nc; have := h.nr; omega, h.nt, h.even, h.hk⟩

omit [_root_.Field K] in
theorem GiveCoarseOK.res {D : LevelData K} (h : GiveCoarseOK D) : ResOK D.op := ⟨h.nr, h.nt, h.even, h.hk⟩

theorem levels_res (H : Hier K) (L : Nat) (hlev : ∀ l, l + 1 < L → GiveLevelOK (lvl H l))
    (hcoarse : GiveCoarseOK (lvl H (L - 1))) : ∀ l, l < L → ResOK (lvl H l).op := by
  intro l hl
  by_cases h : l + 1 < L
  · exact (hlev l h).res
  · have : l = L - 1 := by omega
    rw [this]
    exact hcoarse.res

theorem giveOK (H : Hier K) (G : GiveTables) (hG : G.direct = C04g.genTablesGive) (htab : H.tables = C04c.genTables) (L : Nat)
    (hlev : ∀ l, l + 1 < L → GiveLevelOK (lvl H l)) (hcoarse : GiveCoarseOK (lvl H (L - 1))) : GiveOK H G L :=
  ⟨hG, htab, fun l hl => ⟨(hlev l hl).nc, (hlev l hl).nr⟩, levels_res H L hlev hcoarse⟩

/-- **plain cycles: give = take**, any depth, V/W/F, any smoothing counts, any iterate and right-hand side -/
theorem give_cycle_eq_take_cycle (H : Hier K) (G : GiveTables) (hG : G.direct = C04g.genTablesGive)
    (htab : H.tables = C04c.genTables) (L : Nat) (hL : 2 ≤ L) (k : Kind) (nu1 nu2 : Nat) (fgs : Bool) (u f : Array K)
    (hlev : ∀ l, l + 1 < L → GiveLevelOK (lvl H l)) (hcoarse : GiveCoarseOK (lvl H (L - 1)))
    (hu : u.size = (lvl H 0).op.nr * (lvl H 0).op.nt)
    (m : Mem (Option (Array K))) (hm : m (0, Buf.sol) = some u) (hr : m (0, Buf.rhs) = some f) :
    cycleGive H G ⟨L, nu1, nu2⟩ k false fgs m (0, Buf.sol) = cycle H ⟨L, nu1, nu2⟩ k false fgs m (0, Buf.sol) := by
  obtain ⟨A, I, _⟩ := give_agree H G L nu1 nu2 hL fgs (giveOK H G hG htab L hlev hcoarse)
  rw [cycleGive_plain_eq H G _ k fgs m hm hr, cycle_plain_eq H _ k fgs m hm hr]
  exact cyc_agree A I _ k 0 (some u) (some f) (show 0 < L - 1 by omega) (PS_some H 0 u hu) (fun _ _ h => by omega)

/-- **implicitly extrapolated cycles: give = take** (both level-0 smoothers); the extrapolated give smoother additionally needs
    what `ExSmootherGiveCode.Admissible` lists (odd `nr`, `nc ≥ 3`, `nt % 4 = 0` across the origin, well-formed offset tables) -/
theorem give_excycle_eq_take_excycle (H : Hier K) (G : GiveTables) (hG : G.direct = C04g.genTablesGive)
    (htab : H.tables = C04c.genTables) (L : Nat) (hL : 2 ≤ L) (k : Kind) (nu1 nu2 : Nat) (fgs : Bool) (u f f1 : Array K)
    (hlev : ∀ l, l + 1 < L → GiveLevelOK (lvl H l)) (hcoarse : GiveCoarseOK (lvl H (L - 1)))
    (hex : fgs = false → ExSmootherGiveCode.Admissible G.exSmoother (lvl H 0).op (lvl H 0).nc)
    (hu : u.size = (lvl H 0).op.nr * (lvl H 0).op.nt)
    (m : Mem (Option (Array K))) (hm : m (0, Buf.sol) = some u) (hr : m (0, Buf.rhs) = some f)
    (hr1 : m (1, Buf.rhs) = some f1) :
    cycleGive H G ⟨L, nu1, nu2⟩ k true fgs m (0, Buf.sol) = cycle H ⟨L, nu1, nu2⟩ k true fgs m (0, Buf.sol) := by
  obtain ⟨A, I, E⟩ := give_agree H G L nu1 nu2 hL fgs (giveOK H G hG htab L hlev hcoarse)
  rw [cycleGive_ex_eq H G _ k fgs m hm hr hr1, cycle_ex_eq H _ k fgs m hm hr hr1]
  exact excyc_agree A I (E hex).1 (E hex).2 (show 1 ≤ L - 1 by omega) k (PS_some H 0 u hu) (fun _ _ h => by omega) trivial

end AnyField

/-! ## non-vacuity -/

/-- the generated offset tables of the two give headers -/
def genG : GiveTables := ⟨C04g.genTablesGive, C07g.genTables⟩

theorem exH3_levels : ∀ l, l + 1 < 3 → GiveLevelOK (lvl C10d.exH3 l) := by
  intro l hl
  have : l = 0 ∨ l = 1 := by omega
  rcases this with rfl | rfl
  · rw [C10d.exH3_lvl0]
    exact ⟨by decide, by decide, by decide, by decide, fun h => absurd h (by decide)⟩
  · rw [C10d.exH3_lvl1]
    exact ⟨by decide, by decide, by decide, by decide, fun h => absurd h (by decide)⟩

theorem exH3_coarse : GiveCoarseOK (lvl C10d.exH3 (3 - 1)) := by
  show GiveCoarseOK (lvl C10d.exH3 2)
  rw [C10d.exH3_lvl2]
  exact ⟨by decide, by decide, by decide, fun h => absurd h (by decide)⟩

theorem exH3_admissible : ExSmootherGiveCode.Admissible genG.exSmoother (lvl C10d.exH3 0).op (lvl C10d.exH3 0).nc := by
  rw [C10d.exH3_lvl0]
  exact ⟨C07g.genTables_good, by decide, by decide, by decide, by decide, by decide, fun h => absurd h (by decide),
    fun h => absurd h (by decide)⟩

/-- all hypotheses of both theorems hold jointly on the three-level hierarchy 13 × 16 → 7 × 8 → 4 × 4 of `C10d` (Dirichlet inner
    boundary) with the generated tables, for every iterate of the right size, every right-hand side, both level-0 smoothers -/
example (k : Kind) (nu1 nu2 : Nat) (fgs : Bool) (u f f1 : Array ℚ) (hu : u.size = 13 * 16) (m : Mem (Option (Array ℚ)))
    (hm : m (0, Buf.sol) = some u) (hr : m (0, Buf.rhs) = some f) (hr1 : m (1, Buf.rhs) = some f1) :
    cycleGive C10d.exH3 genG ⟨3, nu1, nu2⟩ k false fgs m (0, Buf.sol) = cycle C10d.exH3 ⟨3, nu1, nu2⟩ k false fgs m (0, Buf.sol) ∧
    cycleGive C10d.exH3 genG ⟨3, nu1, nu2⟩ k true fgs m (0, Buf.sol) = cycle C10d.exH3 ⟨3, nu1, nu2⟩ k true fgs m (0, Buf.sol) :=
  ⟨give_cycle_eq_take_cycle C10d.exH3 genG rfl rfl 3 (by decide) k nu1 nu2 fgs u f exH3_levels exH3_coarse hu m hm hr,
   give_excycle_eq_take_excycle C10d.exH3 genG rfl rfl 3 (by decide) k nu1 nu2 fgs u f f1 exH3_levels exH3_coarse
     (fun _ => exH3_admissible) hu m hm hr hr1⟩

/-- … and across the origin (`DirBC_Interior = false`, where the antipodal symmetry `hk` is a genuine condition): two levels
    7 × 8 → 4 × 4 with non-constant, antipodally symmetric angular spacings (`C07c.exOp` with eight angles, `C03.exOp`) -/
def exOp8 : Op ℚ := { C07c.exOp with nt := 8 }
def exHo : Hier ℚ := ⟨[⟨exOp8, 3⟩, ⟨C03.exOp, 1⟩], [C10c.exP], C06c.exTiny, C04c.genTables⟩

theorem exOp8_hk : ∀ j, j < exOp8.nt → exOp8.k (ja exOp8 j) = exOp8.k j := by
  intro j hj
  have : j < 8 := hj
  rcases (by omega : j = 0 ∨ j = 1 ∨ j = 2 ∨ j = 3 ∨ j = 4 ∨ j = 5 ∨ j = 6 ∨ j = 7) with
    rfl | rfl | rfl | rfl | rfl | rfl | rfl | rfl <;> simp [exOp8, C07c.exOp, ja]

theorem exOp4_hk : ∀ j, j < C03.exOp.nt → C03.exOp.k (ja C03.exOp j) = C03.exOp.k j := by
  intro j hj
  have : j < 4 := hj
  rcases (by omega : j = 0 ∨ j = 1 ∨ j = 2 ∨ j = 3) with rfl | rfl | rfl | rfl <;> simp [C03.exOp, ja]

theorem exHo_levels : ∀ l, l + 1 < 2 → GiveLevelOK (lvl exHo l) := by
  intro l hl
  obtain rfl : l = 0 := by omega
  exact ⟨by decide, by decide, by decide, by decide, fun _ => exOp8_hk⟩

theorem exHo_coarse : GiveCoarseOK (lvl exHo (2 - 1)) := ⟨by decide, by decide, by decide, fun _ => exOp4_hk⟩

theorem exHo_admissible : ExSmootherGiveCode.Admissible genG.exSmoother (lvl exHo 0).op (lvl exHo 0).nc :=
  ⟨C07g.genTables_good, by decide, by decide, by decide, by decide, by decide, fun _ => by decide, fun _ => exOp8_hk⟩

example (k : Kind) (nu1 nu2 : Nat) (fgs : Bool) (u f f1 : Array ℚ) (hu : u.size = 7 * 8) (m : Mem (Option (Array ℚ)))
    (hm : m (0, Buf.sol) = some u) (hr : m (0, Buf.rhs) = some f) (hr1 : m (1, Buf.rhs) = some f1) :
    (lvl exHo 0).op.bc = false ∧ exOp8.k 0 ≠ exOp8.k 1 ∧
    cycleGive exHo genG ⟨2, nu1, nu2⟩ k false fgs m (0, Buf.sol) = cycle exHo ⟨2, nu1, nu2⟩ k false fgs m (0, Buf.sol) ∧
    cycleGive exHo genG ⟨2, nu1, nu2⟩ k true fgs m (0, Buf.sol) = cycle exHo ⟨2, nu1, nu2⟩ k true fgs m (0, Buf.sol) :=
  ⟨rfl, by simp [exOp8, C07c.exOp],
    give_cycle_eq_take_cycle exHo genG rfl rfl 2 (by decide) k nu1 nu2 fgs u f exHo_levels exHo_coarse hu m hm hr,
    give_excycle_eq_take_excycle exHo genG rfl rfl 2 (by decide) k nu1 nu2 fgs u f f1 exHo_levels exHo_coarse
      (fun _ => exHo_admissible) hu m hm hr hr1⟩

end C10g
