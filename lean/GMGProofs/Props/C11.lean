import GMGProofs.Lemmas.SchedTake
import GMGProofs.Lemmas.SchedGive
import GMGProofs.Lemmas.SchedSmootherTake
import GMGProofs.Lemmas.SchedSmootherGive
/-!
# C11 — no data race in any modelled parallel region, for every shape

Property theorems only.  Model: `GMGModel/Sched.lean` (loops, barrier intervals, hand-written kernel footprints);
the twelve regions are the terms `Sched.Gen.*` of `Generated/Sched.lean`, regenerated from the C++ on every check.
The proofs (`GMGProofs/Lemmas/Sched*.lean`) unfold the generated loop terms, so an added `nowait`, a changed stride or start,
or a moved barrier changes the term and breaks the proof.

`RegionRaceFree s reg`: for every barrier interval of `reg`, any two calls of two different iterations of one loop, or of
any iterations of two loops of the interval, never touch the same node `(r, θ)` of the same shared array with at least one
write.  All shapes: `Admissible s` (`2 ≤ nc`, `nc + 3 ≤ nr`, `nt` even `≥ 4`); the smoothers additionally need
`nt % 4 = 0` (`SmoothAdmissible`), and `smootherGive_needs_nt_div4` shows that this hypothesis cannot be dropped.
Of these hypotheses the proofs use only that `nt` is even (take smoothers) and `nt % 4 = 0` (give smoothers); the residuals
and the assemblies are race free for every shape (`Lem.residualGive_raceFree` …).
-/
namespace C11
open Sched

/-! ### gather ("take") regions: every call writes its own row / line -/

theorem race_free_residualTake (s : Shape) : RegionRaceFree s Gen.residualTake :=
  Lem.residualTake_raceFree s
theorem race_free_directTake (s : Shape) : RegionRaceFree s Gen.directTake :=
  Lem.directTake_raceFree s
theorem race_free_smootherTakeAsc (s : Shape) : RegionRaceFree s Gen.smootherTakeAsc :=
  Lem.smootherTakeAsc_raceFree s
theorem race_free_exSmootherTakeAsc (s : Shape) : RegionRaceFree s Gen.exSmootherTakeAsc :=
  Lem.exSmootherTakeAsc_raceFree s

/-! ### scatter ("give") regions: stride 3, `nowait` overlap of circle section 2 and radial section 0, `nt % 3` remainder -/

theorem race_free_residualGive (s : Shape) : RegionRaceFree s Gen.residualGive :=
  Lem.residualGive_raceFree s
theorem race_free_directGive (s : Shape) : RegionRaceFree s Gen.directGive :=
  Lem.directGive_raceFree s
theorem race_free_smootherGiveAsc (s : Shape) : RegionRaceFree s Gen.smootherGiveAsc :=
  Lem.smootherGiveAsc_raceFree s
theorem race_free_exSmootherGiveAsc (s : Shape) : RegionRaceFree s Gen.exSmootherGiveAsc :=
  Lem.exSmootherGiveAsc_raceFree s

/-! ### smoothers -/

theorem race_free_smootherTake (s : Shape) (h : SmoothAdmissible s) : RegionRaceFree s Gen.smootherTake :=
  Lem.smootherTake_raceFree s h.ntEven
theorem race_free_exSmootherTake (s : Shape) (h : SmoothAdmissible s) : RegionRaceFree s Gen.exSmootherTake :=
  Lem.exSmootherTake_raceFree s h.ntEven
/-- the take smoothers do not need `nt % 4 = 0` (two colours of lines, stride 2) -/
theorem race_free_smootherTake_nt_even (s : Shape) (h : Admissible s) : RegionRaceFree s Gen.smootherTake :=
  Lem.smootherTake_raceFree s h.ntEven
theorem race_free_exSmootherTake_nt_even (s : Shape) (h : Admissible s) : RegionRaceFree s Gen.exSmootherTake :=
  Lem.exSmootherTake_raceFree s h.ntEven
theorem race_free_smootherGive (s : Shape) (h : SmoothAdmissible s) : RegionRaceFree s Gen.smootherGive :=
  Lem.smootherGive_raceFree s h.nt4dvd
theorem race_free_exSmootherGive (s : Shape) (h : SmoothAdmissible s) : RegionRaceFree s Gen.exSmootherGive :=
  Lem.exSmootherGive_raceFree s h.nt4dvd

/-- all twelve regions at once, on the shapes the smoothers run on -/
theorem race_free_all (s : Shape) (h : SmoothAdmissible s) : ∀ reg ∈ Gen.all, RegionRaceFree s reg := by
  intro reg hreg
  simp only [Gen.all, List.mem_cons, List.not_mem_nil, or_false] at hreg
  rcases hreg with rfl | rfl | rfl | rfl | rfl | rfl | rfl | rfl | rfl | rfl | rfl | rfl
  · exact race_free_residualGive s
  · exact race_free_residualTake s
  · exact race_free_smootherGive s h
  · exact race_free_smootherTake s h
  · exact race_free_exSmootherGive s h
  · exact race_free_exSmootherTake s h
  · exact race_free_directGive s
  · exact race_free_directTake s
  · exact race_free_smootherGiveAsc s
  · exact race_free_smootherTakeAsc s
  · exact race_free_exSmootherGiveAsc s
  · exact race_free_exSmootherTakeAsc s

/-- `nt % 4 = 0` cannot be dropped for the give smoothers: `nr = 5, nt = 6, nc = 2` is `Admissible`, but iterations 1 and 5
    of loop 7 (`for i_theta = 1; i_theta < ntheta; i_theta += 4`, black pass over the odd lines 1 and 5) both update `temp`
    on line `θ = 0` — the right neighbour of line 5 and the left neighbour of line 1 (node `(2, 0)`). -/
theorem smootherGive_needs_nt_div4 : ¬ RegionRaceFree ⟨5, 6, 2⟩ Gen.smootherGive := fun H =>
  H [6, 7] (by decide) 7 (by decide) 7 (by decide) (Nat.le_refl _)
    1 5 (by decide) (by decide) (by decide) _ (List.mem_singleton.mpr rfl) _ (List.mem_singleton.mpr rfl)
    .temp 2 0 (by decide) (by decide) (by decide) (by decide) (by decide)
theorem exSmootherGive_needs_nt_div4 : ¬ RegionRaceFree ⟨5, 6, 2⟩ Gen.exSmootherGive := fun H =>
  smootherGive_needs_nt_div4 (H.of_relabel (canon_covers _) rfl)

/-- the barriers matter: without the one between circle sections 0 and 1 `ResidualGive` would race on row 3 (`nc = 5`):
    circles 4 and 3 both scatter into it -/
theorem residualGive_barrier_needed :
    ¬ LoopsRaceFree ⟨8, 8, 5⟩ (Gen.residualGive.loops.getD 0 default) (Gen.residualGive.loops.getD 1 default) false := fun H =>
  H 0 1 (by decide) (by decide) (by decide) _ (List.mem_singleton.mpr rfl) _ (List.mem_singleton.mpr rfl)
    .out 3 0 (by decide) (by decide) (by decide) (by decide) (by decide)
/-- … and without the one after the black circle solve `SmootherGive` would race on `x` of circle 4 (`nc = 5`): the white
    circle pass (loop 4) reads `x` of the circle the solve (loop 3) writes -/
theorem smootherGive_barrier_needed :
    ¬ LoopsRaceFree ⟨8, 8, 5⟩ (Gen.smootherGive.loops.getD 3 default) (Gen.smootherGive.loops.getD 4 default) false := fun H =>
  H 0 1 (by decide) (by decide) (by decide) _ (List.mem_singleton.mpr rfl) _ (List.mem_singleton.mpr rfl)
    .x 4 0 (by decide) (by decide) (by decide) (by decide) (by decide)

/-- the per-thread solver scratch vectors are declared INSIDE the parallel region (private to each thread) -/
theorem private_scratch :
    Gen.smootherGive_private = ["circle_solver_storage_1", "circle_solver_storage_2", "radial_solver_storage"] ∧
    Gen.smootherTake_private = ["circle_solver_storage_1", "circle_solver_storage_2", "radial_solver_storage"] ∧
    Gen.exSmootherGive_private = ["circle_solver_storage_1", "circle_solver_storage_2", "radial_solver_storage"] ∧
    Gen.exSmootherTake_private = ["circle_solver_storage_1", "circle_solver_storage_2", "radial_solver_storage"] :=
  ⟨rfl, rfl, rfl, rfl⟩

/-! ### non-vacuity: the hypotheses are satisfiable, the loops have iterations, the intervals are the real ones -/

example : Admissible ⟨5, 6, 2⟩ := ⟨by decide, by decide, by decide, by decide⟩
example : SmoothAdmissible ⟨8, 8, 5⟩ := ⟨⟨by decide, by decide, by decide, by decide⟩, by decide⟩
example : intervals Gen.residualGive.loops = [[0], [1], [2, 3], [4], [5]] := Lem.residualGive_intervals
example : intervals Gen.smootherGive.loops = [[0], [1], [2], [3], [4, 5], [6, 7], [8, 9], [10, 11], [12], [13], [14], [15]] := by
  decide
example : intervals Gen.smootherTake.loops = [[0], [1, 2], [3]] := by decide
/-- the `nowait` pair of `ResidualGive` really runs: circle section 2 and radial section 0 both have iterations -/
example : (Gen.residualGive.loops.getD 2 default).has ⟨8, 8, 5⟩ 2 ∧ (Gen.residualGive.loops.getD 3 default).has ⟨8, 8, 5⟩ 3 := by
  decide
/-- the model can express a conflict: the same two loops of `SmootherGive` on the same grid size race for `nt = 6` only -/
example : RegionRaceFree ⟨5, 8, 2⟩ Gen.smootherGive ∧ ¬ RegionRaceFree ⟨5, 6, 2⟩ Gen.smootherGive :=
  ⟨race_free_smootherGive _ ⟨⟨by decide, by decide, by decide, by decide⟩, by decide⟩, smootherGive_needs_nt_div4⟩

end C11
