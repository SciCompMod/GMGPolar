import GMGProofs.Props.C19i
import GMGProofs.Props.C10i
import GMGProofs.Props.C10j
/-!
# Shipped test problem → fixed point of the concrete cycle, in one statement

Composition of `C19i` (the shipped geometries and coefficient profiles are admissible inputs) with `C10i.concrete_exact_fixed_setup`
(inputs → caches → hierarchy → the concrete V-, W-, F-cycle leaves the exact discrete solution unchanged).

For every shipped (geometry, profile) pair, every finest shape and level cap the level selection accepts, every nested chain of level
grids inside the domain with automatic splits, both cache flags, a Dirichlet inner boundary: a V-, W- or F-cycle with any smoothing
counts of the code-level model, started from the exact discrete solution, returns it.  What remains a hypothesis is the `tiny` test
of the sparse LU on the coarse pivots (it compares an absolute value with 1e-12: finding F7 of DESIGN.md) and on the literal 1.
-/
namespace C19e
open MGCycle Concrete Stencil Cache Build GridGen GridGenL Grid Sym Sym.Expr InputFns C19i

/-- the three shipped analytic geometries (their four Jacobian functions as generated from the C++) with the parameter ranges of C19i -/
inductive Geo | circular | shafranov | czarny

def Geo.jac : Geo → Expr × Expr × Expr × Expr
  | .circular => (Gen.CircularGeometry_dFx_dr, Gen.CircularGeometry_dFy_dr, Gen.CircularGeometry_dFx_dt, Gen.CircularGeometry_dFy_dt)
  | .shafranov => (Gen.ShafranovGeometry_dFx_dr, Gen.ShafranovGeometry_dFy_dr, Gen.ShafranovGeometry_dFx_dt, Gen.ShafranovGeometry_dFy_dt)
  | .czarny => (Gen.CzarnyGeometry_dFx_dr, Gen.CzarnyGeometry_dFy_dr, Gen.CzarnyGeometry_dFx_dt, Gen.CzarnyGeometry_dFy_dt)

/-- admissible parameters: `env 0 = Rmax > 0`; Shafranov `0 ≤ κ, 0 ≤ δ, κ + 2δ < 1`; Czarny `0 < ε < 1, e > 0` -/
def Geo.ParamsOK (env : Nat → ℝ) : Geo → Prop
  | .circular => 0 < env 0
  | .shafranov => 0 < env 0 ∧ 0 ≤ env 1 ∧ 0 ≤ env 2 ∧ env 1 + 2 * env 2 < 1
  | .czarny => 0 < env 0 ∧ 0 < env 1 ∧ env 1 < 1 ∧ 0 < env 2

noncomputable def shipped (env : Nat → ℝ) (g : Geo) (p : Expr × Expr) : Env ℝ :=
  shippedEnv env g.jac.1 g.jac.2.1 g.jac.2.2.1 g.jac.2.2.2 p.1 p.2

theorem shipped_inputsOK (env : Nat → ℝ) (g : Geo) (hg : g.ParamsOK env) (p : Expr × Expr) (hp : p ∈ profiles)
    (G : GridData ℝ) (hG : GridOK env G) : C10i.InputsOK (shipped env g p) G := by
  cases g with
  | circular => exact inputsOK_Circular env hg p hp G hG
  | shafranov => exact inputsOK_Shafranov env hg.1 hg.2.1 hg.2.2.1 hg.2.2.2 p hp G hG
  | czarny => exact inputsOK_Czarny env hg.1 hg.2.1 hg.2.2.1 hg.2.2.2 p hp G hG

/-- **shipped problem → fixed point** -/
theorem shipped_exact_fixed (env : Nat → ℝ) (g : Geo) (hg : g.ParamsOK env) (p : Expr × Expr) (hp : p ∈ profiles)
    (grids : List (GridData ℝ)) (cc cg : Bool) (tiny : ℝ → Bool)
    (nr nt : Nat) (maxLevels : Int) (L : Nat) (crit : Nat → Nat → Bool)
    (hsel : chooseLevels nr nt maxLevels = .ok L) (hlen : grids.length = L)
    (hchain : List.IsChain C03c.Nested grids)
    (hshape : ∀ l (hl : l < grids.length), (grids[l]).g.nr = coarsenR l nr ∧ (grids[l]).g.nt = coarsenT l nt ∧
      (grids[l]).g.nc = Split.autoNc (crit l) (coarsenR l nr))
    (hgrid : ∀ G ∈ grids, GridOK env G)
    (k : Kind) (nu1 nu2 : Nat) (fgs : Bool) (u f : Array ℝ) (ht1 : tiny 1 = false)
    (M : SparseLU.CSR ℝ)
    (hM : DirectCode.assemble C04c.genTables (lvl (hier (shipped env g p) grids true cc cg tiny C04c.genTables) (L - 1)).op = some M)
    (ht : ∀ r, r < M.rows → tiny (SparseLU.den ((SparseLU.factorRows M).2.getD r []) r) = false)
    (hu : u.size = nr * nt)
    (hsol : ∀ i j, i < nr → j < nt →
      take (lvl (hier (shipped env g p) grids true cc cg tiny C04c.genTables) 0).op (SmootherCode.fld nt f) (SmootherCode.fld nt u) i j = 0)
    (m : Mem (Option (Array ℝ))) (hm : m (0, Buf.sol) = some u) (hr : m (0, Buf.rhs) = some f) :
    cycle (hier (shipped env g p) grids true cc cg tiny C04c.genTables) ⟨L, nu1, nu2⟩ k false fgs m (0, Buf.sol) = some u :=
  C10i.concrete_exact_fixed_setup (shipped env g p) grids cc cg tiny nr nt maxLevels L crit hsel hlen hchain hshape
    (fun G hG => shipped_inputsOK env g hg p hp G (hgrid G hG)) k nu1 nu2 fgs u f ht1 M hM ht hu hsol m hm hr

/-- **shipped problem → fixed point of the implicitly extrapolated cycle** (either level-0 smoother): `C10j.concrete_exact_fixed_extrap_setup`
    with the input hypothesis discharged by C19i for every shipped geometry and coefficient profile -/
theorem shipped_exact_fixed_extrap (env : Nat → ℝ) (g : Geo) (hg : g.ParamsOK env) (p : Expr × Expr) (hp : p ∈ profiles)
    (grids : List (GridData ℝ)) (cc cg : Bool) (tiny : ℝ → Bool)
    (nr nt : Nat) (maxLevels : Int) (L : Nat) (crit : Nat → Nat → Bool)
    (hsel : chooseLevels nr nt maxLevels = .ok L) (hlen : grids.length = L)
    (hchain : List.IsChain C03c.Nested grids)
    (hshape : ∀ l (hl : l < grids.length), (grids[l]).g.nr = coarsenR l nr ∧ (grids[l]).g.nt = coarsenT l nt ∧
      (grids[l]).g.nc = Split.autoNc (crit l) (coarsenR l nr))
    (hgrid : ∀ G ∈ grids, GridOK env G)
    (k : Kind) (nu1 nu2 : Nat) (fgs : Bool) (u f f1 : Array ℝ) (ht1 : tiny 1 = false)
    (M : SparseLU.CSR ℝ)
    (hM : DirectCode.assemble C04c.genTables (lvl (hier (shipped env g p) grids true cc cg tiny C04c.genTables) (L - 1)).op = some M)
    (ht : ∀ r, r < M.rows → tiny (SparseLU.den ((SparseLU.factorRows M).2.getD r []) r) = false)
    (hu : u.size = nr * nt)
    (hsol : ∀ i j, i < nr → j < nt →
      take (lvl (hier (shipped env g p) grids true cc cg tiny C04c.genTables) 0).op (SmootherCode.fld nt f) (SmootherCode.fld nt u) i j = 0)
    (hsol1 : ∀ i j, i < coarsenR 1 nr → j < coarsenT 1 nt →
      take (lvl (hier (shipped env g p) grids true cc cg tiny C04c.genTables) 1).op (SmootherCode.fld (coarsenT 1 nt) f1)
        (Interp.inject (SmootherCode.fld nt u)) i j = 0)
    (m : Mem (Option (Array ℝ))) (hm : m (0, Buf.sol) = some u) (hr : m (0, Buf.rhs) = some f)
    (hr1 : m (1, Buf.rhs) = some f1) :
    cycle (hier (shipped env g p) grids true cc cg tiny C04c.genTables) ⟨L, nu1, nu2⟩ k true fgs m (0, Buf.sol) = some u :=
  C10j.concrete_exact_fixed_extrap_setup (shipped env g p) grids cc cg tiny nr nt maxLevels L crit hsel hlen hchain hshape
    (fun G hG => shipped_inputsOK env g hg p hp G (hgrid G hG)) k nu1 nu2 fgs u f f1 ht1 M hM ht hu hsol hsol1 m hm hr hr1

end C19e
