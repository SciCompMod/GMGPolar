import GMGProofs.Lemmas.SourceTerms1
/-!
# C19 — the analytic input functions: symbolic differentiation, the PDE operator, the shipped geometries / profiles

Model: `GMGModel/Sym.lean` (`Expr`, `eval`, smart constructors, `D`, `detJ`, `flux`, `Lu`).
The terms `InputFns.Gen.*` are regenerated from the C++ sources (`src/InputFunctions/**`,
`include/InputFunctions/DomainGeometry/*.inl`) by `tools/cxx_expr.py` on every run, so every theorem below that
mentions a `Gen.*` term is a theorem about the formulas the code computes with: a change of a C++ formula changes the
term and breaks the proof.

Helper definitions (in `GMGProofs/Lemmas/Sym*.lean`): `instElemReal : Elem ℝ` (on top of `instScalarField`),
`Sym.ev env r θ e` (evaluation in ℝ), `Sym.ok env r θ e` (every denominator ≠ 0, every radicand > 0 at the point),
`Sym.okP env r θ p` (`ok` for `u, α, β, Fx, Fy` and `det DF ≠ 0` at the point),
`Sym.czRad env r θ = 1 + ε (ε + 2 (r/Rmax) cos θ)` (the Czarny radicand).
Parameters: `env 0 = Rmax`, `env 1 = κ` (Shafranov) / `ε` (Czarny), `env 2 = δ` (Shafranov) / `e` (Czarny).

All derivative statements are point-wise: `ok` at the point `(r, θ)` suffices, no neighbourhood hypothesis is needed.
-/
namespace C19
open Sym Sym.Expr InputFns

variable {env : Nat → ℝ} {r th : ℝ}

/-! ## 1. the smart constructors are semantics preserving -/

/-- `mkAdd … mkNeg` evaluate like `add … neg` (unconditionally; `x / 0 = 0` in ℝ as in the term) -/
theorem mk_sound (a b : Expr) :
    ev env r th (mkAdd a b) = ev env r th a + ev env r th b ∧
    ev env r th (mkSub a b) = ev env r th a - ev env r th b ∧
    ev env r th (mkMul a b) = ev env r th a * ev env r th b ∧
    ev env r th (mkDiv a b) = ev env r th a / ev env r th b ∧
    ev env r th (mkNeg a) = -ev env r th a :=
  ⟨ev_mkAdd a b, ev_mkSub a b, ev_mkMul a b, ev_mkDiv a b, ev_mkNeg a⟩

/-- … and preserve the side conditions -/
theorem mk_ok {a b : Expr} (ha : ok env r th a) (hb : ok env r th b) :
    ok env r th (mkAdd a b) ∧ ok env r th (mkSub a b) ∧ ok env r th (mkMul a b) ∧
    (ev env r th b ≠ 0 → ok env r th (mkDiv a b)) ∧ ok env r th (mkNeg a) :=
  ⟨ok_mkAdd ha hb, ok_mkSub ha hb, ok_mkMul ha hb, ok_mkDiv ha hb, ok_mkNeg ha⟩

/-! ## 2. the symbolic derivative is the derivative -/

/-- `∂/∂r`: for every expression whose side conditions hold at `(r, θ)` -/
theorem d_correct_r (e : Expr) (h : ok env r th e) :
    HasDerivAt (fun x => ev env x th e) (ev env r th (D .r e)) r := hasDerivAt_r e h

/-- `∂/∂θ` -/
theorem d_correct_th (e : Expr) (h : ok env r th e) :
    HasDerivAt (fun y => ev env r y e) (ev env r th (D .th e)) th := hasDerivAt_th e h

/-- the derivative term has no new singularities -/
theorem ok_D (x : Var) (e : Expr) (h : ok env r th e) : ok env r th (D x e) := Sym.ok_D x e h

/-- hence derivatives of any order exist: e.g. the mixed second derivative -/
theorem d_correct_r_th (e : Expr) (h : ok env r th e) :
    HasDerivAt (fun x => ev env x th (D .th e)) (ev env r th (D .r (D .th e))) r :=
  hasDerivAt_r _ (Sym.ok_D _ _ h)

/-! ## 3. `Lu` is `-div(α∇u) + βu` in (r, θ) coordinates -/

/-- all derived expressions of a regular problem are well defined -/
theorem ok_derived (p : Problem) (h : okP env r th p) :
    ok env r th (detJ p) ∧ ok env r th (flux p).1 ∧ ok env r th (flux p).2 ∧ ok env r th (Lu p) :=
  ⟨ok_detJ h.2.2.2.1 h.2.2.2.2.1, (ok_flux h).1, (ok_flux h).2, ok_Lu h⟩

/-- the Jacobian, the metric and the fluxes inside `Lu` are built from genuine partial derivatives of the mapping and of `u`:
`det = Jrr Jtt − Jrt Jtr`, `P = α det (g^rr u_r + g^rθ u_θ)`, `Q = α det (g^θr u_r + g^θθ u_θ)`, `g = (DFᵀ DF)⁻¹` -/
theorem flux_spec (p : Problem) (h : okP env r th p) :
    let Jrr := deriv (fun x => ev env x th p.Fx) r
    let Jrt := deriv (fun y => ev env r y p.Fx) th
    let Jtr := deriv (fun x => ev env x th p.Fy) r
    let Jtt := deriv (fun y => ev env r y p.Fy) th
    let ur := deriv (fun x => ev env x th p.u) r
    let ut := deriv (fun y => ev env r y p.u) th
    let det := Jrr * Jtt - Jrt * Jtr
    let α := ev env r th p.alpha
    ev env r th (detJ p) = det ∧
    ev env r th (flux p).1 =
      α * det * ((Jrt ^ 2 + Jtt ^ 2) / det ^ 2 * ur + -(Jrr * Jrt + Jtr * Jtt) / det ^ 2 * ut) ∧
    ev env r th (flux p).2 =
      α * det * (-(Jrr * Jrt + Jtr * Jtt) / det ^ 2 * ur + (Jrr ^ 2 + Jtr ^ 2) / det ^ 2 * ut) := by
  obtain ⟨hu, _, _, hx, hy, _⟩ := h
  intro Jrr Jrt Jtr Jtt ur ut det α
  have e1 : Jrr = ev env r th (D .r p.Fx) := deriv_r _ hx
  have e2 : Jrt = ev env r th (D .th p.Fx) := deriv_th _ hx
  have e3 : Jtr = ev env r th (D .r p.Fy) := deriv_r _ hy
  have e4 : Jtt = ev env r th (D .th p.Fy) := deriv_th _ hy
  have e5 : ur = ev env r th (D .r p.u) := deriv_r _ hu
  have e6 : ut = ev env r th (D .th p.u) := deriv_th _ hu
  have hdet : ev env r th (detJ p) = det := by
    simp only [det, e1, e2, e3, e4, ev_detJ]
  refine ⟨hdet, ?_, ?_⟩
  · rw [ev_flux1, hdet, ← e1, ← e2, ← e3, ← e4, ← e5, ← e6]; simp only [pow_two, α]
  · rw [ev_flux2, hdet, ← e1, ← e2, ← e3, ← e4, ← e5, ← e6]; simp only [pow_two, α]

/-- the metric used in `flux` is the inverse of `DFᵀ DF` (pure algebra, `det ≠ 0`) -/
theorem metric_is_inverse (Jrr Jrt Jtr Jtt : ℝ) (hdet : Jrr * Jtt - Jrt * Jtr ≠ 0) :
    let det := Jrr * Jtt - Jrt * Jtr
    let grr := (Jrt ^ 2 + Jtt ^ 2) / det ^ 2
    let grt := -(Jrr * Jrt + Jtr * Jtt) / det ^ 2
    let gtt := (Jrr ^ 2 + Jtr ^ 2) / det ^ 2
    grr * (Jrr ^ 2 + Jtr ^ 2) + grt * (Jrr * Jrt + Jtr * Jtt) = 1 ∧
    grr * (Jrr * Jrt + Jtr * Jtt) + grt * (Jrt ^ 2 + Jtt ^ 2) = 0 ∧
    grt * (Jrr ^ 2 + Jtr ^ 2) + gtt * (Jrr * Jrt + Jtr * Jtt) = 0 ∧
    grt * (Jrr * Jrt + Jtr * Jtt) + gtt * (Jrt ^ 2 + Jtt ^ 2) = 1 := by
  intro det grr grt gtt
  have hd : det ≠ 0 := hdet
  refine ⟨?_, ?_, ?_, ?_⟩ <;> simp only [grr, grt, gtt] <;> field_simp <;> simp only [det] <;> ring

/-- **the derived source term is the PDE operator applied to `u`**: the two symbolic derivatives of the flux inside `Lu`
are the derivatives of the real flux functions `P(·, θ)` at `r` and `Q(r, ·)` at `θ` -/
theorem Lu_is_pde (p : Problem) (h : okP env r th p) :
    HasDerivAt (fun x => ev env x th (flux p).1) (ev env r th (D .r (flux p).1)) r ∧
    HasDerivAt (fun y => ev env r y (flux p).2) (ev env r th (D .th (flux p).2)) th ∧
    ev env r th (Lu p) =
      -(1 / ev env r th (detJ p)) *
          (deriv (fun x => ev env x th (flux p).1) r + deriv (fun y => ev env r y (flux p).2) th)
        + ev env r th p.beta * ev env r th p.u := by
  have hf := ok_flux h
  refine ⟨hasDerivAt_r _ hf.1, hasDerivAt_th _ hf.2, ?_⟩
  rw [deriv_r _ hf.1, deriv_th _ hf.2, ev_Lu]
  ring

/-! ## 4. the code's Jacobian functions are the derivatives of the code's mappings -/

/-- circular geometry: the four hand-written Jacobian entries equal the symbolic derivatives of `Fx, Fy`
(also for `Rmax = 0`, where both sides divide by zero alike; the hypothesis is that of the other geometries) -/
theorem jacobian_Circular (_ : env 0 ≠ 0) :
    ev env r th Gen.CircularGeometry_dFx_dr = ev env r th (D .r Gen.CircularGeometry_Fx) ∧
    ev env r th Gen.CircularGeometry_dFy_dr = ev env r th (D .r Gen.CircularGeometry_Fy) ∧
    ev env r th Gen.CircularGeometry_dFx_dt = ev env r th (D .th Gen.CircularGeometry_Fx) ∧
    ev env r th Gen.CircularGeometry_dFy_dt = ev env r th (D .th Gen.CircularGeometry_Fy) := by
  simp only [Gen.CircularGeometry_dFx_dr, Gen.CircularGeometry_dFy_dr, Gen.CircularGeometry_dFx_dt, Gen.CircularGeometry_dFy_dt,
    Gen.CircularGeometry_Fx, Gen.CircularGeometry_Fy, sym_ev, sym_clean]
  refine ⟨?_, ?_, ?_, trivial⟩ <;> ring

/-- side conditions of the circular mapping and of its hand-written Jacobian: only `Rmax ≠ 0` -/
theorem ok_Circular (h : env 0 ≠ 0) :
    ok env r th Gen.CircularGeometry_Fx ∧ ok env r th Gen.CircularGeometry_Fy ∧
    ok env r th Gen.CircularGeometry_dFx_dr ∧ ok env r th Gen.CircularGeometry_dFy_dr ∧
    ok env r th Gen.CircularGeometry_dFx_dt ∧ ok env r th Gen.CircularGeometry_dFy_dt := by
  simp [Gen.CircularGeometry_Fx, Gen.CircularGeometry_Fy, Gen.CircularGeometry_dFx_dr, Gen.CircularGeometry_dFy_dr,
    Gen.CircularGeometry_dFx_dt, Gen.CircularGeometry_dFy_dt, ok, h]

theorem jacobian_is_derivative_Circular (h : env 0 ≠ 0) :
    HasDerivAt (fun x => ev env x th Gen.CircularGeometry_Fx) (ev env r th Gen.CircularGeometry_dFx_dr) r ∧
    HasDerivAt (fun x => ev env x th Gen.CircularGeometry_Fy) (ev env r th Gen.CircularGeometry_dFy_dr) r ∧
    HasDerivAt (fun y => ev env r y Gen.CircularGeometry_Fx) (ev env r th Gen.CircularGeometry_dFx_dt) th ∧
    HasDerivAt (fun y => ev env r y Gen.CircularGeometry_Fy) (ev env r th Gen.CircularGeometry_dFy_dt) th := by
  obtain ⟨ox, oy, _⟩ := ok_Circular (r := r) (th := th) h
  exact hasDerivAt_jacobian ox oy (jacobian_Circular h)

/-- `det DF = r / Rmax²` for the circular geometry (so the mapping is regular exactly for `r ≠ 0`) -/
theorem detJ_Circular (u a b : Expr) :
    ev env r th (detJ ⟨u, a, b, Gen.CircularGeometry_Fx, Gen.CircularGeometry_Fy⟩) = r / env 0 ^ 2 :=
  ev_cDet

/-- Shafranov geometry (`Rmax ≠ 0`; κ, δ arbitrary) -/
theorem jacobian_Shafranov (h : env 0 ≠ 0) :
    ev env r th Gen.ShafranovGeometry_dFx_dr = ev env r th (D .r Gen.ShafranovGeometry_Fx) ∧
    ev env r th Gen.ShafranovGeometry_dFy_dr = ev env r th (D .r Gen.ShafranovGeometry_Fy) ∧
    ev env r th Gen.ShafranovGeometry_dFx_dt = ev env r th (D .th Gen.ShafranovGeometry_Fx) ∧
    ev env r th Gen.ShafranovGeometry_dFy_dt = ev env r th (D .th Gen.ShafranovGeometry_Fy) := by
  simp only [Gen.ShafranovGeometry_dFx_dr, Gen.ShafranovGeometry_dFy_dr, Gen.ShafranovGeometry_dFx_dt, Gen.ShafranovGeometry_dFy_dt,
    Gen.ShafranovGeometry_Fx, Gen.ShafranovGeometry_Fy, sym_ev, sym_clean]
  refine ⟨?_, ?_, ?_, ?_⟩ <;> field_simp <;> ring

theorem ok_Shafranov (h : env 0 ≠ 0) :
    ok env r th Gen.ShafranovGeometry_Fx ∧ ok env r th Gen.ShafranovGeometry_Fy ∧
    ok env r th Gen.ShafranovGeometry_dFx_dr ∧ ok env r th Gen.ShafranovGeometry_dFy_dr ∧
    ok env r th Gen.ShafranovGeometry_dFx_dt ∧ ok env r th Gen.ShafranovGeometry_dFy_dt := by
  simp [Gen.ShafranovGeometry_Fx, Gen.ShafranovGeometry_Fy, Gen.ShafranovGeometry_dFx_dr,
    Gen.ShafranovGeometry_dFy_dr, Gen.ShafranovGeometry_dFx_dt, Gen.ShafranovGeometry_dFy_dt, ok, h]

theorem jacobian_is_derivative_Shafranov (h : env 0 ≠ 0) :
    HasDerivAt (fun x => ev env x th Gen.ShafranovGeometry_Fx) (ev env r th Gen.ShafranovGeometry_dFx_dr) r ∧
    HasDerivAt (fun x => ev env x th Gen.ShafranovGeometry_Fy) (ev env r th Gen.ShafranovGeometry_dFy_dr) r ∧
    HasDerivAt (fun y => ev env r y Gen.ShafranovGeometry_Fx) (ev env r th Gen.ShafranovGeometry_dFx_dt) th ∧
    HasDerivAt (fun y => ev env r y Gen.ShafranovGeometry_Fy) (ev env r th Gen.ShafranovGeometry_dFy_dt) th := by
  obtain ⟨ox, oy, _⟩ := ok_Shafranov (r := r) (th := th) h
  exact hasDerivAt_jacobian ox oy (jacobian_Shafranov h)

/-- `det DF = (1+κ) (r/Rmax²) (1 − κ − 2 δ (r/Rmax) cos θ)` for the Shafranov geometry -/
theorem detJ_Shafranov (u a b : Expr) :
    ev env r th (detJ ⟨u, a, b, Gen.ShafranovGeometry_Fx, Gen.ShafranovGeometry_Fy⟩) =
      (1 + env 1) * r / env 0 ^ 2 * (1 - env 1 - 2 * env 2 * (r / env 0) * Real.cos th) := by
  simp only [ev_detJ, Gen.ShafranovGeometry_Fx, Gen.ShafranovGeometry_Fy, sym_ev, sym_clean]
  linear_combination (r * (1 + env 1) * (1 - env 1) / env 0 ^ 2) * Real.cos_sq_add_sin_sq th

/-- Czarny geometry.  Needed: `Rmax ≠ 0`, the radicand `czRad = 1 + ε(ε + 2 (r/Rmax) cos θ) > 0`, `2 − √czRad ≠ 0`, and `ε ≠ 0`
(for `Fx = (1 − √czRad)/ε` only).  No condition on `e` or on `1 − ε²/4` (the factor `ξ = 1/√(1−ε²/4)` is a constant) -/
theorem jacobian_Czarny (h : env 0 ≠ 0) (he : env 1 ≠ 0) (hrad : 0 < czRad env r th)
    (h2 : 2 - Real.sqrt (czRad env r th) ≠ 0) :
    ev env r th Gen.CzarnyGeometry_dFx_dr = ev env r th (D .r Gen.CzarnyGeometry_Fx) ∧
    ev env r th Gen.CzarnyGeometry_dFy_dr = ev env r th (D .r Gen.CzarnyGeometry_Fy) ∧
    ev env r th Gen.CzarnyGeometry_dFx_dt = ev env r th (D .th Gen.CzarnyGeometry_Fx) ∧
    ev env r th Gen.CzarnyGeometry_dFy_dt = ev env r th (D .th Gen.CzarnyGeometry_Fy) := by
  have hs := (Real.sqrt_pos.mpr hrad).ne'
  simp only [Gen.CzarnyGeometry_dFx_dr, Gen.CzarnyGeometry_dFy_dr, Gen.CzarnyGeometry_dFx_dt, Gen.CzarnyGeometry_dFy_dt,
    Gen.CzarnyGeometry_Fx, Gen.CzarnyGeometry_Fy, sym_ev, sym_clean]
  generalize √(czRad env r th) = s at hs h2 ⊢
  generalize 1 / √(1 - env 1 * env 1 / 4) = xi
  have h3 : 1 + (1 - s) ≠ 0 := by intro h'; apply h2; linarith
  refine ⟨?_, ?_, ?_, ?_⟩
  · field_simp
  · field_simp; ring
  · field_simp
  · field_simp; ring

/-- side conditions of the Czarny mapping and of its hand-written Jacobian -/
theorem ok_Czarny (h : env 0 ≠ 0) (he : env 1 ≠ 0) (hxi : 0 < 1 - env 1 * env 1 / 4) (hrad : 0 < czRad env r th)
    (h2 : 2 - Real.sqrt (czRad env r th) ≠ 0) :
    ok env r th Gen.CzarnyGeometry_Fx ∧ ok env r th Gen.CzarnyGeometry_Fy ∧
    ok env r th Gen.CzarnyGeometry_dFx_dr ∧ ok env r th Gen.CzarnyGeometry_dFy_dr ∧
    ok env r th Gen.CzarnyGeometry_dFx_dt ∧ ok env r th Gen.CzarnyGeometry_dFy_dt := by
  have hs0 := Real.sqrt_pos.mpr hrad
  have hq0 := Real.sqrt_pos.mpr hxi
  have h3 : 1 + (1 - √(czRad env r th)) ≠ 0 := by
    intro h'; apply h2; linarith
  simp only [Gen.CzarnyGeometry_Fx, Gen.CzarnyGeometry_Fy, Gen.CzarnyGeometry_dFx_dr,
    Gen.CzarnyGeometry_dFy_dr, Gen.CzarnyGeometry_dFx_dt, Gen.CzarnyGeometry_dFy_dt, ok, sym_ev, true_and, and_true]
  simp only [ne_eq, mul_eq_zero, not_or, h, he, hrad, hxi, hs0.ne', hq0.ne', h2, h3, not_false_eq_true, and_self,
    OfNat.ofNat_ne_zero]

theorem jacobian_is_derivative_Czarny (h : env 0 ≠ 0) (he : env 1 ≠ 0) (hxi : 0 < 1 - env 1 * env 1 / 4)
    (hrad : 0 < czRad env r th) (h2 : 2 - Real.sqrt (czRad env r th) ≠ 0) :
    HasDerivAt (fun x => ev env x th Gen.CzarnyGeometry_Fx) (ev env r th Gen.CzarnyGeometry_dFx_dr) r ∧
    HasDerivAt (fun x => ev env x th Gen.CzarnyGeometry_Fy) (ev env r th Gen.CzarnyGeometry_dFy_dr) r ∧
    HasDerivAt (fun y => ev env r y Gen.CzarnyGeometry_Fx) (ev env r th Gen.CzarnyGeometry_dFx_dt) th ∧
    HasDerivAt (fun y => ev env r y Gen.CzarnyGeometry_Fy) (ev env r th Gen.CzarnyGeometry_dFy_dt) th := by
  obtain ⟨ox, oy, _⟩ := ok_Czarny h he hxi hrad h2
  exact hasDerivAt_jacobian ox oy (jacobian_Czarny h he hrad h2)

/-- the documented parameter range `0 < ε < 1` and `|r / Rmax| ≤ 1` (in particular `0 ≤ r ≤ Rmax`, `Sym.abs_rho_le_one`) implies all
Czarny side conditions, for every θ and every `e`: `(1-ε)² ≤ czRad ≤ (1+ε)² < 4` -/
theorem czarny_domain (he0 : 0 < env 1) (he1 : env 1 < 1) (hr : |r / env 0| ≤ 1) :
    env 1 ≠ 0 ∧ 0 < 1 - env 1 * env 1 / 4 ∧ 0 < czRad env r th ∧ 2 - Real.sqrt (czRad env r th) ≠ 0 := by
  refine ⟨he0.ne', by nlinarith, czRad_pos he0 he1 hr, ?_⟩
  have := sqrt_czRad_lt_two (th := th) he0 he1 hr
  linarith

theorem jacobian_is_derivative_Czarny_on_domain (hR : 0 < env 0) (he0 : 0 < env 1) (he1 : env 1 < 1)
    (hr0 : 0 ≤ r) (hr1 : r ≤ env 0) :
    HasDerivAt (fun x => ev env x th Gen.CzarnyGeometry_Fx) (ev env r th Gen.CzarnyGeometry_dFx_dr) r ∧
    HasDerivAt (fun x => ev env x th Gen.CzarnyGeometry_Fy) (ev env r th Gen.CzarnyGeometry_dFy_dr) r ∧
    HasDerivAt (fun y => ev env r y Gen.CzarnyGeometry_Fx) (ev env r th Gen.CzarnyGeometry_dFx_dt) th ∧
    HasDerivAt (fun y => ev env r y Gen.CzarnyGeometry_Fy) (ev env r th Gen.CzarnyGeometry_dFy_dt) th := by
  obtain ⟨a, b, c, d⟩ := czarny_domain (th := th) he0 he1 (abs_rho_le_one hR hr0 hr1)
  exact jacobian_is_derivative_Czarny hR.ne' a b c d

/-- `det DF = − e ξ (r/Rmax) / (Rmax √czRad (2 − √czRad))`, `ξ = 1/√(1−ε²/4)`, for the Czarny geometry: the mapping is
orientation reversing, and regular where `r ≠ 0`, `e ≠ 0` (`okP_Czarny`) -/
theorem detJ_Czarny (u a b : Expr) (h : env 0 ≠ 0) (he : env 1 ≠ 0) (hrad : 0 < czRad env r th)
    (h2 : 2 - Real.sqrt (czRad env r th) ≠ 0) :
    ev env r th (detJ ⟨u, a, b, Gen.CzarnyGeometry_Fx, Gen.CzarnyGeometry_Fy⟩) =
      -(env 2 * (1 / Real.sqrt (1 - env 1 * env 1 / 4)) * (r / env 0))
        / (env 0 * Real.sqrt (czRad env r th) * (2 - Real.sqrt (czRad env r th))) := by
  obtain ⟨j1, j2, j3, j4⟩ := jacobian_Czarny h he hrad h2
  rw [ev_detJ]
  simp only
  rw [← j1, ← j2, ← j3, ← j4]
  have hs := (Real.sqrt_pos.mpr hrad).ne'
  simp only [Gen.CzarnyGeometry_dFx_dr, Gen.CzarnyGeometry_dFy_dr, Gen.CzarnyGeometry_dFx_dt,
    Gen.CzarnyGeometry_dFy_dt, sym_ev]
  generalize √(czRad env r th) = s at hs h2 ⊢
  generalize 1 / √(1 - env 1 * env 1 / 4) = xi
  field_simp
  linear_combination (-(env 2 * xi * r * (2 - s) * s * env 0)) * Real.cos_sq_add_sin_sq th

/-! ## 5. the gyro-kinetic profiles: `β = 1/α` -/

theorem gyro_Zoni :
    ev env r th Gen.ZoniGyroCoefficients_alpha * ev env r th Gen.ZoniGyroCoefficients_beta = 1 := by
  simp only [Gen.ZoniGyroCoefficients_alpha, Gen.ZoniGyroCoefficients_beta, sym_ev]
  rw [← Real.exp_add, neg_add_cancel, Real.exp_zero]

theorem gyro_ZoniShifted :
    ev env r th Gen.ZoniShiftedGyroCoefficients_alpha * ev env r th Gen.ZoniShiftedGyroCoefficients_beta = 1 := by
  simp only [Gen.ZoniShiftedGyroCoefficients_alpha, Gen.ZoniShiftedGyroCoefficients_beta, sym_ev]
  rw [← Real.exp_add, neg_add_cancel, Real.exp_zero]

/-- the Sonnendrücker profile `α = 0.4530 − 0.3484 arctan(14.44 r/Rmax − 11.11)` is positive for `r/Rmax ≤ 1`
(it changes sign at `r/Rmax ≈ 1.0185`, so the hypothesis cannot be dropped): `arctan(10/3) < 1.2858 < 1.3 = 0.4530/0.3484` -/
theorem alpha_pos_Sonnendrucker (h : r / env 0 ≤ 1) :
    0 < ev env r th Gen.SonnendruckerGyroCoefficients_alpha ∧ 0 < ev env r th Gen.SonnendruckerCoefficients_alpha := by
  simp only [Gen.SonnendruckerGyroCoefficients_alpha, Gen.SonnendruckerCoefficients_alpha, sym_ev, and_self]
  have hx : 36111111111111 / 2500000000000 * (r / env 0) - 111111111111111 / 10000000000000 ≤ (10 / 3 : ℝ) := by
    linarith
  have := Real.arctan_mono hx
  have := arctan_ten_thirds_lt
  linarith

theorem gyro_Sonnendrucker (h : r / env 0 ≤ 1) :
    ev env r th Gen.SonnendruckerGyroCoefficients_alpha * ev env r th Gen.SonnendruckerGyroCoefficients_beta = 1 := by
  have hp := (alpha_pos_Sonnendrucker (th := th) h).1
  simp only [Gen.SonnendruckerGyroCoefficients_alpha, Gen.SonnendruckerGyroCoefficients_beta, sym_ev] at hp ⊢
  rw [pow_one]
  exact mul_one_div_cancel hp.ne'

/-- the Zoni profiles are positive everywhere -/
theorem alpha_pos_Zoni :
    0 < ev env r th Gen.ZoniCoefficients_alpha ∧ 0 < ev env r th Gen.ZoniGyroCoefficients_alpha ∧
    0 < ev env r th Gen.ZoniShiftedCoefficients_alpha ∧ 0 < ev env r th Gen.ZoniShiftedGyroCoefficients_alpha := by
  simp only [Gen.ZoniCoefficients_alpha, Gen.ZoniGyroCoefficients_alpha, Gen.ZoniShiftedCoefficients_alpha,
    Gen.ZoniShiftedGyroCoefficients_alpha, sym_ev]
  exact ⟨Real.exp_pos _, Real.exp_pos _, Real.exp_pos _, Real.exp_pos _⟩

/-- the gyro and non-gyro variants share the diffusion coefficient -/
theorem alpha_gyro_same :
    Gen.SonnendruckerGyroCoefficients_alpha = Gen.SonnendruckerCoefficients_alpha ∧
    Gen.ZoniGyroCoefficients_alpha = Gen.ZoniCoefficients_alpha ∧
    Gen.ZoniShiftedGyroCoefficients_alpha = Gen.ZoniShiftedCoefficients_alpha := ⟨rfl, rfl, rfl⟩

/-- side conditions of all coefficient profiles (`Rmax ≠ 0`; the Sonnendrücker gyro `β = 1/α` needs `r/Rmax ≤ 1`) -/
theorem ok_coefficients (h0 : env 0 ≠ 0) (h : r / env 0 ≤ 1) :
    ok env r th Gen.PoissonCoefficients_alpha ∧ ok env r th Gen.PoissonCoefficients_beta ∧
    ok env r th Gen.SonnendruckerCoefficients_alpha ∧ ok env r th Gen.SonnendruckerCoefficients_beta ∧
    ok env r th Gen.SonnendruckerGyroCoefficients_alpha ∧ ok env r th Gen.SonnendruckerGyroCoefficients_beta ∧
    ok env r th Gen.ZoniCoefficients_alpha ∧ ok env r th Gen.ZoniCoefficients_beta ∧
    ok env r th Gen.ZoniGyroCoefficients_alpha ∧ ok env r th Gen.ZoniGyroCoefficients_beta ∧
    ok env r th Gen.ZoniShiftedCoefficients_alpha ∧ ok env r th Gen.ZoniShiftedCoefficients_beta ∧
    ok env r th Gen.ZoniShiftedGyroCoefficients_alpha ∧ ok env r th Gen.ZoniShiftedGyroCoefficients_beta := by
  have hp := (alpha_pos_Sonnendrucker (th := th) h).1
  simp only [Gen.SonnendruckerGyroCoefficients_alpha, sym_ev] at hp
  simp only [Gen.PoissonCoefficients_alpha, Gen.PoissonCoefficients_beta, Gen.SonnendruckerCoefficients_alpha,
    Gen.SonnendruckerCoefficients_beta, Gen.SonnendruckerGyroCoefficients_alpha,
    Gen.SonnendruckerGyroCoefficients_beta, Gen.ZoniCoefficients_alpha, Gen.ZoniCoefficients_beta,
    Gen.ZoniGyroCoefficients_alpha, Gen.ZoniGyroCoefficients_beta, Gen.ZoniShiftedCoefficients_alpha,
    Gen.ZoniShiftedCoefficients_beta, Gen.ZoniShiftedGyroCoefficients_alpha, Gen.ZoniShiftedGyroCoefficients_beta,
    ok, sym_ev, pow_one, ne_eq, h0, hp.ne', not_false_eq_true, and_self]

/-! ## 6. boundary data = exact solution (as terms: the C++ formulas are literally the same) -/

theorem boundary_CartesianR2_Circular :
    Gen.CartesianR2_Boundary_CircularGeometry_u_D = Gen.CartesianR2_CircularGeometry_exact_solution ∧
    Gen.CartesianR2_Boundary_CircularGeometry_u_D_Interior = Gen.CartesianR2_CircularGeometry_exact_solution := ⟨rfl, rfl⟩

theorem boundary_CartesianR2_Czarny :
    Gen.CartesianR2_Boundary_CzarnyGeometry_u_D = Gen.CartesianR2_CzarnyGeometry_exact_solution ∧
    Gen.CartesianR2_Boundary_CzarnyGeometry_u_D_Interior = Gen.CartesianR2_CzarnyGeometry_exact_solution := ⟨rfl, rfl⟩

theorem boundary_CartesianR2_Shafranov :
    Gen.CartesianR2_Boundary_ShafranovGeometry_u_D = Gen.CartesianR2_ShafranovGeometry_exact_solution ∧
    Gen.CartesianR2_Boundary_ShafranovGeometry_u_D_Interior = Gen.CartesianR2_ShafranovGeometry_exact_solution := ⟨rfl, rfl⟩

theorem boundary_CartesianR6_Circular :
    Gen.CartesianR6_Boundary_CircularGeometry_u_D = Gen.CartesianR6_CircularGeometry_exact_solution ∧
    Gen.CartesianR6_Boundary_CircularGeometry_u_D_Interior = Gen.CartesianR6_CircularGeometry_exact_solution := ⟨rfl, rfl⟩

theorem boundary_CartesianR6_Czarny :
    Gen.CartesianR6_Boundary_CzarnyGeometry_u_D = Gen.CartesianR6_CzarnyGeometry_exact_solution ∧
    Gen.CartesianR6_Boundary_CzarnyGeometry_u_D_Interior = Gen.CartesianR6_CzarnyGeometry_exact_solution := ⟨rfl, rfl⟩

theorem boundary_CartesianR6_Shafranov :
    Gen.CartesianR6_Boundary_ShafranovGeometry_u_D = Gen.CartesianR6_ShafranovGeometry_exact_solution ∧
    Gen.CartesianR6_Boundary_ShafranovGeometry_u_D_Interior = Gen.CartesianR6_ShafranovGeometry_exact_solution := ⟨rfl, rfl⟩

theorem boundary_PolarR6_Circular :
    Gen.PolarR6_Boundary_CircularGeometry_u_D = Gen.PolarR6_CircularGeometry_exact_solution ∧
    Gen.PolarR6_Boundary_CircularGeometry_u_D_Interior = Gen.PolarR6_CircularGeometry_exact_solution := ⟨rfl, rfl⟩

theorem boundary_PolarR6_Czarny :
    Gen.PolarR6_Boundary_CzarnyGeometry_u_D = Gen.PolarR6_CzarnyGeometry_exact_solution ∧
    Gen.PolarR6_Boundary_CzarnyGeometry_u_D_Interior = Gen.PolarR6_CzarnyGeometry_exact_solution := ⟨rfl, rfl⟩

theorem boundary_PolarR6_Shafranov :
    Gen.PolarR6_Boundary_ShafranovGeometry_u_D = Gen.PolarR6_ShafranovGeometry_exact_solution ∧
    Gen.PolarR6_Boundary_ShafranovGeometry_u_D_Interior = Gen.PolarR6_ShafranovGeometry_exact_solution := ⟨rfl, rfl⟩

theorem boundary_Refined_Circular :
    Gen.Refined_Boundary_CircularGeometry_u_D = Gen.Refined_CircularGeometry_exact_solution ∧
    Gen.Refined_Boundary_CircularGeometry_u_D_Interior = Gen.Refined_CircularGeometry_exact_solution := ⟨rfl, rfl⟩

theorem boundary_Refined_Czarny :
    Gen.Refined_Boundary_CzarnyGeometry_u_D = Gen.Refined_CzarnyGeometry_exact_solution ∧
    Gen.Refined_Boundary_CzarnyGeometry_u_D_Interior = Gen.Refined_CzarnyGeometry_exact_solution := ⟨rfl, rfl⟩

theorem boundary_Refined_Shafranov :
    Gen.Refined_Boundary_ShafranovGeometry_u_D = Gen.Refined_ShafranovGeometry_exact_solution ∧
    Gen.Refined_Boundary_ShafranovGeometry_u_D_Interior = Gen.Refined_ShafranovGeometry_exact_solution := ⟨rfl, rfl⟩

/-! ## 7. the shipped exact solutions are well defined on the domain, and full problems satisfy `okP` -/

/-- every exact solution that does not go through the Czarny mapping only needs `Rmax ≠ 0` -/
theorem ok_exact_solutions (h : env 0 ≠ 0) :
    ok env r th Gen.CartesianR2_CircularGeometry_exact_solution ∧
    ok env r th Gen.CartesianR2_ShafranovGeometry_exact_solution ∧
    ok env r th Gen.CartesianR6_CircularGeometry_exact_solution ∧
    ok env r th Gen.CartesianR6_ShafranovGeometry_exact_solution ∧
    ok env r th Gen.PolarR6_CircularGeometry_exact_solution ∧
    ok env r th Gen.PolarR6_CzarnyGeometry_exact_solution ∧
    ok env r th Gen.PolarR6_ShafranovGeometry_exact_solution ∧
    ok env r th Gen.Refined_CircularGeometry_exact_solution ∧
    ok env r th Gen.Refined_CzarnyGeometry_exact_solution ∧
    ok env r th Gen.Refined_ShafranovGeometry_exact_solution := by
  simp only [Gen.CartesianR2_CircularGeometry_exact_solution, Gen.CartesianR2_ShafranovGeometry_exact_solution,
    Gen.CartesianR6_CircularGeometry_exact_solution, Gen.CartesianR6_ShafranovGeometry_exact_solution,
    Gen.PolarR6_CircularGeometry_exact_solution, Gen.PolarR6_CzarnyGeometry_exact_solution,
    Gen.PolarR6_ShafranovGeometry_exact_solution, Gen.Refined_CircularGeometry_exact_solution,
    Gen.Refined_CzarnyGeometry_exact_solution, Gen.Refined_ShafranovGeometry_exact_solution,
    ok, sym_ev, ne_eq, h, not_false_eq_true, and_self]

/-- the Cartesian solutions composed with the Czarny mapping need the Czarny side conditions -/
theorem ok_exact_solutions_Czarny (h : env 0 ≠ 0) (he : env 1 ≠ 0) (hxi : 0 < 1 - env 1 * env 1 / 4)
    (hrad : 0 < czRad env r th) (h2 : 2 - Real.sqrt (czRad env r th) ≠ 0) :
    ok env r th Gen.CartesianR2_CzarnyGeometry_exact_solution ∧
    ok env r th Gen.CartesianR6_CzarnyGeometry_exact_solution := by
  have hq0 := Real.sqrt_pos.mpr hxi
  simp only [Gen.CartesianR2_CzarnyGeometry_exact_solution, Gen.CartesianR6_CzarnyGeometry_exact_solution,
    ok, sym_ev, ne_eq, h, he, hrad, hxi, hq0.ne', h2, not_false_eq_true, and_self, OfNat.ofNat_ne_zero]

/-- a problem on the circular geometry is regular at every `r ≠ 0` -/
theorem okP_Circular {u a b : Expr} (hu : ok env r th u) (ha : ok env r th a) (hb : ok env r th b)
    (h0 : env 0 ≠ 0) (hr : r ≠ 0) :
    okP env r th ⟨u, a, b, Gen.CircularGeometry_Fx, Gen.CircularGeometry_Fy⟩ := by
  obtain ⟨ox, oy, _⟩ := ok_Circular (r := r) (th := th) h0
  refine ⟨hu, ha, hb, ox, oy, ?_⟩
  rw [detJ_Circular]
  positivity

/-- a problem on the Shafranov geometry is regular where `(1+κ) r (1 − κ − 2δ (r/Rmax) cos θ) ≠ 0`
(e.g. `|κ| < 1`, `2|δ| < 1 − κ`, `0 < r ≤ Rmax`) -/
theorem okP_Shafranov {u a b : Expr} (hu : ok env r th u) (ha : ok env r th a) (hb : ok env r th b)
    (h0 : env 0 ≠ 0) (hr : r ≠ 0) (hk : 1 + env 1 ≠ 0)
    (hd : 1 - env 1 - 2 * env 2 * (r / env 0) * Real.cos th ≠ 0) :
    okP env r th ⟨u, a, b, Gen.ShafranovGeometry_Fx, Gen.ShafranovGeometry_Fy⟩ := by
  obtain ⟨ox, oy, _⟩ := ok_Shafranov (r := r) (th := th) h0
  refine ⟨hu, ha, hb, ox, oy, ?_⟩
  rw [detJ_Shafranov]
  positivity

/-- a problem on the Czarny geometry is regular at every `r ≠ 0` when `e ≠ 0` -/
theorem okP_Czarny {u a b : Expr} (hu : ok env r th u) (ha : ok env r th a) (hb : ok env r th b)
    (h0 : env 0 ≠ 0) (hr : r ≠ 0) (hE : env 2 ≠ 0)
    (he : env 1 ≠ 0) (hxi : 0 < 1 - env 1 * env 1 / 4) (hrad : 0 < czRad env r th)
    (h2 : 2 - Real.sqrt (czRad env r th) ≠ 0) :
    okP env r th ⟨u, a, b, Gen.CzarnyGeometry_Fx, Gen.CzarnyGeometry_Fy⟩ := by
  obtain ⟨ox, oy, _⟩ := ok_Czarny h0 he hxi hrad h2
  refine ⟨hu, ha, hb, ox, oy, ?_⟩
  rw [detJ_Czarny u a b h0 he hrad h2]
  have hs0 := (Real.sqrt_pos.mpr hrad).ne'
  have hq0 := (Real.sqrt_pos.mpr hxi).ne'
  refine div_ne_zero (neg_ne_zero.mpr ?_) ?_ <;> positivity

/-! ## non-vacuity -/

/-- a full shipped problem (PolarR6 solution, Zoni gyro profile, circular geometry) satisfies `okP` at a concrete point,
so `Lu_is_pde` and `flux_spec` apply to it -/
example : okP (fun _ => 1) (1 / 2) 0
    ⟨Gen.PolarR6_CircularGeometry_exact_solution, Gen.ZoniGyroCoefficients_alpha, Gen.ZoniGyroCoefficients_beta,
      Gen.CircularGeometry_Fx, Gen.CircularGeometry_Fy⟩ :=
  okP_Circular (ok_exact_solutions (by norm_num)).2.2.2.2.1
    (ok_coefficients (by norm_num) (by norm_num)).2.2.2.2.2.2.2.2.1
    (ok_coefficients (by norm_num) (by norm_num)).2.2.2.2.2.2.2.2.2.1 (by norm_num) (by norm_num)

/-- the Czarny hypotheses hold for `Rmax = 1.3`, `ε = 0.3`, `r = Rmax`, every θ -/
example (th : ℝ) :
    let env : Nat → ℝ := fun i => if i = 0 then 1.3 else 0.3
    env 1 ≠ 0 ∧ 0 < 1 - env 1 * env 1 / 4 ∧ 0 < czRad env 1.3 th ∧ 2 - Real.sqrt (czRad env 1.3 th) ≠ 0 := by
  intro env
  exact czarny_domain (env := env) (by norm_num [env]) (by norm_num [env]) (by norm_num [env])

/-- `ok` is not trivially true: `Fx` of the Czarny geometry is rejected for `ε = 0` -/
example : ¬ ok (fun _ => 0) 1 0 Gen.CzarnyGeometry_Fx := by
  simp [Gen.CzarnyGeometry_Fx, ok]

end C19
