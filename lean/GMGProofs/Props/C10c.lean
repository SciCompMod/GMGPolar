import GMGModel.Concrete
import GMGProofs.Props.C10
import GMGProofs.Props.C06d
import GMGProofs.Props.C04c
import GMGProofs.Lemmas.ConcreteOps
/-!
# C10 (the whole cycle inside the model) — composition of the code-level models through the control-flow IR

`GMGModel/Concrete.lean` instantiates the abstract operators of `MGCycle.Ops` with the code-level models (smoothers,
residual, transfers, coarse direct solver, vector kernels).  Theorems:
* the strict association-list interpreter the driver runs computes exactly what the interpreter of the C10 theorems
  (`MGCycle.exec` over a function memory) computes;
* the capstone: on a two-level hierarchy with a Dirichlet inner boundary and elliptic data, a V-, W- or F-cycle of the
  CONCRETE model (assembled line matrices, LDLᵀ line solves, sparse LU coarse solve, bilinear transfers) started from the
  exact discrete solution returns it — C10's first clause for the code-level models, obtained by composing
  `C10.exact_fixed_exec`, `C06d.code_sweep_isSweep_dirichlet`, `C06.sweep_unique_dirichlet` and the linearity of the
  transfer and direct-solver models.
Holds the hypothesis bundle `TwoLevel`, the property theorems and the example hierarchy `exH`; helper lemmas in
`GMGProofs/Lemmas/ConcreteArr.lean`, `ConcreteOps.lean`.
-/
namespace C10c
open MGCycle Concrete Stencil

/-! ## 1  the strict interpreter is the interpreter -/

/-- reading the association-list memory after `execL` gives what `exec` gives on the function memory `d` -/
theorem execL_eq_exec {V : Type} (o : Ops V) (d : Ref → V) (p : List Instr) (r : Ref) :
    (execL o d p []).get d r = exec o p d r :=
  congrFun (execL_den o d p []) r

/-- what the driver computes is the level-0 solution of `Concrete.cycle` -/
theorem cycleL_eq_cycle {α : Type} [Scalar α] (H : Hier α) (c : Cfg) (k : Kind) (ex fgs : Bool) (d : Ref → Option (Array α)) :
    cycleL H c k ex fgs d = cycle H c k ex fgs d (0, Buf.sol) :=
  execL_eq_exec (ops H) d (cycleAt c k ex fgs 0) (0, Buf.sol)

/-! ## 2  capstone: the exact discrete solution is a fixed point of the concrete two-level cycle -/

section Ordered
variable {K : Type} [_root_.Field K] [LinearOrder K] [IsStrictOrderedRing K]

/-- admissible two-level hierarchy, Dirichlet inner boundary, elliptic data on the fine level; the `tiny` test of the sparse LU
    fires neither on 1 (identity rows) nor on the pivots of the coarse matrix.
    Satisfiable: `exH_twoLevel` below.  The fields `pairs`, `pairF`, `shape1` and the conjunct `… ≠ 0` of `coarse_ok` describe
    the hierarchy `setup()` builds; `concrete_exact_fixed` does not depend on them (zero goes to zero through every
    transfer pair and every shape, and `0 / pivot = 0`): `concrete_exact_fixed_lvl` is the statement without them. -/
structure TwoLevel (H : Hier K) (L0 L1 : LevelData K) (P : Interp.Pair K) : Prop where
  levels : H.levels = [L0, L1]
  pairs : H.pairs = [P]
  nt0 : 4 ≤ L0.op.nt
  even0 : L0.op.nt % 2 = 0
  nc0 : 2 ≤ L0.nc
  nr0 : L0.nc + 3 ≤ L0.op.nr
  bc0 : L0.op.bc = true
  ell0 : Elliptic L0.op
  pairF : P.nrF = L0.op.nr ∧ P.ntF = L0.op.nt
  shape1 : L1.op.nr = (L0.op.nr + 1) / 2 ∧ L1.op.nt = L0.op.nt / 2
  nr1 : 4 ≤ L1.op.nr
  tiny1 : H.tiny 1 = false
  tables : H.tables = C04c.genTables
  coarse_ok : ∀ M, DirectCode.assemble H.tables L1.op = some M →
    ∀ r, r < M.rows → H.tiny (SparseLU.den ((SparseLU.factorRows M).2.getD r []) r) = false ∧
                      SparseLU.den ((SparseLU.factorRows M).2.getD r []) r ≠ 0

/-- the same statement with only the hypotheses the proof uses, phrased through `lvl H 0` / `lvl H 1`: level 0 has a Dirichlet
    inner boundary, elliptic data and an admissible circle/radial split; the coarse assembly stays in bounds and the `tiny`
    test fires neither on 1 nor on a coarse pivot.  No assumption on `H.pairs`, on the shape of level 1, on further levels
    of the list, or that the coarse pivots are nonzero (zero goes to zero through every link of the chain). -/
theorem concrete_exact_fixed_lvl (H : Hier K) (k : Kind) (nu1 nu2 : Nat) (fgs : Bool) (u f : Array K)
    (hnt : 4 ≤ (lvl H 0).op.nt) (heven : (lvl H 0).op.nt % 2 = 0) (hnc : 2 ≤ (lvl H 0).nc)
    (hnr : (lvl H 0).nc + 3 ≤ (lvl H 0).op.nr) (hbc : (lvl H 0).op.bc = true) (he : Elliptic (lvl H 0).op)
    (ht1 : H.tiny 1 = false)
    (M : SparseLU.CSR K) (hM : DirectCode.assemble H.tables (lvl H 1).op = some M)
    (ht : ∀ r, r < M.rows → H.tiny (SparseLU.den ((SparseLU.factorRows M).2.getD r []) r) = false)
    (hu : u.size = (lvl H 0).op.nr * (lvl H 0).op.nt)
    (hsol : ∀ i j, i < (lvl H 0).op.nr → j < (lvl H 0).op.nt →
      take (lvl H 0).op (SmootherCode.fld (lvl H 0).op.nt f) (SmootherCode.fld (lvl H 0).op.nt u) i j = 0)
    (m : Mem (Option (Array K))) (hm : m (0, Buf.sol) = some u) (hr : m (0, Buf.rhs) = some f) :
    cycle H ⟨2, nu1, nu2⟩ k false fgs m (0, Buf.sol) = some u := by
  have E : ExactData (ops H) ⟨2, nu1, nu2⟩ 0 (m (0, Buf.sol)) (m (0, Buf.rhs)) := by
    rw [hm, hr]
    refine exactData_depth H 2 nu1 nu2 (Nat.le_refl 2) u f (fun l hl => ?_) ht1 ⟨M, hM, ht⟩ hu hsol
    obtain rfl : l = 0 := by omega
    exact ⟨hnt, heven, hnc, hnr, hbc, he⟩
  unfold cycle
  rw [C10.exact_fixed_exec (ops H) ⟨2, nu1, nu2⟩ k fgs m (Nat.le_refl 1) E, hm]

set_option linter.unusedVariables false in
/-- **the concrete cycle leaves the exact discrete solution alone** (V, W or F; any smoothing counts).
    (`hf` is not used: the model reads vectors with a default, so the size of `f` does not matter.) -/
theorem concrete_exact_fixed (H : Hier K) (L0 L1 : LevelData K) (P : Interp.Pair K) (h : TwoLevel H L0 L1 P)
    (k : Kind) (nu1 nu2 : Nat) (fgs : Bool) (u f : Array K)
    (hu : u.size = L0.op.nr * L0.op.nt) (hf : f.size = L0.op.nr * L0.op.nt)
    (hsol : ∀ i j, i < L0.op.nr → j < L0.op.nt →
      take L0.op (SmootherCode.fld L0.op.nt f) (SmootherCode.fld L0.op.nt u) i j = 0)
    (m : Mem (Option (Array K))) (hm : m (0, Buf.sol) = some u) (hr : m (0, Buf.rhs) = some f) :
    cycle H ⟨2, nu1, nu2⟩ k false fgs m (0, Buf.sol) = some u := by
  have hl0 : lvl H 0 = L0 := by unfold lvl; rw [h.levels]; rfl
  have hl1 : lvl H 1 = L1 := by unfold lvl; rw [h.levels]; rfl
  obtain ⟨M, hM⟩ : ∃ M, DirectCode.assemble H.tables (lvl H 1).op = some M := by
    rw [hl1, h.tables]; exact C04c.assemble_in_bounds L1.op h.nr1
  have ht : ∀ r, r < M.rows → H.tiny (SparseLU.den ((SparseLU.factorRows M).2.getD r []) r) = false :=
    fun r hr' => (h.coarse_ok M (by rw [← hl1]; exact hM) r hr').1
  refine concrete_exact_fixed_lvl H k nu1 nu2 fgs u f ?_ ?_ ?_ ?_ ?_ ?_ h.tiny1 M hM ht ?_ ?_ m hm hr
  all_goals rw [hl0]
  exacts [h.nt0, h.even0, h.nc0, h.nr0, h.bc0, h.ell0, hu, hsol]

end Ordered

/-! ## non-vacuity: a hierarchy over ℚ that satisfies every field of `TwoLevel`, and an exact solution that is not zero -/

/-- fine level 7 × 8 (two smoother circles), non-uniform spacings, a genuinely mixed coefficient -/
def exL0 : LevelData ℚ :=
  ⟨{ nr := 7, nt := 8, bc := true, r0 := 1 / 10, h := fun i => 1 + i, k := fun j => 1 + j,
     arr := fun i j => 1 + i + j, att := fun i j => 2 + i * j, art := fun _ _ => 1,
     det := fun i _ => 1 + i, beta := fun i => i }, 2⟩

/-- coarse level 4 × 4 -/
def exL1 : LevelData ℚ :=
  ⟨{ nr := 4, nt := 4, bc := true, r0 := 1 / 10, h := fun i => 2 + i, k := fun j => 2 + j,
     arr := fun i j => 1 + i + j, att := fun i j => 2 + i * j, art := fun _ _ => 1,
     det := fun i _ => 1 + i, beta := fun i => i }, 1⟩

def exP : Interp.Pair ℚ := ⟨7, 8, fun i => 1 + i, fun j => 1 + j, fun i => 2 + i, fun j => 2 + j⟩

/-- the `abs(pivot) < 1e-12` test, the generated offset tables -/
def exH : Hier ℚ := ⟨[exL0, exL1], [exP], C06c.exTiny, C04c.genTables⟩

/-- the coefficient functions shared by the example levels are elliptic, whatever the sizes and the (positive) spacings -/
theorem exCoeff_elliptic (nr nt : Nat) (bc : Bool) (r0 : ℚ) (h k : Nat → ℚ) (hh : ∀ i, 0 < h i) (hk : ∀ j, 0 < k j) :
    Elliptic { nr := nr, nt := nt, bc := bc, r0 := r0, h := h, k := k, arr := fun i j => 1 + i + j,
               att := fun i j => 2 + i * j, art := fun _ _ => 1, det := fun i _ => 1 + i, beta := fun i => i } where
  h_pos := fun i _ => hh i
  k_pos := fun j _ => hk j
  arr_pos := fun i j _ _ => by positivity
  att_pos := fun i j _ _ => by positivity
  art_le := fun i j _ _ => by
    have hi : (0 : ℚ) ≤ i := Nat.cast_nonneg i
    have hj : (0 : ℚ) ≤ j := Nat.cast_nonneg j
    show (1 : ℚ) ^ 2 ≤ 4 * (1 + i + j) * (2 + i * j)
    nlinarith [mul_nonneg hi hj, mul_nonneg (mul_nonneg hi hj) hi, mul_nonneg (mul_nonneg hi hj) hj]
  beta_nonneg := fun i _ => Nat.cast_nonneg i
  det_nonneg := fun i j _ _ => by positivity

theorem exL0_elliptic : Elliptic exL0.op :=
  exCoeff_elliptic 7 8 true (1 / 10) _ _ (fun i => by show (0 : ℚ) < 1 + i; positivity) (fun j => by show (0 : ℚ) < 1 + j; positivity)

/-- the coarse level carries elliptic data as well -/
theorem exL1_elliptic : Elliptic exL1.op :=
  exCoeff_elliptic 4 4 true (1 / 10) _ _ (fun i => by show (0 : ℚ) < 2 + i; positivity) (fun j => by show (0 : ℚ) < 2 + j; positivity)

theorem exTiny_one : C06c.exTiny 1 = false := by decide +kernel

/-- the 16 pivots of the coarse matrix, evaluated exactly: none is tiny, none is zero -/
theorem exH_pivots :
    (DirectCode.assemble C04c.genTables exL1.op).all (fun M => (List.range M.rows).all fun r =>
      !C06c.exTiny (SparseLU.den ((SparseLU.factorRows M).2.getD r []) r) &&
        decide (SparseLU.den ((SparseLU.factorRows M).2.getD r []) r ≠ 0)) = true := by
  decide +kernel

/-- **`TwoLevel` is satisfiable** (every field, as stated) -/
theorem exH_twoLevel : TwoLevel exH exL0 exL1 exP where
  levels := rfl
  pairs := rfl
  nt0 := by decide
  even0 := by decide
  nc0 := by decide
  nr0 := by decide
  bc0 := rfl
  ell0 := exL0_elliptic
  pairF := ⟨rfl, rfl⟩
  shape1 := ⟨by decide, by decide⟩
  nr1 := by decide
  tiny1 := exTiny_one
  tables := rfl
  coarse_ok := by
    intro M hM r hr
    have h := exH_pivots
    rw [show DirectCode.assemble C04c.genTables exL1.op = some M from hM] at h
    simp only [Option.all_some, List.all_eq_true, List.mem_range, Bool.and_eq_true, Bool.not_eq_true',
      decide_eq_true_eq] at h
    exact h r hr

/-- a field that is not zero and its right-hand side `f := A u` -/
def exU : Array ℚ := SmootherCode.ofField 7 8 fun i j => 1 + (i : ℚ) * i - 3 * j
def exF : Array ℚ := SmootherCode.ofField 7 8 (A exL0.op (SmootherCode.fld 8 exU))

theorem exU_size : exU.size = 7 * 8 := Array.size_ofFn

theorem exU_sol : ∀ i j, i < 7 → j < 8 → take exL0.op (SmootherCode.fld 8 exF) (SmootherCode.fld 8 exU) i j = 0 :=
  fun i j hi hj => take_ofField_A exL0.op 7 8 _ i j hi hj

/-- the coarse assembly stays in bounds and `tiny` fires on none of its pivots -/
theorem exL1_coarse : ∃ M, DirectCode.assemble C04c.genTables exL1.op = some M ∧
    ∀ r, r < M.rows → C06c.exTiny (SparseLU.den ((SparseLU.factorRows M).2.getD r []) r) = false := by
  obtain ⟨M, hM⟩ := C04c.assemble_in_bounds exL1.op (by decide)
  exact ⟨M, hM, fun r hr => (exH_twoLevel.coarse_ok M hM r hr).1⟩

/-- the capstone applies to it: all hypotheses of `concrete_exact_fixed` hold jointly, for a solution with non-zero entries and a
    non-zero right-hand side -/
example (k : Kind) (nu1 nu2 : Nat) (fgs : Bool) (m : Mem (Option (Array ℚ)))
    (hm : m (0, Buf.sol) = some exU) (hr : m (0, Buf.rhs) = some exF) :
    cycle exH ⟨2, nu1, nu2⟩ k false fgs m (0, Buf.sol) = some exU ∧ exU[10]? = some (-4 : ℚ) ∧ exF[10]? ≠ some 0 :=
  ⟨concrete_exact_fixed exH exL0 exL1 exP exH_twoLevel k nu1 nu2 fgs exU exF exU_size Array.size_ofFn exU_sol m hm hr,
    by decide +kernel, by decide +kernel⟩

end C10c
