import GMGProofs.Lemmas.TridiagCyclicSPD
import Mathlib.Algebra.Order.Field.Rat
import Mathlib.Tactic.NormNum
/-!
# C14 — the symmetric (cyclic) tridiagonal LDLᵀ line solver

Model: `GMGModel/Tridiag.lean` (transcribes
`include/LinearAlgebra/symmetricTridiagonalSolver.h`).  The notions the statements use
(`solveT`, `pivotsOK`, `Q`, `SPD`, `pivotsPos`, `SDD`, `gam`, `diagB`, `vdot`, `qB`, `Qc`, `SPDc`, `SDDc`) are defined in
`GMGProofs/Lemmas/Tridiag*.lean`.  All statements hold for every dimension `n`
(`n ≥ 1` plain, `n ≥ 2` cyclic) and every field `K` (ordered where positivity is mentioned).
-/
namespace C14
open Tridiag

/-! ## the second call re-uses the stored factorisation — every scalar type, no field laws -/
section AnyScalar
variable {α : Type} [Scalar α]

/-- after any solve the object is marked factorised -/
theorem factorized_monotone (s : State α) (rhs : List α) : (solve s rhs).1.factorized = true := by
  rw [solve_fst]; exact prep_factorized s

/-- a second solve (any right-hand side) leaves the stored arrays, `gamma` and flags untouched -/
theorem state_stable (s : State α) (rhs rhs' : List α) :
    (solve (solve s rhs).1 rhs').1 = (solve s rhs).1 := by
  rw [solve_fst, solve_fst, prep_of_factorized (prep_factorized s)]

/-- what a solve returns does not depend on which right-hand side the object was first used with: a later call runs only
    the substitutions, on the arrays the first call stored (cyclic and non-cyclic) -/
theorem solve_after_solve (s : State α) (rhs rhs' : List α) :
    (solve (solve s rhs).1 rhs').2 = (solve s rhs').2 := by
  rw [solve_fst, ← solve_snd]

/-- in particular solving twice with the same right-hand side gives the identical result -/
theorem resolve_identical (s : State α) (rhs : List α) :
    (solve (solve s rhs).1 rhs).2 = (solve s rhs).2 :=
  solve_after_solve s rhs rhs

/-- the code's three passes (`fwd`, `scale`, `bwd`) on the code's in-place factorisation perform
    exactly the arithmetic of the recursive elimination `solveT` -/
theorem three_pass_eq_elimination (a b y : List α) (c : α) (h1 : a.length = y.length)
    (h2 : b.length + 1 = a.length) :
    (solve (mk a b c false) y).2 = solveT a b y := by
  rw [← subst_factor_eq_solveT a b y h1 h2]
  simp [solve, mk, solvePlain]

end AnyScalar

/-! ## the plain solver is exact when no pivot vanishes -/
section Field
variable {K : Type} [Field K]

/-- `pivotsOK` is about the numbers the code stores in `main` -/
theorem pivotsOK_spec (a b : List K) (h : b.length + 1 = a.length) :
    pivotsOK a b ↔ ∀ d ∈ (factor a b).1, d ≠ 0 := pivotsOK_iff_factor a b h

theorem tridiag_solve (a b y : List K) (c : K) (h1 : a.length = y.length)
    (h2 : b.length + 1 = a.length) (hp : pivotsOK a b) :
    mulT a b (solve (mk a b c false) y).2 0 = y := by
  rw [three_pass_eq_elimination a b y c h1 h2]
  exact mulT_solveT_zero a b y h1 h2 hp

/-! ## the cyclic solver (Sherman–Morrison with `γ = -a₀`) is exact under explicit conditions -/

theorem cyclic_solve_partial (a b y : List K) (c : K) (h1 : a.length = y.length)
    (h2 : b.length + 1 = a.length) (hn : 2 ≤ a.length) (ha : a.headD 0 ≠ 0)
    (hp : pivotsOK (diagB a c) b) (hden : 1 + vdot a c (qB a b c) ≠ 0) :
    mulC a b c (solve (mk a b c true) y).2 = y := by
  have h2' : b.length + 1 = (diagB a c).length := by simpa using h2
  have h1' : (diagB a c).length = y.length := by simpa using h1
  obtain ⟨hql, hq⟩ := qB_spec a b c h2 hp
  rw [solve_mk_cyclic a b c y h2, subst_factor_eq_solveT (diagB a c) b y h1' h2']
  exact sherman_morrison a b c y _ _ h1 h2 hn ha (by rw [solveT_length _ _ _ h1' h2']; simp) hql
    (mulT_solveT_zero _ _ _ h1' h2' hp) hq hden

set_option linter.unusedVariables false in
/-- `Q_B(x) = Qc(x) + (1/a₀) (-a₀ x₀ + c x_{n-1})²` -/
theorem cyclic_B_form (a b : List K) (c : K) (x : List K) (h1 : a.length = x.length)
    (h2 : b.length + 1 = a.length) (hn : 2 ≤ a.length) (ha : a.headD 0 ≠ 0) :
    Q (diagB a c) b x
      = Qc a b c x + 1 / a.headD 0 * ((-a.headD 0 * x.headD 0 + c * x.getLastD 0) *
          (-a.headD 0 * x.headD 0 + c * x.getLastD 0)) := by
  rw [Q_diagB a b c x h1 h2 ha]
  unfold vdot gam; field_simp; ring

end Field

/-! ## SPD ⇒ positive pivots ⇒ exact solve -/
section Ordered
variable {K : Type} [Field K] [LinearOrder K] [IsStrictOrderedRing K]

theorem ldl_pivots_pos (a b : List K) (h : b.length + 1 = a.length) (spd : SPD a b) : pivotsPos a b :=
  spd_pivots a b h spd

omit [IsStrictOrderedRing K] in
theorem pivotsPos_ok : ∀ (a b : List K), pivotsPos a b → pivotsOK a b
  | [_], [], h => ne_of_gt h
  | _ :: _ :: _, _ :: _, h => ⟨ne_of_gt h.1, pivotsPos_ok _ _ h.2⟩
  | [], _, h => by simp [pivotsPos] at h
  | [_], _ :: _, h => by simp [pivotsPos] at h
  | _ :: _ :: _, [], h => by simp [pivotsPos] at h

theorem tridiag_solve_spd (a b y : List K) (c : K) (h1 : a.length = y.length)
    (h2 : b.length + 1 = a.length) (spd : SPD a b) :
    mulT a b (solve (mk a b c false) y).2 0 = y :=
  tridiag_solve a b y c h1 h2 (pivotsPos_pivotsOK a b h2 (ldl_pivots_pos a b h2 spd))

/-! ## strict diagonal dominance (with the implied positive diagonal) ⇒ SPD -/

theorem sdd_is_spd (a b : List K) (h : b.length + 1 = a.length) (sdd : SDD a b) : SPD a b :=
  sdd_spd a b h sdd

theorem tridiag_solve_sdd (a b y : List K) (c : K) (h1 : a.length = y.length)
    (h2 : b.length + 1 = a.length) (sdd : SDD a b) :
    mulT a b (solve (mk a b c false) y).2 0 = y :=
  tridiag_solve_spd a b y c h1 h2 (sdd_is_spd a b h2 sdd)

/-- cyclic version: dominance with the corner entry counted in the first and last row -/
theorem sddc_is_spdc (a b : List K) (c : K) (h : b.length + 1 = a.length) (sdd : SDDc a b c) :
    SPDc a b c := by
  intro x hx hnz
  have := sdd_spd _ b (by simpa using h) sdd x (by simpa using hx) hnz
  rw [Q_setLast_sub _ _ b x (by simpa using hx.symm) (by simpa using h),
    Q_setHead_sub _ a b x hx.symm h] at this
  have t := abs_quad c (x.headD 0) (x.getLastD 0)
  unfold Qc; linarith

/-! ## SPD cyclic matrix ⇒ `B` SPD, denominator positive, cyclic solve exact (all n ≥ 2) -/

/-- the first diagonal entry (whose negative is the code's `γ`) is positive -/
theorem cyclic_head_pos (a b : List K) (c : K) (h2 : b.length + 1 = a.length)
    (hn : 2 ≤ a.length) (spd : SPDc a b c) : 0 < a.headD 0 := spdc_head_pos a b c h2 hn spd

theorem cyclic_B_spd (a b : List K) (c : K) (h2 : b.length + 1 = a.length) (hn : 2 ≤ a.length)
    (spd : SPDc a b c) : SPD (diagB a c) b := by
  have ha := spdc_head_pos a b c h2 hn spd
  intro x hx hnz
  have hx' : a.length = x.length := by simpa using hx.symm
  rw [Q_diagB a b c x hx' h2 (ne_of_gt ha)]
  have h1 := spd x hx'.symm hnz
  have h3 : 0 ≤ a.headD 0 * (vdot a c x * vdot a c x) := mul_nonneg ha.le (mul_self_nonneg _)
  unfold gam; linarith

theorem cyclic_B_pivots (a b : List K) (c : K) (h2 : b.length + 1 = a.length) (hn : 2 ≤ a.length)
    (spd : SPDc a b c) : pivotsPos (diagB a c) b :=
  spd_pivots _ _ (by simpa using h2) (cyclic_B_spd a b c h2 hn spd)

/-- the denominator `1 + v·q` of the code's `factor`, with `q` the vector the model computes -/
theorem cyclic_denominator (a b : List K) (c : K) (h2 : b.length + 1 = a.length) (hn : 2 ≤ a.length)
    (spd : SPDc a b c) : 0 < 1 + vdot a c (qB a b c) := by
  obtain ⟨hql, hq⟩ := qB_spec a b c h2
    (pivotsPos_pivotsOK _ _ (by simpa using h2) (cyclic_B_pivots a b c h2 hn spd))
  exact denominator_pos a b c _ hql h2 hn spd hq

/-- unconditional: the cyclic solve is exact for every SPD cyclic matrix of dimension `n ≥ 2`
    (`n = 2`, where the corner coincides with the sub-diagonal, and `n = 3` included) -/
theorem cyclic_solve (a b y : List K) (c : K) (h1 : a.length = y.length)
    (h2 : b.length + 1 = a.length) (hn : 2 ≤ a.length) (spd : SPDc a b c) :
    mulC a b c (solve (mk a b c true) y).2 = y :=
  cyclic_solve_partial a b y c h1 h2 hn (ne_of_gt (spdc_head_pos a b c h2 hn spd))
    (pivotsPos_pivotsOK _ _ (by simpa using h2) (cyclic_B_pivots a b c h2 hn spd))
    (ne_of_gt (cyclic_denominator a b c h2 hn spd))

theorem cyclic_solve_sdd (a b y : List K) (c : K) (h1 : a.length = y.length)
    (h2 : b.length + 1 = a.length) (hn : 2 ≤ a.length) (sdd : SDDc a b c) :
    mulC a b c (solve (mk a b c true) y).2 = y :=
  cyclic_solve a b y c h1 h2 hn (sddc_is_spdc a b c h2 sdd)

end Ordered

/-! ## the hypotheses are satisfiable on concrete data -/

example : pivotsOK [(4 : ℚ), 4, 4] [1, 1] := by simp [pivotsOK]; norm_num
example : pivotsPos [(4 : ℚ), 4, 4] [1, 1] := by simp [pivotsPos]; norm_num
example : SDD [(4 : ℚ), 4, 4] [1, -1] := by simp [SDD, sddFrom]; norm_num
example : SPD [(4 : ℚ), 4, 4] [1, -1] := sdd_is_spd _ _ rfl (by simp [SDD, sddFrom]; norm_num)
example : mulT [(4 : ℚ), 4, 4] [1, 1] (solve (mk [(4 : ℚ), 4, 4] [1, 1] 0 false) [1, 2, 3]).2 0 = [1, 2, 3] := by
  apply tridiag_solve
  · rfl
  · rfl
  · simp [pivotsOK]; norm_num

/-- cyclic, n = 4, and the two small sizes n = 2, n = 3 -/
example : SDDc [(4 : ℚ), 4, 4, 4] [1, -1, 1] (-1) := by simp [SDDc, SDD, sddFrom, setHead, setLast]; norm_num
example : SPDc [(4 : ℚ), 4, 4, 4] [1, -1, 1] (-1) :=
  sddc_is_spdc _ _ _ rfl (by simp [SDDc, SDD, sddFrom, setHead, setLast]; norm_num)
example : SDDc [(4 : ℚ), 4, 4] [1, 1] 1 := by simp [SDDc, SDD, sddFrom, setHead, setLast]; norm_num
example : SDDc [(4 : ℚ), 5] [1] 2 := by simp [SDDc, SDD, sddFrom, setHead, setLast]; norm_num
example : mulC [(4 : ℚ), 5] [1] 2 (solve (mk [(4 : ℚ), 5] [1] 2 true) [1, 2]).2 = [1, 2] :=
  cyclic_solve_sdd _ _ _ _ rfl rfl (by decide) (by simp [SDDc, SDD, sddFrom, setHead, setLast]; norm_num)
/-- hypotheses of `cyclic_solve_partial` on an indefinite matrix (not covered by `cyclic_solve`) -/
example : pivotsOK (diagB [(1 : ℚ), -3, 2] 1) [2, 1] ∧ 1 + vdot [(1 : ℚ), -3, 2] 1 (qB [(1 : ℚ), -3, 2] [2, 1] 1) ≠ 0 := by
  constructor
  · simp [diagB, gam, setHead, setLast, pivotsOK]; norm_num
  · simp [vdot, qB, diagB, gam, setHead, setLast, factor, factorFrom, subst, fwd, fwdFrom, scale, bwd, uRhs]
    norm_num

end C14
