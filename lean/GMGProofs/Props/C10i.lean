import GMGProofs.Lemmas.InputsOK
import GMGProofs.Lemmas.BuiltHier
/-!
# From the inputs to the fixed point: the hierarchy `setup()` builds, and the whole-cycle theorems on it

`GMGModel/Build.lean` builds the hierarchy from the level grids and the input functions through the cache constructors.  Theorems:
* the caches of the chain are the fresh caches of each level (C03c `coarsen_fresh` down the chain), hence the hierarchy built through SAMPLED caches is
  the hierarchy of per-level fresh caches — for all four cache-flag pairs;
* the operator data obtained through a fresh cache equal the direct evaluation of the input functions at every node (`fresh_obtain`);
* they are elliptic in the sense the operator theorems need (`Stencil.Elliptic`) as soon as the coordinates increase, `α > 0`, `β ≥ 0`
  and `det DF ≠ 0` at the nodes;
* end to end: for grids produced by the level selection with automatic splits, a Dirichlet inner boundary and such input functions,
  the concrete V-, W-, F-cycle on the BUILT hierarchy leaves the exact discrete solution unchanged (C10h instantiated) — the
  hypotheses speak about the inputs only (and the coarse `tiny` test).
-/
namespace C10i
open MGCycle Concrete Stencil Cache Build GridGen GridGenL Grid

section AnyScalar
variable {α : Type} [Scalar α]

/-- the caches of a nested chain are the fresh caches of the levels -/
theorem caches_eq_fresh (E : Env α) (cc cg : Bool) (G0 : GridData α) (Gs : List (GridData α))
    (hchain : List.IsChain C03c.Nested (G0 :: Gs)) :
    caches E cc cg (G0 :: Gs) = (G0 :: Gs).map fun G => fresh E G cc cg :=
  Build.cachesFrom_fresh E cc cg Gs G0 hchain

/-- hence the built hierarchy is the hierarchy of per-level fresh caches -/
theorem hier_eq_fresh_levels (E : Env α) (cc cg bc : Bool) (G0 : GridData α) (Gs : List (GridData α))
    (hchain : List.IsChain C03c.Nested (G0 :: Gs)) (tiny : α → Bool) (T : DirectCode.Tables) :
    (hier E (G0 :: Gs) bc cc cg tiny T).levels = (G0 :: Gs).map fun G => ⟨opOf E G bc (fresh E G cc cg), G.g.nc⟩ :=
  hier_levels E (G0 :: Gs) bc cc cg tiny T hchain

/-- through a fresh cache (any flags) the operators obtain the direct evaluation, at every node -/
theorem opOf_fresh_eq_direct (E : Env α) (G : GridData α) (hv : G.g.Valid) (bc cc cg : Bool) (i j : Nat)
    (hi : i < G.g.nr) (hj : j < G.g.nt) :
    (opOf E G bc (fresh E G cc cg)).arr i j = (opDirect E G bc).arr i j ∧
    (opOf E G bc (fresh E G cc cg)).att i j = (opDirect E G bc).att i j ∧
    (opOf E G bc (fresh E G cc cg)).art i j = (opDirect E G bc).art i j ∧
    (opOf E G bc (fresh E G cc cg)).det i j = (opDirect E G bc).det i j ∧
    (opOf E G bc (fresh E G cc cg)).beta i = (opDirect E G bc).beta i := by
  have h := C03c.fresh_obtain E G hv cc cg i j hi hj
  have h0 := C03c.fresh_obtain E G hv cc cg i 0 hi hv.nt_pos
  simp only [opOf, opDirect, h, h0, and_self]

end AnyScalar

section Ordered
variable {K : Type} [_root_.Field K] [LinearOrder K] [IsStrictOrderedRing K]

/-- **the operator data `setup()` hands out are elliptic** -/
theorem opOf_elliptic (E : Env K) (G : GridData K) (h : InputsOK E G) (bc cc cg : Bool) :
    Elliptic (opOf E G bc (fresh E G cc cg)) := by
  obtain ⟨hv, hr, hth, ha, hb, hd, habs⟩ := h
  have hob : ∀ i j, i < G.g.nr → j < G.g.nt → obtain E G (fresh E G cc cg) i j = direct E G i j :=
    fun i j hi hj => C03c.fresh_obtain E G hv cc cg i j hi hj
  -- C03 at one node: `det DF ≠ 0` and `α > 0` make `arr`, `att` positive and `art² < 4 arr att`
  have node : ∀ i j, i < G.g.nr → j < G.g.nt →
      0 < (direct E G i j).2.2.2.1 ∧ 0 < (direct E G i j).2.2.2.2.1 ∧
        (direct E G i j).2.2.2.2.2.1 ^ 2 ≤ 4 * (direct E G i j).2.2.2.1 * (direct E G i j).2.2.2.2.1 := by
    intro i j hi hj
    have hd' := hd i j hi hj
    have hp := C03.arr_att_pos E.absF _ _ _ _ _ hd' (by rw [habs]; exact abs_pos.mpr hd') (ha i hi)
    have hs := C03.ellipticity_strict E.absF _ _ _ _ _ hd' (by rw [habs]; exact abs_mul_abs_self _) (ha i hi).ne'
    exact ⟨hp.1, hp.2, by rw [pow_two]; exact hs.le⟩
  refine ⟨fun i hi => sub_pos.mpr (hr i hi), fun j hj => sub_pos.mpr (hth j hj), fun i j hi hj => ?_, fun i j hi hj => ?_,
    fun i j hi hj => ?_, fun i hi => ?_, fun i j hi hj => ?_⟩
  · show 0 < (obtain E G (fresh E G cc cg) i j).2.2.2.1
    rw [hob i j hi hj]
    exact (node i j hi hj).1
  · show 0 < (obtain E G (fresh E G cc cg) i j).2.2.2.2.1
    rw [hob i j hi hj]
    exact (node i j hi hj).2.1
  · show (obtain E G (fresh E G cc cg) i j).2.2.2.2.2.1 ^ 2
      ≤ 4 * (obtain E G (fresh E G cc cg) i j).2.2.2.1 * (obtain E G (fresh E G cc cg) i j).2.2.2.2.1
    rw [hob i j hi hj]
    exact (node i j hi hj).2.2
  · show 0 ≤ (obtain E G (fresh E G cc cg) i 0).2.2.1
    rw [hob i 0 hi hv.nt_pos]
    exact hb i hi
  · show 0 ≤ E.absF _
    rw [habs]
    exact abs_nonneg _

/-- a level of the built hierarchy whose grid carries admissible inputs has elliptic operator data -/
theorem hier_elliptic (E : Env K) (grids : List (GridData K)) (bc cc cg : Bool) (tiny : K → Bool) (T : DirectCode.Tables)
    (hchain : List.IsChain C03c.Nested grids) (l : Nat) (hl : l < grids.length) (hin : InputsOK E grids[l]) :
    Elliptic (lvl (hier E grids bc cc cg tiny T) l).op := by
  rw [lvl_hier E grids bc cc cg tiny T hchain l hl]
  exact opOf_elliptic E _ hin bc cc cg

/-- **end to end**: inputs → hierarchy → fixed point.  `grids` are the level grids (finest first) of a finest `nr × nt` grid for which
    the level selection accepted `L` levels, nested (`C03c.Nested`: coarse nodes are the even fine nodes), with the automatic split on
    every level; Dirichlet inner boundary; admissible input functions on every level's nodes -/
theorem concrete_exact_fixed_setup (E : Env K) (grids : List (GridData K)) (cc cg : Bool) (tiny : K → Bool)
    (nr nt : Nat) (maxLevels : Int) (L : Nat) (crit : Nat → Nat → Bool)
    (hsel : chooseLevels nr nt maxLevels = .ok L) (hlen : grids.length = L)
    (hchain : List.IsChain C03c.Nested grids)
    (hshape : ∀ l (hl : l < grids.length), (grids[l]).g.nr = coarsenR l nr ∧ (grids[l]).g.nt = coarsenT l nt ∧
      (grids[l]).g.nc = Split.autoNc (crit l) (coarsenR l nr))
    (hin : ∀ G ∈ grids, InputsOK E G)
    (k : Kind) (nu1 nu2 : Nat) (fgs : Bool) (u f : Array K) (ht1 : tiny 1 = false)
    (M : SparseLU.CSR K)
    (hM : DirectCode.assemble C04c.genTables (lvl (hier E grids true cc cg tiny C04c.genTables) (L - 1)).op = some M)
    (ht : ∀ r, r < M.rows → tiny (SparseLU.den ((SparseLU.factorRows M).2.getD r []) r) = false)
    (hu : u.size = nr * nt)
    (hsol : ∀ i j, i < nr → j < nt →
      take (lvl (hier E grids true cc cg tiny C04c.genTables) 0).op (SmootherCode.fld nt f) (SmootherCode.fld nt u) i j = 0)
    (m : Mem (Option (Array K))) (hm : m (0, Buf.sol) = some u) (hr : m (0, Buf.rhs) = some f) :
    cycle (hier E grids true cc cg tiny C04c.genTables) ⟨L, nu1, nu2⟩ k false fgs m (0, Buf.sol) = some u := by
  obtain ⟨hb, hbc⟩ := hier_builtBy E grids true cc cg tiny C04c.genTables hchain hlen hshape
  have hL2 : 2 ≤ L := (chain_sizes hsel).1
  have hnr0 : (lvl (hier E grids true cc cg tiny C04c.genTables) 0).op.nr = nr := hb.shapeR 0 (by omega)
  have hnt0 : (lvl (hier E grids true cc cg tiny C04c.genTables) 0).op.nt = nt := hb.shapeT 0 (by omega)
  refine C10h.concrete_exact_fixed_built _ nr nt maxLevels L crit hsel hb
    (fun l h => ⟨hbc l (by omega), hier_elliptic E grids true cc cg tiny _ hchain l (by omega) (hin _ (List.getElem_mem _))⟩)
    k nu1 nu2 fgs u f ht1 M hM ht ?_ ?_ m hm hr
  · rw [hnr0, hnt0]; exact hu
  · rw [hnr0, hnt0]; exact hsol

end Ordered

/-! ## non-vacuity: input functions over ℚ and a two-level nested chain 9 × 16 → 5 × 8 with non-uniform coordinates -/

/-- `sin`, `cos` are parameters: the constants `3/5`, `4/5`; the mapping is the polar one, `DF = [[c, −r s], [s, r c]]`,
    `det DF = r (c² + s²) = r`; `α(r) = 1 + r`, `β = 1` -/
def exEnv : Env ℚ :=
  { sinF := fun _ => 3 / 5, cosF := fun _ => 4 / 5, alpha := fun r => 1 + r, beta := fun _ => 1,
    jac := fun r _ s c => (c, s, -(r * s), r * c), absF := fun x => |x| }

/-- non-uniform node coordinates of the finest grid -/
def exR (i : Nat) : ℚ := (1 + i + (i : ℚ) * i) / 10
def exTh (j : Nat) : ℚ := (20 * j + (j : ℚ) * j) / 100

/-- split criterion: first true at circle 4 on level 0, never true on level 1 -/
def exCrit : Nat → Nat → Bool := fun l i => decide (l = 0 ∧ 4 ≤ i)

def exG0 : GridData ℚ := ⟨⟨9, 16, Split.autoNc (exCrit 0) 9, true⟩, exR, exTh⟩
def exG1 : GridData ℚ := ⟨⟨5, 8, Split.autoNc (exCrit 1) 5, true⟩, fun i => exR (2 * i), fun j => exTh (2 * j)⟩

/-- shapes and splits: 9 × 16 with `nc = 4`, 5 × 8 with `nc = 2` -/
example : (exG0.g.nr, exG0.g.nt, exG0.g.nc, exG1.g.nr, exG1.g.nt, exG1.g.nc) = (9, 16, 4, 5, 8, 2) := by decide

theorem exG0_valid : exG0.g.Valid := ⟨by decide, by decide, by decide, by decide⟩
theorem exG1_valid : exG1.g.Valid := ⟨by decide, by decide, by decide, by decide⟩

theorem exR_pos (i : Nat) : 0 < exR i := by unfold exR; positivity
theorem exR_inc (i : Nat) : exR i < exR (i + 1) := by
  unfold exR
  have : (0 : ℚ) ≤ i := Nat.cast_nonneg i
  push_cast
  nlinarith
theorem exTh_inc (j : Nat) : exTh j < exTh (j + 1) := by
  unfold exTh
  have : (0 : ℚ) ≤ j := Nat.cast_nonneg j
  push_cast
  nlinarith
theorem exR_inc2 (i : Nat) : exR (2 * i) < exR (2 * (i + 1)) :=
  lt_trans (exR_inc (2 * i)) (exR_inc (2 * i + 1))
theorem exTh_inc2 (j : Nat) : exTh (2 * j) < exTh (2 * (j + 1)) :=
  lt_trans (exTh_inc (2 * j)) (exTh_inc (2 * j + 1))

theorem exEnv_det (r th : ℚ) :
    let J := exEnv.jac r th (exEnv.sinF th) (exEnv.cosF th)
    J.1 * J.2.2.2 - J.2.2.1 * J.2.1 = r := by
  show (4 / 5 : ℚ) * (r * (4 / 5)) - -(r * (3 / 5)) * (3 / 5) = r
  ring

/-- **`InputsOK` is satisfiable**: every valid grid with positive increasing radii and increasing angles carries admissible inputs of
    `exEnv` -/
theorem exEnv_ok (G : GridData ℚ) (hv : G.g.Valid) (hpos : ∀ i, 0 < G.radius i) (hr : ∀ i, G.radius i < G.radius (i + 1))
    (hth : ∀ j, G.theta j < G.theta (j + 1)) : InputsOK exEnv G where
  valid := hv
  radius_inc := fun i _ => hr i
  theta_inc := fun j _ => hth j
  alpha_pos := fun i _ => add_pos one_pos (hpos i)
  beta_nonneg := fun _ _ => zero_le_one
  det_ne := fun i j _ _ => by
    show _ ≠ (0 : ℚ)
    rw [exEnv_det]
    exact (hpos i).ne'
  abs_is := fun _ => rfl

theorem exG0_ok : InputsOK exEnv exG0 := exEnv_ok exG0 exG0_valid exR_pos exR_inc exTh_inc
theorem exG1_ok : InputsOK exEnv exG1 := exEnv_ok exG1 exG1_valid (fun i => exR_pos (2 * i)) exR_inc2 exTh_inc2

theorem ex_chain : List.IsChain C03c.Nested [exG0, exG1] := by
  rw [List.isChain_cons_cons]
  exact ⟨⟨exG0_valid, exG1_valid, rfl, rfl, fun _ _ => rfl, fun _ _ => rfl⟩, List.isChain_singleton _⟩

theorem ex_shape : ∀ l (hl : l < [exG0, exG1].length), ([exG0, exG1][l]).g.nr = coarsenR l 9 ∧
    ([exG0, exG1][l]).g.nt = coarsenT l 16 ∧ ([exG0, exG1][l]).g.nc = Split.autoNc (exCrit l) (coarsenR l 9) := by
  intro l hl
  have hl' : l < 2 := hl
  rcases (by omega : l = 0 ∨ l = 1) with rfl | rfl <;> exact ⟨rfl, rfl, rfl⟩

theorem ex_in : ∀ G ∈ [exG0, exG1], InputsOK exEnv G := by
  simp only [List.forall_mem_cons, exG0_ok, exG1_ok, List.not_mem_nil, false_imp_iff, implies_true, and_self]

/-- the operator data of the built hierarchy are elliptic on both levels, for all four cache-flag pairs -/
example (bc cc cg : Bool) : Elliptic (opOf exEnv exG0 bc (fresh exEnv exG0 cc cg)) ∧
    Elliptic (opOf exEnv exG1 bc (fresh exEnv exG1 cc cg)) :=
  ⟨opOf_elliptic exEnv exG0 exG0_ok bc cc cg, opOf_elliptic exEnv exG1 exG1_ok bc cc cg⟩

/-- and the built hierarchy is the hierarchy of per-level fresh caches -/
example (cc cg : Bool) : (hier exEnv [exG0, exG1] true cc cg C06c.exTiny C04c.genTables).levels =
    [⟨opOf exEnv exG0 true (fresh exEnv exG0 cc cg), 4⟩, ⟨opOf exEnv exG1 true (fresh exEnv exG1 cc cg), 2⟩] :=
  hier_levels exEnv _ true cc cg C06c.exTiny C04c.genTables ex_chain

/-- the hierarchy `setup()` builds from these inputs, both caches on -/
def exH : Hier ℚ := hier exEnv [exG0, exG1] true true true C06c.exTiny C04c.genTables

theorem exH_lvl1 : (lvl exH 1).op = opOf exEnv exG1 true (fresh exEnv exG1 true true) :=
  congrArg (·.op) (lvl_hier exEnv [exG0, exG1] true true true C06c.exTiny C04c.genTables ex_chain 1 (by decide))

/-- the 40 pivots of the coarse (5 × 8) matrix assembled from the cached data, evaluated exactly: none is tiny -/
theorem ex_pivots :
    (DirectCode.assemble C04c.genTables (opOf exEnv exG1 true (fresh exEnv exG1 true true))).all (fun M =>
      (List.range M.rows).all fun r => !C06c.exTiny (SparseLU.den ((SparseLU.factorRows M).2.getD r []) r)) = true := by
  decide +kernel

theorem ex_ht (M : SparseLU.CSR ℚ) (hM : DirectCode.assemble C04c.genTables (lvl exH 1).op = some M) :
    ∀ r, r < M.rows → C06c.exTiny (SparseLU.den ((SparseLU.factorRows M).2.getD r []) r) = false :=
  pivots_not_tiny _ _ _ ex_pivots M (exH_lvl1 ▸ hM)

/-- a field that is not zero and its right-hand side `f := A u` on the 9 × 16 level of the built hierarchy -/
def exU : Array ℚ := SmootherCode.ofField 9 16 fun i j => 1 + (i : ℚ) * i - 3 * j
def exF : Array ℚ := SmootherCode.ofField 9 16 (A (lvl exH 0).op (SmootherCode.fld 16 exU))

/-- **`concrete_exact_fixed_setup` applies**: all hypotheses hold jointly, for a solution that is not zero -/
example (k : Kind) (nu1 nu2 : Nat) (fgs : Bool) (m : Mem (Option (Array ℚ)))
    (hm : m (0, Buf.sol) = some exU) (hr : m (0, Buf.rhs) = some exF) :
    cycle exH ⟨2, nu1, nu2⟩ k false fgs m (0, Buf.sol) = some exU ∧ SmootherCode.fld 16 exU 0 10 = -29 := by
  obtain ⟨M, hM⟩ := C04c.assemble_in_bounds (lvl exH 1).op (by decide)
  refine ⟨concrete_exact_fixed_setup exEnv [exG0, exG1] true true C06c.exTiny 9 16 (-1) 2 exCrit rfl rfl ex_chain ex_shape ex_in
    k nu1 nu2 fgs exU exF C10c.exTiny_one M hM (ex_ht M hM) Array.size_ofFn (take_ofField_A _ 9 16 _) m hm hr, ?_⟩
  rw [exU, SmootherCode.fld_ofField 9 16 _ 0 10 (by decide) (by decide)]
  norm_num

end C10i
